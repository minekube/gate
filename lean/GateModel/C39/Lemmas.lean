import GateModel.C39.Spec
/-
C39 — helper lemmas: Base64 round trip and alphabet separation, split/join, decimal round trip, the
anatomy of the blob `Encrypt` writes, both reading directions on it, and what acceptance implies.
-/
deriving instance DecidableEq for Except

namespace Gate.C39
open Gate

theorem decChar_encChar : ∀ n, n < 64 → decChar (encChar n) = some n := by decide +kernel

/-- characters that may appear in an encoding: alphabet or `=` — in particular none of NUL, LF, CR, `!`, `:` -/
def safeChar (c : UInt8) : Prop := c ≠ 0 ∧ c ≠ 10 ∧ c ≠ 13 ∧ c ≠ 33 ∧ c ≠ 58

theorem pad_safeChar : safeChar pad := by unfold safeChar pad; decide

theorem encChar_safe : ∀ n, n < 64 → safeChar (encChar n) ∧ encChar n ≠ pad := by
  unfold safeChar pad
  decide +kernel

/-- indices past the alphabet print as `/`, so no bound is needed -/
theorem encChar_safeChar (n : Nat) : safeChar (encChar n) := by
  by_cases h : n < 64
  · exact (encChar_safe n h).1
  · have e : encChar n = 47 := by
      unfold encChar
      rw [if_neg (by omega), if_neg (by omega), if_neg (by omega), if_neg (by omega)]
    rw [e]
    unfold safeChar
    decide

theorem encChar_ne_pad (n : Nat) (h : n < 64) : encChar n ≠ pad := (encChar_safe n h).2

theorem b64Encode_safe : ∀ (bs : Bytes), ∀ c ∈ b64Encode bs, safeChar c
  | a :: b :: c :: r => by
    rw [b64Encode]
    simp only [List.forall_mem_cons]
    exact ⟨encChar_safeChar _, encChar_safeChar _, encChar_safeChar _, encChar_safeChar _, b64Encode_safe r⟩
  | [a, b] => by
    rw [b64Encode]
    simp only [List.forall_mem_cons]
    exact ⟨encChar_safeChar _, encChar_safeChar _, encChar_safeChar _, pad_safeChar, nofun⟩
  | [a] => by
    rw [b64Encode]
    simp only [List.forall_mem_cons]
    exact ⟨encChar_safeChar _, encChar_safeChar _, pad_safeChar, pad_safeChar, nofun⟩
  | [] => nofun

theorem b64Encode_length : ∀ (bs : Bytes), (b64Encode bs).length = 4 * ((bs.length + 2) / 3)
  | a :: b :: c :: r => by
    rw [b64Encode]
    simp only [List.length_cons, b64Encode_length r]
    omega
  | [_, _] | [_] | [] => by simp [b64Encode]

theorem decodeQuanta_full {x y z w : Nat} (hx : x < 64) (hy : y < 64) (hz : z < 64) (hw : w < 64) (r : Bytes) :
    decodeQuanta (encChar x :: encChar y :: encChar z :: encChar w :: r) =
      (decodeQuanta r).map fun t =>
        UInt8.ofNat (x * 4 + y / 16) :: UInt8.ofNat (y % 16 * 16 + z / 4) :: UInt8.ofNat (z % 4 * 64 + w) :: t := by
  rw [decodeQuanta]
  simp only [decChar_encChar _ hx, decChar_encChar _ hy, decChar_encChar _ hz, decChar_encChar _ hw,
    if_neg (encChar_ne_pad _ hz), if_neg (encChar_ne_pad _ hw)]
  cases decodeQuanta r <;> rfl

theorem decodeQuanta_pad1 {x y z : Nat} (hx : x < 64) (hy : y < 64) (hz : z < 64) :
    decodeQuanta [encChar x, encChar y, encChar z, pad] =
      some [UInt8.ofNat (x * 4 + y / 16), UInt8.ofNat (y % 16 * 16 + z / 4)] := by
  rw [decodeQuanta]
  simp only [decChar_encChar _ hx, decChar_encChar _ hy, decChar_encChar _ hz, if_neg (encChar_ne_pad _ hz), if_true]

theorem decodeQuanta_pad2 {x y : Nat} (hx : x < 64) (hy : y < 64) :
    decodeQuanta [encChar x, encChar y, pad, pad] = some [UInt8.ofNat (x * 4 + y / 16)] := by
  rw [decodeQuanta]
  simp only [decChar_encChar _ hx, decChar_encChar _ hy, if_true, and_self]

/-- the four sextets of a 24-bit group regroup into its three octets; likewise for the padded groups below -/
theorem sextets3 {a b c n : Nat} (ha : a < 256) (hb : b < 256) (hc : c < 256) (hn : n = a * 65536 + b * 256 + c) :
    n / 262144 < 64 ∧ n / 262144 * 4 + n / 4096 % 64 / 16 = a ∧ n / 4096 % 64 % 16 * 16 + n / 64 % 64 / 4 = b ∧
      n / 64 % 64 % 4 * 64 + n % 64 = c := by
  omega

theorem sextets2 {a b n : Nat} (ha : a < 256) (hb : b < 256) (hn : n = a * 1024 + b * 4) :
    n / 4096 < 64 ∧ n / 4096 * 4 + n / 64 % 64 / 16 = a ∧ n / 64 % 64 % 16 * 16 + n % 64 / 4 = b := by
  omega

theorem sextets1 {a n : Nat} (ha : a < 256) (hn : n = a * 16) : n / 64 < 64 ∧ n / 64 * 4 + n % 64 / 16 = a := by
  omega

/-- decoding an encoding gives the bytes back (quantum level, no CR/LF involved) -/
theorem decodeQuanta_encode : ∀ (bs : Bytes), decodeQuanta (b64Encode bs) = some bs
  | a :: b :: c :: r => by
    obtain ⟨hx, ea, eb, ec⟩ := sextets3 a.toNat_lt b.toNat_lt c.toNat_lt rfl
    have hm (k : Nat) : k % 64 < 64 := Nat.mod_lt k (by decide)
    rw [b64Encode, decodeQuanta_full hx (hm _) (hm _) (hm _), decodeQuanta_encode r, Option.map_some, ea, eb, ec,
      UInt8.ofNat_toNat, UInt8.ofNat_toNat, UInt8.ofNat_toNat]
  | [a, b] => by
    obtain ⟨hx, ea, eb⟩ := sextets2 a.toNat_lt b.toNat_lt rfl
    have hm (k : Nat) : k % 64 < 64 := Nat.mod_lt k (by decide)
    rw [b64Encode, decodeQuanta_pad1 hx (hm _) (hm _), ea, eb, UInt8.ofNat_toNat, UInt8.ofNat_toNat]
  | [a] => by
    obtain ⟨hx, ea⟩ := sextets1 a.toNat_lt rfl
    rw [b64Encode, decodeQuanta_pad2 hx (Nat.mod_lt _ (by decide)), ea, UInt8.ofNat_toNat]
  | [] => rfl

theorem filter_id_of_safe (s : Bytes) (h : ∀ c ∈ s, safeChar c) :
    s.filter (fun c => c != 10 && c != 13) = s := by
  apply List.filter_eq_self.2
  intro c hc
  have := h c hc
  simp [this.2.1, this.2.2.1]

/-- `DecodeString(EncodeToString(b)) = b` -/
theorem b64_roundtrip (bs : Bytes) : b64Decode (b64Encode bs) = some bs := by
  unfold b64Decode
  rw [filter_id_of_safe _ (b64Encode_safe bs)]
  exact decodeQuanta_encode bs

/-- Java's basic decoder differs from Go's quantum loop only in accepting a final quantum of two or
    three characters without padding: on whole quanta the two agree -/
theorem javaQuanta_eq_decodeQuanta : ∀ s : Bytes, s.length % 4 = 0 → javaQuanta s = decodeQuanta s
  | [], _ => rfl
  | [_], h | [_, _], h | [_, _, _], h => by simp at h
  | a :: b :: c :: d :: r, h => by
    have hr : r.length % 4 = 0 := by
      rw [List.length_cons, List.length_cons, List.length_cons, List.length_cons] at h
      omega
    rw [javaQuanta, decodeQuanta, javaQuanta_eq_decodeQuanta r hr]
    rfl

theorem javaQuanta_encode (bs : Bytes) : javaQuanta (b64Encode bs) = some bs := by
  rw [javaQuanta_eq_decodeQuanta _ (by rw [b64Encode_length]; omega), decodeQuanta_encode]

theorem splitOn_ne_nil (sep : UInt8) : ∀ (s : Bytes), splitOn sep s ≠ [] := by
  intro s
  cases s with
  | nil => simp [splitOn]
  | cons b r =>
    unfold splitOn
    split
    · simp
    · split <;> simp

theorem splitOn_nosep (sep : UInt8) : ∀ (x : Bytes), sep ∉ x → splitOn sep x = [x]
  | [], _ => rfl
  | b :: r, h => by
    rw [splitOn, if_neg (List.ne_of_not_mem_cons h).symm, splitOn_nosep sep r (List.not_mem_of_not_mem_cons h)]

theorem splitOn_append_sep (sep : UInt8) (rest : Bytes) : ∀ (x : Bytes), sep ∉ x →
    splitOn sep (x ++ sep :: rest) = x :: splitOn sep rest
  | [], _ => by rw [List.nil_append, splitOn, if_pos rfl]
  | b :: r, h => by
    rw [List.cons_append, splitOn, if_neg (List.ne_of_not_mem_cons h).symm,
      splitOn_append_sep sep rest r (List.not_mem_of_not_mem_cons h)]

theorem splitOn_join (sep : UInt8) : ∀ (xs : List Bytes), xs ≠ [] → (∀ x ∈ xs, sep ∉ x) →
    splitOn sep (join sep xs) = xs
  | [], h, _ => absurd rfl h
  | [x], _, hx => splitOn_nosep sep x (hx x (List.mem_singleton_self x))
  | x :: y :: r, _, hx => by
    rw [join, splitOn_append_sep sep _ x (hx x List.mem_cons_self),
      splitOn_join sep (y :: r) (List.cons_ne_nil _ _) fun z hz => hx z (List.mem_cons_of_mem _ hz)]

theorem cutAt_nosep (sep : UInt8) : ∀ (x : Bytes), sep ∉ x → cutAt sep x = none
  | [], _ => rfl
  | b :: r, h => by
    rw [cutAt, if_neg (List.ne_of_not_mem_cons h).symm, cutAt_nosep sep r (List.not_mem_of_not_mem_cons h)]

theorem cutAt_append_sep (sep : UInt8) (rest : Bytes) : ∀ (x : Bytes), sep ∉ x →
    cutAt sep (x ++ sep :: rest) = some (x, rest)
  | [], _ => by rw [List.nil_append, cutAt, if_pos rfl]
  | b :: r, h => by
    rw [List.cons_append, cutAt, if_neg (List.ne_of_not_mem_cons h).symm,
      cutAt_append_sep sep rest r (List.not_mem_of_not_mem_cons h)]

theorem isPrefix_append : ∀ (p s : Bytes), isPrefix p (p ++ s) = true := by
  intro p
  induction p with
  | nil => intro s; rfl
  | cons a r ih => intro s; simp [isPrefix, ih]

def isDigit (c : UInt8) : Prop := 48 ≤ c.toNat ∧ c.toNat ≤ 57

theorem digit_toNat {d : Nat} (h : d < 10) : (UInt8.ofNat (48 + d)).toNat = 48 + d := by
  rw [UInt8.toNat_ofNat']
  omega

theorem isDigit_digit {d : Nat} (h : d < 10) : isDigit (UInt8.ofNat (48 + d)) := by
  unfold isDigit
  rw [digit_toNat h]
  omega

theorem parseDigits_digit (a : Nat) {d : Nat} (h : d < 10) (r : Bytes) :
    parseDigits a (UInt8.ofNat (48 + d) :: r) = parseDigits (a * 10 + d) r := by
  rw [parseDigits, digit_toNat h, if_pos (by omega), Nat.add_sub_cancel_left]

/-- `showNatAux` writes a non-empty block of digits in front of `tail`, and `parseDigits` reads it back -/
theorem showNatAux_spec : ∀ (fuel n : Nat) (tail : Bytes), n < fuel →
    ∃ ds : Bytes, ds ≠ [] ∧ (∀ c ∈ ds, isDigit c) ∧ showNatAux fuel n tail = ds ++ tail ∧
      ∀ a rest, parseDigits a (ds ++ rest) = parseDigits (a * 10 ^ ds.length + n) rest
  | 0, _, _, h => absurd h (Nat.not_lt_zero _)
  | f + 1, n, tail, hn => by
    have hd : n % 10 < 10 := Nat.mod_lt n (by decide)
    by_cases h10 : n < 10
    · refine ⟨[UInt8.ofNat (48 + n % 10)], List.cons_ne_nil _ _, ?_, ?_, ?_⟩
      · intro c hc
        rw [List.mem_singleton.1 hc]
        exact isDigit_digit hd
      · rw [showNatAux, if_pos h10]
        rfl
      · intro a rest
        rw [List.singleton_append, parseDigits_digit a hd, Nat.mod_eq_of_lt h10]
        rfl
    · obtain ⟨ds, _, hdig, hshow, hparse⟩ := showNatAux_spec f (n / 10) (UInt8.ofNat (48 + n % 10) :: tail) (by omega)
      refine ⟨ds ++ [UInt8.ofNat (48 + n % 10)], List.append_ne_nil_of_right_ne_nil _ (List.cons_ne_nil _ _), ?_, ?_, ?_⟩
      · intro c hc
        rcases List.mem_append.1 hc with hc | hc
        · exact hdig c hc
        · rw [List.mem_singleton.1 hc]
          exact isDigit_digit hd
      · rw [showNatAux, if_neg h10, hshow, List.append_assoc]
        rfl
      · intro a rest
        rw [List.append_assoc, hparse, List.singleton_append, parseDigits_digit _ hd, List.length_append,
          List.length_singleton, Nat.pow_succ, ← Nat.mul_assoc, Nat.add_mul, Nat.add_assoc, Nat.div_add_mod']

theorem showNat_spec (n : Nat) : ∃ ds : Bytes, ds ≠ [] ∧ (∀ c ∈ ds, isDigit c) ∧ showNat n = ds ∧ parseDigits 0 ds = some n := by
  obtain ⟨ds, hne, hdig, hshow, hparse⟩ := showNatAux_spec (n + 1) n [] (Nat.lt_succ_self _)
  refine ⟨ds, hne, hdig, by simpa [showNat] using hshow, ?_⟩
  have := hparse 0 []
  simpa [parseDigits] using this

theorem showInt_chars (i : Int) : ∀ c ∈ showInt i, c = 45 ∨ isDigit c := by
  intro c hc
  unfold showInt at hc
  split at hc
  · obtain ⟨ds, _, hdig, hshow, _⟩ := showNat_spec i.natAbs
    rw [hshow] at hc
    rcases List.mem_cons.1 hc with h | h
    · exact Or.inl h
    · exact Or.inr (hdig c h)
  · obtain ⟨ds, _, hdig, hshow, _⟩ := showNat_spec i.toNat
    rw [hshow] at hc
    exact Or.inr (hdig c hc)

theorem showInt_noNul (i : Int) : (0 : UInt8) ∉ showInt i := by
  intro h
  rcases showInt_chars i 0 h with h | h
  · exact absurd h (by decide)
  · unfold isDigit at h; simp at h

theorem parseSigned_showInt (lim : Nat) (i : Int) (h1 : -(lim : Int) ≤ i) (h2 : i < (lim : Int)) :
    parseSigned lim (showInt i) = some i := by
  unfold showInt
  by_cases hneg : i < 0
  · rw [if_pos hneg]
    obtain ⟨ds, hne, hdig, hshow, hparse⟩ := showNat_spec i.natAbs
    rw [hshow]
    have hemp := List.isEmpty_eq_false_iff.2 hne
    have hle : ¬ (i.natAbs > lim) := by omega
    simp only [parseSigned, (by decide : ¬ ((45 : UInt8) = 43)), if_false, if_true, hemp, hparse, Bool.false_eq_true, hle]
    congr 1; omega
  · rw [if_neg hneg]
    obtain ⟨ds, hne, hdig, hshow, hparse⟩ := showNat_spec i.toNat
    rw [hshow]
    cases ds with
    | nil => exact absurd rfl hne
    | cons c r =>
      have hc := hdig c (by simp)
      unfold isDigit at hc
      have c43 : ¬ (c = 43) := by intro e; subst e; simp at hc
      have c45 : ¬ (c = 45) := by intro e; subst e; simp at hc
      have hlt : ¬ (i.toNat ≥ lim) := by omega
      simp only [parseSigned, c43, c45, if_false, List.isEmpty_cons, hparse, Bool.false_eq_true, hlt]
      congr 1; omega

theorem parseInt64_showInt (i : Int) (h1 : -(2 ^ 63 : Nat) ≤ i) (h2 : i < (2 ^ 63 : Nat)) :
    parseInt64 (showInt i) = some i := parseSigned_showInt _ i h1 h2
theorem javaParseInt_showInt (i : Int) (h1 : -(2 ^ 31 : Nat) ≤ i) (h2 : i < (2 ^ 31 : Nat)) :
    javaParseInt (showInt i) = some i := parseSigned_showInt _ i h1 h2

theorem header_bytes : header = [94, 70, 108, 111, 111, 100, 103, 97, 116, 101, 94, 62] := by decide +kernel
theorem fgHeader_bytes : fgHeader = [94, 70, 108, 111, 111, 100, 103, 97, 116, 101, 94, 62] := by decide +kernel
theorem fgIdentifier_bytes : fgIdentifier = [94, 70, 108, 111, 111, 100, 103, 97, 116, 101, 94] := by decide +kernel
theorem header_eq : header = fgHeader := by rw [header_bytes, fgHeader_bytes]
theorem header_length : header.length = 12 := by rw [header_bytes]; rfl
theorem splitter_eq : splitter = 33 := by decide +kernel
theorem ivLength_eq : ivLength = 12 := by decide +kernel
theorem header_chars : ∀ c ∈ header, c ≠ 0 ∧ c ≠ 58 := by rw [header_bytes]; decide

theorem splitter_not_mem_b64 (bs : Bytes) : splitter ∉ b64Encode bs :=
  fun h => (b64Encode_safe bs _ h).2.2.2.1 splitter_eq

/-- the encrypted blob is `header ‖ b64(iv) ‖ '!' ‖ b64(ct)` -/
theorem encrypt_shape (sealF : Bytes → Bytes → Bytes) (iv p : Bytes) :
    encrypt sealF iv p = header ++ (b64Encode iv ++ splitter :: b64Encode (sealF iv p)) := by
  simp [encrypt]

/-- … and contains neither NUL nor ':' -/
theorem encrypt_noNul_noColon (sealF : Bytes → Bytes → Bytes) (iv p : Bytes) :
    (0 : UInt8) ∉ encrypt sealF iv p ∧ (58 : UInt8) ∉ encrypt sealF iv p := by
  have hb (bs : Bytes) : ∀ c ∈ b64Encode bs, c ≠ 0 ∧ c ≠ 58 :=
    fun c h => ⟨(b64Encode_safe bs c h).1, (b64Encode_safe bs c h).2.2.2.2⟩
  have key : ∀ c ∈ encrypt sealF iv p, c ≠ 0 ∧ c ≠ 58 := by
    rw [encrypt_shape, splitter_eq]
    simp only [List.forall_mem_append, List.forall_mem_cons]
    exact ⟨header_chars, hb iv, by decide, hb _⟩
  exact ⟨fun h => (key 0 h).1 rfl, fun h => (key 58 h).2 rfl⟩

theorem encrypt_length (sealF : Bytes → Bytes → Bytes) (iv p : Bytes) (hiv : iv.length = 12) :
    (encrypt sealF iv p).length = 29 + (b64Encode (sealF iv p)).length := by
  rw [encrypt_shape]
  simp only [List.length_append, List.length_cons, b64Encode_length iv, hiv, header_length]
  omega

theorem isPrefix_header_encrypt (sealF : Bytes → Bytes → Bytes) (iv p : Bytes) :
    isPrefix header (encrypt sealF iv p) = true := by
  rw [encrypt_shape]
  exact isPrefix_append _ _

/-- the first splitter after the header is the real one: the alphabet does not contain it -/
theorem cutAt_encrypt (sealF : Bytes → Bytes → Bytes) (iv p : Bytes) :
    cutAt splitter ((encrypt sealF iv p).drop header.length) = some (b64Encode iv, b64Encode (sealF iv p)) := by
  rw [encrypt_shape, List.drop_left]
  exact cutAt_append_sep _ _ _ (splitter_not_mem_b64 iv)

/-- `Decrypt(Encrypt(p))` for a 12-byte IV reaches the AEAD with exactly `(iv, seal iv p)` -/
theorem decrypt_encrypt_gen (chk : Bool) (sealF : Bytes → Bytes → Bytes) (opn : Bytes → Bytes → Option Bytes)
    (iv p : Bytes) (hiv : iv.length = 12) :
    decryptV chk opn (encrypt sealF iv p) =
      match opn iv (sealF iv p) with | none => .error .open | some q => .ok q := by
  have hlen : ¬ ((encrypt sealF iv p).length < header.length + ivLength + 1) := by
    rw [encrypt_length sealF iv p hiv, header_length, ivLength_eq]
    omega
  have hnonce : ¬ (iv.length ≠ ivLength) := by rw [hiv, ivLength_eq]; simp
  unfold decryptV
  rw [if_neg hlen]
  simp only [isPrefix_header_encrypt, Bool.not_true, Bool.false_eq_true, if_false, cutAt_encrypt, b64_roundtrip]
  rw [if_neg hnonce]
  rfl

/-- the blob written by `Encrypt` exposes exactly the IV it was sealed with -/
theorem ivOf_encrypt (sealF : Bytes → Bytes → Bytes) (iv p : Bytes) : ivOf (encrypt sealF iv p) = some iv := by
  unfold ivOf
  rw [cutAt_encrypt]
  exact b64_roundtrip iv

theorem boolString_noNul (b : Bool) : (0 : UInt8) ∉ boolString b := by cases b <;> simp [boolString]

theorem readBedrockData_fgToString (host : Bytes) (d : FgData) (x : Int) (h : WfFg host d x) :
    readBedrockData (fgToString d) = .ok (ofFg d x) := by
  have hsplit : splitOn 0 (fgToString d) =
      [d.version, d.username, d.xuid, showInt d.deviceOs, d.languageCode, showInt d.uiProfile, showInt d.inputMode,
       d.ip, d.linkedPlayer, (if d.fromProxy then [49] else [48]), showInt d.subscribeId, d.verifyCode] := by
    refine splitOn_join 0 _ (List.cons_ne_nil _ _) ?_
    simp only [List.forall_mem_cons]
    exact ⟨h.version, h.username, h.xuid ▸ showInt_noNul x, showInt_noNul _, h.language, showInt_noNul _,
      showInt_noNul _, h.ip, h.linked, boolString_noNul _, showInt_noNul _, h.verify, nofun⟩
  unfold readBedrockData
  rw [hsplit]
  have hu := List.isEmpty_eq_false_iff.2 h.usernameNE
  have hx : parseInt64 d.xuid = some x := by rw [h.xuid]; exact parseInt64_showInt x h.xuidRange.1 h.xuidRange.2
  have hd := parseInt64_showInt _ h.dev.1 h.dev.2
  have hui := parseInt64_showInt _ h.ui.1 h.ui.2
  have him := parseInt64_showInt _ h.im.1 h.im.2
  simp only [hu, hx, hd, hui, him, Bool.false_eq_true, if_false, if_neg h.xuidNZ]
  cases hfp : d.fromProxy <;> simp [ofFg, hfp]

theorem fgEncrypt_eq_encrypt (sealF : Bytes → Bytes → Bytes) (iv p : Bytes) : fgEncrypt sealF iv p = encrypt sealF iv p := by
  simp [fgEncrypt, encrypt, header_eq, splitter_eq]

theorem cutPort_noColon (x : Bytes) (h : (58 : UInt8) ∉ x) : cutPort x = x := by
  simp [cutPort, cutAt_nosep 58 x h]

theorem fgHostname_eq (sealF : Bytes → Bytes → Bytes) (iv host : Bytes) (d : FgData) :
    fgHostname sealF iv host d = host ++ 0 :: encrypt sealF iv (fgToString d) := by
  rw [fgHostname, fgEncrypt_eq_encrypt, List.append_assoc]
  rfl

theorem splitOn_host_blob (sealF : Bytes → Bytes → Bytes) (iv host p : Bytes) (hhost : noNul host) :
    splitOn 0 (host ++ 0 :: encrypt sealF iv p) = [host, encrypt sealF iv p] := by
  rw [splitOn_append_sep 0 _ host hhost, splitOn_nosep 0 _ (encrypt_noNul_noColon sealF iv p).1]

/-- reading `host ‖ NUL ‖ Encrypt(p)`: the host comes back, the AEAD is asked about exactly `(iv, seal iv p)`,
    and what it opens is parsed as the record -/
theorem readHostnameV_blob (chk : Bool) (sealF : Bytes → Bytes → Bytes) (opn : Bytes → Bytes → Option Bytes)
    (iv host p : Bytes) (hiv : iv.length = 12) (hhost : noNul host) :
    readHostnameV chk opn (host ++ 0 :: encrypt sealF iv p) =
      match opn iv (sealF iv p) with
      | none => .error (.decrypt .open)
      | some q =>
        match readBedrockData q with
        | .error e => .error e
        | .ok d => .ok (host, d) := by
  unfold readHostnameV
  rw [splitOn_host_blob sealF iv host p hhost]
  simp only [cutPort_noColon _ (encrypt_noNul_noColon sealF iv p).2, decrypt_encrypt_gen chk sealF opn iv p hiv]
  cases opn iv (sealF iv p) <;> rfl

theorem recordFields_noNul (host : Bytes) (d : BedrockData) (sub : Int) (h : WfGate host d sub) :
    ∀ z ∈ recordFields d, (0 : UInt8) ∉ z := by
  simp only [recordFields, List.forall_mem_cons]
  exact ⟨h.version, h.username, showInt_noNul _, showInt_noNul _, h.language, showInt_noNul _, showInt_noNul _,
    h.ip, h.linked, boolString_noNul _, h.subscribe ▸ showInt_noNul sub, h.verify, nofun⟩

theorem writeHostname_ok (sealF : Bytes → Bytes → Bytes) (iv host : Bytes) (d : BedrockData) (sub : Int)
    (h : WfGate host d sub) :
    writeHostname sealF iv host d = .ok (host ++ 0 :: encrypt sealF iv (join 0 (recordFields d))) := by
  unfold writeHostname
  have h1 : host.contains 0 = false := by simpa [noNul] using h.hostOk
  have h2 : (recordFields d).any (·.contains 0) = false := by
    rw [List.any_eq_false]
    intro z hz
    simpa using recordFields_noNul host d sub h z hz
  rw [h1, h2]
  rfl

theorem header_eq_identifier : header = fgIdentifier ++ [62] := by rw [header_bytes, fgIdentifier_bytes]; rfl

theorem carriesData_encrypt (sealF : Bytes → Bytes → Bytes) (iv p : Bytes) (hiv : iv.length = 12) :
    carriesData (encrypt sealF iv p) = true := by
  have hlen : (encrypt sealF iv p).length > fgHeader.length := by
    rw [encrypt_length sealF iv p hiv, ← header_eq, header_length]
    omega
  have hpre : isPrefix fgIdentifier (encrypt sealF iv p) = true := by
    rw [encrypt_shape, header_eq_identifier, List.append_assoc]
    exact isPrefix_append _ _
  rw [carriesData, decide_eq_true hlen, hpre]
  rfl

theorem fgDecrypt_encrypt (sealF : Bytes → Bytes → Bytes) (opn : Bytes → Bytes → Option Bytes)
    (iv p : Bytes) (hiv : iv.length = 12) (hA : opn iv (sealF iv p) = some p) :
    fgDecrypt opn (encrypt sealF iv p) = .ok p := by
  have hc := carriesData_encrypt sealF iv p hiv
  simp only [carriesData, Bool.and_eq_true, decide_eq_true_eq] at hc
  have hcut := cutAt_encrypt sealF iv p
  rw [header_eq, splitter_eq] at hcut
  have hne : iv.isEmpty = false := List.isEmpty_eq_false_iff.2 (List.ne_nil_of_length_pos (by omega))
  unfold fgDecrypt
  rw [if_neg (Nat.not_le.2 hc.1)]
  simp only [hc.2, Bool.not_true, Bool.false_eq_true, if_false, hcut, javaQuanta_encode, hne, hA]

theorem fgFromString_record (host : Bytes) (d : BedrockData) (sub : Int) (h : WfGate host d sub) :
    fgFromString (join 0 (recordFields d)) = .ok (toFg d sub) := by
  have hsplit : splitOn 0 (join 0 (recordFields d)) = recordFields d :=
    splitOn_join 0 _ (by simp [recordFields]) (recordFields_noNul host d sub h)
  have hv := List.isEmpty_eq_false_iff.2 h.verifyNE
  have hd := javaParseInt_showInt _ h.dev.1 h.dev.2
  have hui := javaParseInt_showInt _ h.ui.1 h.ui.2
  have him := javaParseInt_showInt _ h.im.1 h.im.2
  have hsub : javaParseInt d.subscribeID = some sub := by rw [h.subscribe]; exact javaParseInt_showInt _ h.subRange.1 h.subRange.2
  unfold fgFromString javaSplit
  rw [hsplit]
  simp only [recordFields, dropTrailingEmpty, hv, Bool.false_eq_true, if_false, hd, hui, him, hsub]
  cases hp : d.proxy <;> simp [toFg, boolString, hp]

/-- Floodgate reading `host ‖ NUL ‖ Encrypt(p)`: the host comes back and `p` is parsed as the record -/
theorem fgRead_blob (sealF : Bytes → Bytes → Bytes) (opn : Bytes → Bytes → Option Bytes) (iv host p : Bytes)
    (hiv : iv.length = 12) (hA : opn iv (sealF iv p) = some p) (hhost : noNul host) (hplain : carriesData host = false) :
    fgRead opn (host ++ 0 :: encrypt sealF iv p) =
      match fgFromString p with
      | .error e => .error e
      | .ok d => .ok (host, d) := by
  have hcar := carriesData_encrypt sealF iv p hiv
  have hne : (encrypt sealF iv p).isEmpty = false := by
    rw [encrypt_shape, header_bytes]; rfl
  have hhand : fgHandshake (host ++ 0 :: encrypt sealF iv p) = some (host, encrypt sealF iv p) := by
    unfold fgHandshake javaSplit
    rw [splitOn_host_blob sealF iv host p hhost]
    simp [dropTrailingEmpty, hne, List.filter, hcar, hplain, join]
  have hver : (encrypt sealF iv p).getD fgIdentifier.length 0 = 0x3E := by
    rw [encrypt_shape, header_bytes, fgIdentifier_bytes]; rfl
  unfold fgRead
  rw [hhand]
  simp only [hver, ne_eq, not_true_eq_false, if_false, fgDecrypt_encrypt sealF opn iv _ hiv hA]
  cases fgFromString p <;> rfl

theorem decrypt_ok_inv (chk : Bool) (opn : Bytes → Bytes → Option Bytes) (s p : Bytes)
    (h : decryptV chk opn s = .ok p) :
    ∃ ivB64 ctB64 iv ct, cutAt splitter (s.drop header.length) = some (ivB64, ctB64) ∧ b64Decode ivB64 = some iv ∧
      b64Decode ctB64 = some ct ∧ iv.length = 12 ∧ opn iv ct = some p := by
  unfold decryptV at h
  by_cases hlen : s.length < header.length + ivLength + 1
  · rw [if_pos hlen] at h; cases h
  by_cases hpre : (!isPrefix header s) = true
  · rw [if_neg hlen, if_pos hpre] at h; cases h
  rw [if_neg hlen, if_neg hpre] at h
  cases hcut : cutAt splitter (s.drop header.length) with
  | none => rw [hcut] at h; cases h
  | some q =>
    obtain ⟨ivB64, ctB64⟩ := q
    rw [hcut] at h
    dsimp only at h
    cases hiv : b64Decode ivB64 with
    | none => rw [hiv] at h; cases h
    | some iv =>
      cases hct : b64Decode ctB64 with
      | none => rw [hiv, hct] at h; cases h
      | some ct =>
        rw [hiv, hct] at h
        dsimp only at h
        by_cases hn : iv.length ≠ ivLength
        · rw [if_pos hn] at h; cases chk <;> cases h
        rw [if_neg hn] at h
        cases ho : opn iv ct with
        | none => rw [ho] at h; cases h
        | some q =>
          rw [ho] at h
          dsimp only at h
          cases h
          exact ⟨ivB64, ctB64, iv, ct, rfl, hiv, hct, by rw [← ivLength_eq]; exact Classical.not_not.1 hn, ho⟩

/-- with the nonce length verified, no branch of `Decrypt` ends in the panic outcome -/
theorem decrypt_no_panic (opn : Bytes → Bytes → Option Bytes) (s : Bytes) : decrypt opn s ≠ .error .panic := by
  unfold decrypt decryptV
  by_cases hlen : s.length < header.length + ivLength + 1
  · rw [if_pos hlen]
    nofun
  by_cases hpre : (!isPrefix header s) = true
  · rw [if_neg hlen, if_pos hpre]
    nofun
  rw [if_neg hlen, if_neg hpre]
  cases cutAt splitter (s.drop header.length) with
  | none => nofun
  | some q =>
    obtain ⟨ivB64, ctB64⟩ := q
    dsimp only
    cases b64Decode ivB64 with
    | none => nofun
    | some iv =>
      cases b64Decode ctB64 with
      | none => nofun
      | some ct =>
        dsimp only
        by_cases hn : iv.length ≠ ivLength
        · rw [if_pos hn, if_pos rfl]
          nofun
        · rw [if_neg hn]
          cases opn iv ct <;> nofun

theorem readBedrockData_no_decrypt_err (p : Bytes) (e : DErr) : readBedrockData p ≠ .error (.decrypt e) := by
  unfold readBedrockData
  repeat' split
  all_goals simp

theorem readHostname_ok_inv (chk : Bool) (opn : Bytes → Bytes → Option Bytes) (hn host : Bytes) (d : BedrockData)
    (h : readHostnameV chk opn hn = .ok (host, d)) :
    ∃ data plain, splitOn 0 hn = [host, data] ∧ decryptV chk opn (cutPort data) = .ok plain ∧ readBedrockData plain = .ok d := by
  unfold readHostnameV at h
  split at h
  · rename_i h0 data hs
    split at h
    · cases h
    · rename_i plain hd
      split at h
      · cases h
      · rename_i d' hr
        cases h
        exact ⟨data, plain, hs, hd, hr⟩
  · cases h

end Gate.C39
