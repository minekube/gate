import GateModel.C07.Lemmas
/-
C07 — Packets the proxy builds decode as intended by an independent vanilla decoder.

For every packet type `X` of the list:   `X_decodes` :
   okX (the vanilla peer's own domain: length limits, integer widths, enum ranges)  →
   Vanilla.decX p (Gate.encX p pkt) = .ok (meantX p pkt)
for EVERY protocol number `p` (an `Int`; the eras are case-split inside the proofs) and every field
value.  `decX` consumes the whole payload (`complete`), `encX` is the model of gate's `Encode`
(`Model.lean`, tied to /repo by the regenerated call-sequence/version facts below and by the
differential harness), `decX` is the vanilla reference (`Spec.lean`), `meantX` the projection of the
Go struct onto the fields that exist in that era (`Intended.lean`).
Encoders that can fail (`Option`) are stated as `∃ bs, enc = some bs ∧ dec bs = ok …`.

How a proof reads: `complete_rt` (or `← List.append_nil` and `complete_ok`) turns the goal into the
packet's reader applied to `encX … ++ []`; one `simp only` unfolds reader, encoder and `meantX` and
rewrites each field with its lemma from Lemmas.lean (`vString_rt 255` for a String(255), `vVarInt_rt` for
a VarInt, …: the lemma is named after the reader of the field, its last argument is the conjunct of `okX`
that bounds the field), `seq_ok` passing the remaining bytes to the next field.  Where the layout depends
on the era, the layouts are those listed above `rdX` or `decX` in Spec.lean: the model's named
thresholds are first rewritten to numbers (`v1_19_eq`, …), then `by_cases` follows the reference's
conditions and `omega` settles the model's in each case.
-/
namespace Gate.C07.Props
open Gate Gate.C03 Gate.C07 Gate.C07.Vanilla

/-! ### tie: regenerated facts the model rests on -/

/-- the protocol numbers gate's era branches use are the vanilla numbers of the reference -/
theorem eras_match_reference :
    V.v1_7_6 = 5 ∧ V.v1_8 = 47 ∧ V.v1_12_2 = 340 ∧ V.v1_13 = 393 ∧ V.v1_16 = 735 ∧ V.v1_19 = 759 ∧
    V.v1_19_1 = 760 ∧ V.v1_19_3 = 761 ∧ V.v1_20_2 = 764 ∧ V.v1_20_3 = 765 ∧ V.v1_20_5 = 766 ∧
    V.v1_21 = 767 ∧ V.v26_2 = 776 :=
  ⟨rfl, rfl, rfl, rfl, rfl, rfl, rfl, rfl, rfl, rfl, rfl, rfl, rfl⟩

/-- the identifier-cleaning expression is the repaired one (`\-` = a literal hyphen) -/
theorem source_channel_regex : Gate.Gen.C07.invalidIdentifierRegex = "[^a-z0-9\\-_]*" := rfl

/-- `Upsert.Encode` asks `ContainsAction` again before each `action.Encode`: the per-entry loop runs
    over `UpsertActions` (canonical order), not over `u.ActionSet` -/
theorem source_upsert_loop : Gate.Gen.C07.upsertEncodeCalls =
    ["len", "mathutil.NewBitSet", "ContainsAction", "bitSet.SetBool", "wr.Write", "return", "len",
     "util.WriteVarInt", "return", "util.WriteUUID", "return", "ContainsAction", "action.Encode", "return",
     "return"] := rfl

theorem source_transform_cases : Gate.Gen.C07.transformChannelCases =
    ["RegisterChannelLegacy", "UnregisterChannelLegacy", "BrandChannelLegacy", "\"BungeeCord\"", "default"] := rfl

/-- field order of the simple encoders, as written in the Go source -/
theorem source_shapes :
    Gate.Gen.C07.handshakeEncodeCalls =
      ["util.WriteVarInt", "return", "util.WriteString", "return", "int16", "util.WriteInt16", "return",
       "util.WriteVarInt", "return"] ∧
    Gate.Gen.C07.transferEncodeCalls = ["util.WriteString", "return", "util.WriteVarInt", "return"] ∧
    Gate.Gen.C07.statusPingEncodeCalls = ["util.WriteInt64", "return"] ∧
    Gate.Gen.C07.statusResponseEncodeCalls = ["util.WriteString", "return"] ∧
    Gate.Gen.C07.statusRequestEncodeCalls = ["return"] ∧
    Gate.Gen.C07.setCompressionEncodeCalls = ["util.WriteVarInt", "return"] ∧
    Gate.Gen.C07.loginPluginResponseEncodeCalls =
      ["util.WriteVarInt", "return", "util.WriteBool", "return", "util.WriteRawBytes", "return"] ∧
    Gate.Gen.C07.loginPluginMessageEncodeCalls =
      ["util.PanicWriter", "w.VarInt", "w.String", "util.WriteRawBytes", "return"] ∧
    Gate.Gen.C07.keepAliveEncodeCalls =
      ["c.Protocol.GreaterEqual", "util.WriteInt64", "return", "c.Protocol.GreaterEqual", "int",
       "util.WriteVarInt", "return", "int32", "util.WriteInt32", "return"] ∧
    Gate.Gen.C07.removeEncodeCalls = ["len", "util.WriteVarInt", "return", "util.WriteUUID", "return", "return"] ∧
    Gate.Gen.C07.writePlayerKeyCalls =
      ["playerKey.ExpiryTemporal", "playerKey.ExpiryTemporal().UnixMilli", "util.WriteInt64", "return",
       "playerKey.SignedPublicKeyBytes", "util.WriteBytes", "return", "playerKey.Signature", "util.WriteBytes",
       "return"] ∧
    Gate.Gen.C07.remoteChatSessionEncodeCalls = ["util.WriteUUID", "return", "crypto.WritePlayerKey", "return"] :=
  ⟨rfl, rfl, rfl, rfl, rfl, rfl, rfl, rfl, rfl, rfl, rfl, rfl⟩

theorem source_shapes_login :
    Gate.Gen.C07.encryptionRequestEncodeCalls =
      ["util.WriteString", "return", "c.Protocol.GreaterEqual", "util.WriteBytes", "return", "util.WriteBytes",
       "return", "c.Protocol.GreaterEqual", "util.WriteBool", "return", "return", "util.WriteBytes17", "return",
       "util.WriteBytes17", "return"] ∧
    Gate.Gen.C07.encryptionResponseEncodeCalls =
      ["c.Protocol.GreaterEqual", "util.WriteBytes", "return", "c.Protocol.GreaterEqual", "c.Protocol.Lower",
       "util.WriteBool", "return", "util.WriteInt64", "return", "util.WriteBytes", "return", "util.WriteBytes17",
       "return", "util.WriteBytes17", "return"] ∧
    Gate.Gen.C07.serverLoginSuccessEncodeCalls =
      ["fmt.Errorf", "return", "c.Protocol.GreaterEqual", "util.WriteUUID", "c.Protocol.GreaterEqual",
       "util.WriteUUID", "c.Protocol.GreaterEqual", "s.UUID.String", "util.WriteString", "s.UUID.Undashed",
       "util.WriteString", "return", "util.WriteString", "return", "c.Protocol.GreaterEqual",
       "util.WriteProperties", "return", "util.WriteBool", "return", "c.Protocol.GreaterEqual", "util.WriteUUID",
       "return", "return"] ∧
    Gate.Gen.C07.serverLoginEncodeCalls =
      ["errors.New", "return", "util.WriteString", "return", "c.Protocol.GreaterEqual", "c.Protocol.Lower",
       "util.WriteBool", "return", "crypto.WritePlayerKey", "return", "c.Protocol.GreaterEqual", "util.WriteUUID",
       "return", "return", "c.Protocol.GreaterEqual", "s.PlayerKey.SignatureHolder", "util.WriteBool", "return",
       "s.PlayerKey.SignatureHolder", "util.WriteUUID", "return", "return"] ∧
    Gate.Gen.C07.pluginMessageEncodeCalls =
      ["c.Protocol.GreaterEqual", "TransformLegacyToModernChannel", "util.WriteString", "util.WriteString",
       "return", "c.Protocol.GreaterEqual", "wr.Write", "util.WriteBytes17", "return"] ∧
    Gate.Gen.C07.disconnectEncodeCalls = ["errors.New", "return", "d.Reason.Write", "return"] :=
  ⟨rfl, rfl, rfl, rfl, rfl, rfl⟩

theorem source_shapes_actions :
    Gate.Gen.C07.addActionEncodeCalls = ["util.WriteString", "return", "util.WriteProperties", "return"] ∧
    Gate.Gen.C07.initChatActionEncodeCalls =
      ["util.WriteBool", "return", "info.RemoteChatSession.Encode", "return", "return"] ∧
    Gate.Gen.C07.updateGameModeActionEncodeCalls = ["util.WriteVarInt", "return"] ∧
    Gate.Gen.C07.updateListedActionEncodeCalls = ["util.WriteBool", "return"] ∧
    Gate.Gen.C07.updateLatencyActionEncodeCalls = ["util.WriteVarInt", "return"] ∧
    Gate.Gen.C07.updateDisplayNameActionEncodeCalls =
      ["util.WriteBool", "return", "info.DisplayName.Write", "return", "return"] ∧
    Gate.Gen.C07.updateListOrderActionEncodeCalls = ["util.WriteVarInt", "return"] ∧
    Gate.Gen.C07.updateHatActionEncodeCalls = ["util.WriteBool", "return"] :=
  ⟨rfl, rfl, rfl, rfl, rfl, rfl, rfl, rfl⟩

theorem handshake_decodes (p : Int) (h : Handshake) (ok : okHandshake p h) :
    decHandshake p (encHandshake h) = .ok (meantHandshake h) := by
  obtain ⟨hpv, haddr, ⟨hport0, hport1⟩, hnext⟩ := ok
  have hnext32 : i32 h.next := ⟨by omega, by omega⟩
  refine complete_rt ?_
  simp only [rdHandshake, encHandshake, meantHandshake, List.append_assoc, vVarInt_rt _ _ hpv,
    vString_rt 255 _ _ (by omega) haddr, vUShort_port _ _ hport0 hport1, vVarInt_rt _ _ hnext32, seq_ok, hnext, if_true]

theorem status_request_decodes : decStatusRequest encStatusRequest = .ok () := rfl

theorem status_response_decodes (s : Bytes) (ok : strOk 32767 s) :
    decStatusResponse (encStatusResponse s) = .ok s :=
  complete_rt (vString_rt 32767 _ _ (by omega) ok)

theorem status_ping_decodes (id : Int) (ok : i64 id) : decStatusPing (encStatusPing id) = .ok id :=
  complete_rt (vLong_rt _ _ ok)

theorem login_start_decodes (p : Int) (s : ServerLogin) (ok : okLoginStart s) :
    ∃ bs, encServerLogin p s = some bs ∧ decLoginStart p bs = .ok (meantLoginStart p s) := by
  obtain ⟨hne, hname, hhold, hkey⟩ := ok
  rw [encServerLogin, List.isEmpty_eq_false_iff.2 hne]
  refine ⟨_, rfl, complete_rt ?_⟩
  have uuidblock := optUUID_rt (meantHolder s) [] (meantHolder_ok s hhold hkey)
  rw [meantLoginStart, v1_19_eq, v1_19_1_eq, v1_19_3_eq, v1_20_2_eq, loginHolder_eq]
  simp only [rdLoginStart, List.append_assoc, vString_rt 16 _ _ (by omega) hname, seq_ok]
  -- the five layouts of `rdLoginStart`: ≤758, 759, 760, 761–763, ≥764
  by_cases e1 : p < 759
  · simp only [e1, show ¬ p ≥ 759 by omega, show ¬ (p = 759 ∨ p = 760) by omega, show ¬ p ≥ 764 by omega,
      show ¬ p ≥ 760 by omega, if_true, if_false, List.nil_append]
  · by_cases e2 : p = 759
    · subst e2
      simp only [Int.reduceLT, Int.reduceGE, if_true, if_false, true_or, List.append_assoc, List.nil_append,
        optKey_rt s.key _ hkey, seq_ok]
    · by_cases e3 : p = 760
      · subst e3
        simp only [Int.reduceLT, Int.reduceGE, Int.reduceEq, if_true, if_false, or_true, List.append_assoc,
          optKey_rt s.key _ hkey, uuidblock, seq_ok]
      · simp only [e1, e2, e3, show p ≥ 759 by omega, show ¬ p < 761 by omega, or_self, if_true, if_false,
          List.nil_append]
        by_cases e4 : p < 764
        · simp only [e4, show ¬ p ≥ 764 by omega, show p ≥ 760 by omega, if_true, if_false, uuidblock, seq_ok]
        · simp only [e4, show p ≥ 764 by omega, if_true, if_false, vUUID_rt _ _ hhold, seq_ok]

theorem encryption_request_decodes (p : Int) (e : EncryptionRequest) (ok : okEncryptionRequest p e) :
    ∃ bs, encEncryptionRequest p e = some bs ∧
      decEncryptionRequest p bs = .ok (meantEncryptionRequest p e) := by
  obtain ⟨hid, hpub, htoken⟩ := ok
  unfold arrLim at hpub htoken
  rw [encEncryptionRequest, meantEncryptionRequest, v1_8_eq, v1_20_5_eq]
  by_cases e1 : p < 47
  · rw [if_pos e1] at hpub htoken
    have w1 : writeBytes17Ok false e.pub = true := decide_eq_true hpub
    have w2 : writeBytes17Ok false e.token = true := decide_eq_true htoken
    refine ⟨_, by rw [if_neg (by omega), w1, w2]; rfl, complete_rt ?_⟩
    simp only [rdEncryptionRequest, e1, if_true, show ¬ p ≥ 766 by omega, if_false, List.append_assoc,
      vString_rt 20 _ _ (by omega) hid, vShortArray_rt _ _ hpub, vShortArray_rt _ _ htoken, seq_ok]
  · rw [if_neg e1] at hpub htoken
    refine ⟨_, if_pos (by omega), complete_rt ?_⟩
    simp only [rdEncryptionRequest, e1, if_false, List.append_assoc, vString_rt 20 _ _ (by omega) hid,
      vByteArray_rt anyLen _ _ (by decide) hpub, vByteArray_rt anyLen _ _ (by decide) htoken, seq_ok]
    by_cases e2 : p ≥ 766
    · simp only [e2, if_true, vBool_rt, seq_ok]
    · simp only [e2, if_false, List.nil_append]

theorem encryption_response_decodes (p : Int) (e : EncryptionResponse) (ok : okEncryptionResponse p e) :
    ∃ bs, encEncryptionResponse p e = some bs ∧
      decEncryptionResponse p bs = .ok (meantEncryptionResponse p e) := by
  obtain ⟨hsecret, htoken, hsalt⟩ := ok
  unfold arrLim at hsecret htoken
  rw [encEncryptionResponse, meantEncryptionResponse, v1_8_eq, v1_19_eq, v1_19_3_eq]
  by_cases e1 : p < 47
  · rw [if_pos e1] at hsecret htoken
    have w1 : writeBytes17Ok false e.secret = true := decide_eq_true hsecret
    have w2 : writeBytes17Ok false e.token = true := decide_eq_true htoken
    refine ⟨_, by rw [if_neg (by omega), w1, w2]; rfl, complete_rt ?_⟩
    simp only [rdEncryptionResponse, e1, if_true, show ¬ (p = 759 ∨ p = 760) by omega, if_false, List.append_assoc,
      vShortArray_rt _ _ hsecret, vShortArray_rt _ _ htoken, seq_ok]
  · rw [if_neg e1] at hsecret htoken
    refine ⟨_, if_pos (by omega), complete_rt ?_⟩
    simp only [rdEncryptionResponse, e1, if_false, List.append_assoc, vByteArray_rt anyLen _ _ (by decide) hsecret,
      seq_ok]
    by_cases e2 : p = 759 ∨ p = 760
    · have a2 : p ≥ 759 ∧ p < 761 := by omega
      simp only [e2, a2, and_self, if_true]
      -- gate writes `true` ("has token") when there is no salt, `false` and the salt otherwise
      cases hs : e.salt with
      | none =>
        simp only [vBool_rt, seq_ok, if_true, vByteArray_rt anyLen _ _ (by decide) htoken]
      | some sv =>
        simp only [List.append_assoc, vBool_rt, seq_ok, Bool.false_eq_true, if_false,
          vLong_rt _ _ (optAll_some hsalt hs), vByteArray_rt anyLen _ _ (by decide) htoken]
    · simp only [e2, show ¬ (p ≥ 759 ∧ p < 761) by omega, if_false, List.nil_append,
        vByteArray_rt anyLen _ _ (by decide) htoken, seq_ok]

theorem login_success_decodes (p : Int) (s : LoginSuccess) (ok : okLoginSuccess s) :
    ∃ bs, encLoginSuccess p s = some bs ∧ decLoginSuccess p bs = .ok (meantLoginSuccess p s) := by
  obtain ⟨hu, hsess, hne, hname, hprops⟩ := ok
  rw [encLoginSuccess, List.isEmpty_eq_false_iff.2 hne]
  refine ⟨_, rfl, complete_rt ?_⟩
  simp only [rdLoginSuccess, meantLoginSuccess, List.append_assoc, rdUuidEra_rt p _ _ hu,
    vString_rt 16 _ _ (by omega) hname, seq_ok]
  rw [v1_19_eq, v1_20_5_eq, v1_21_eq, v26_2_eq,
    optField_rt (p ≥ 759) (writeProperties s.props) fun _ => vProperties_rt _ _ hprops, seq_ok,
    optField_rt (p = 766 ∨ p = 767) (writeBool true) fun _ => vBool_rt _ _, seq_ok,
    optField_rt (p ≥ 776) (writeUUID s.session) fun _ => vUUID_rt _ _ hsess, seq_ok]

theorem set_compression_decodes (t : Int) (ok : i32 t) : decSetCompression (encSetCompression t) = .ok t :=
  complete_rt (vVarInt_rt _ _ ok)

theorem login_plugin_message_decodes (m : LoginPluginMessage) (ok : okLoginPluginMessage m) :
    decLoginPluginRequest (encLoginPluginMessage m) = .ok (meantLoginPluginMessage m) := by
  obtain ⟨hid, hchannel, hident, hdata⟩ := ok
  simp only [decLoginPluginRequest, encLoginPluginMessage, meantLoginPluginMessage, vIdentifier, List.append_assoc,
    vVarInt_rt _ _ hid, vString_rt 32767 _ _ (by omega) hchannel, hident, if_true, vRest_rt _ _ hdata, seq_ok,
    complete_ok]

theorem login_plugin_response_decodes (r : LoginPluginResponse) (ok : okLoginPluginResponse r) :
    decLoginPluginResponse (encLoginPluginResponse r) = .ok (meantLoginPluginResponse r) := by
  obtain ⟨hid, hdata, hempty⟩ := ok
  simp only [decLoginPluginResponse, encLoginPluginResponse, meantLoginPluginResponse, List.append_assoc,
    vVarInt_rt _ _ hid, seq_ok]
  cases hs : r.success with
  | true => rw [vOptional_some (vRest maxPayload) r.data r.data [] (vRest_rt _ _ hdata)]; rfl
  | false => rw [hempty hs, vOptional_none]; rfl

theorem disconnect_decodes (p : Int) (login : Bool) (c : Comp) (ok : okDisconnect p login c)
    (oknc : login = false → compNbtClosed p c) :
    ∃ bs, encDisconnect p login (some c) = some bs ∧ decDisconnect p login bs = .ok (meantDisconnect p login c) := by
  refine ⟨_, rfl, ?_⟩
  rw [decDisconnect, meantDisconnect, ← List.append_nil (writeComp _ c)]
  unfold okDisconnect at ok
  cases login with
  | true =>
    rw [if_pos rfl] at ok
    rw [if_pos rfl, if_pos rfl, if_pos rfl, writeComp, v1_20_2_eq, v1_20_3_eq, if_neg (by omega),
      vString_rt 262144 _ _ (by omega) ok, complete_ok]
  | false =>
    simp only [Bool.false_eq_true, if_false] at ok ⊢
    rw [vComponent_rt p c [] ok (compNbtOk_of_closed p c (oknc rfl)), complete_ok]

/-- a missing reason is refused by the encoder, nothing is sent -/
theorem disconnect_nil_refused (p : Int) (login : Bool) : encDisconnect p login none = none := rfl

theorem keep_alive_decodes (p : Int) (id : Int) (ok : okKeepAlive p id) :
    decKeepAlive p (encKeepAlive p id) = .ok id := by
  rw [decKeepAlive, ← List.append_nil (encKeepAlive p id), encKeepAlive, v1_12_2_eq, v1_8_eq]
  unfold okKeepAlive at ok
  by_cases e1 : p ≥ 340
  · rw [if_pos e1] at ok
    rw [if_pos e1, if_pos e1, vLong_rt _ _ ok, complete_ok]
  · rw [if_neg e1] at ok
    rw [if_neg e1, if_neg e1]
    by_cases e2 : p ≥ 47
    · rw [if_pos e2, if_pos e2, vVarInt_rt _ _ ok, complete_ok]
    · rw [if_neg e2, if_neg e2, vInt_rt _ _ ok, complete_ok]

theorem transfer_decodes (t : Transfer) (ok : okTransfer t) : decTransfer (encTransfer t) = .ok (meantTransfer t) := by
  rw [decTransfer, ← List.append_nil (encTransfer t)]
  simp only [encTransfer, meantTransfer, List.append_assoc, vString_rt 32767 _ _ (by omega) ok.1, vVarInt_rt _ _ ok.2,
    seq_ok, complete_ok]

theorem plugin_message_decodes (p : Int) (sb : Bool) (m : PluginMessage) (ok : okPluginMessage p sb m) :
    ∃ bs, encPluginMessage p m = some bs ∧ decPluginMessage p sb bs = .ok (meantPluginMessage p m) := by
  obtain ⟨hch, hdata⟩ := ok
  rw [encPluginMessage, encPluginMessageWith, meantPluginMessage, v1_13_eq, v1_8_eq]
  by_cases e1 : p ≥ 393
  · rw [if_pos e1] at hch
    rw [if_pos (show p ≥ 47 by omega)] at hdata
    refine ⟨_, if_pos (by omega), ?_⟩
    simp only [decPluginMessage, e1, if_true, vIdentifier_channel _ _ hch.1 hch.2.1 hch.2.2, vRest_rt _ _ hdata, seq_ok,
      complete_ok]
  · rw [if_neg e1] at hch
    by_cases e2 : p ≥ 47
    · rw [if_pos e2] at hdata
      refine ⟨_, if_pos e2, ?_⟩
      simp only [decPluginMessage, e1, e2, if_true, if_false, vString_rt 20 _ _ (by omega) hch, vRest_rt _ _ hdata,
        seq_ok, complete_ok]
    · rw [if_neg e2] at hdata
      have w : writeBytes17Ok true m.data = true := decide_eq_true hdata
      refine ⟨_, by rw [if_neg e2, if_pos w], ?_⟩
      rw [← List.append_nil (_ ++ _)]
      simp only [decPluginMessage, e1, e2, if_false, List.append_assoc, vString_rt 20 _ _ (by omega) hch,
        vVarShortArray_rt _ _ hdata, seq_ok, complete_ok]

theorem plugin_message_history (m : PluginMessage) (ps : List Int) :
    encHistory encPluginStep m ps = ps.map (fun p => encPluginMessage p m) := by
  induction ps with
  | nil => rfl
  | cons p t ih => simp only [encHistory, encPluginStep, List.map_cons, ih]

/-- history form: the same packet object encoded for any sequence of protocols (a broadcast to
    connections of mixed versions, in any order) — every single encoding is what `encPluginMessage`
    yields for the ORIGINAL packet, hence decodes to the intended value of the original channel -/
theorem plugin_message_history_decodes (m : PluginMessage) (steps : List (Int × Bool))
    (ok : ∀ st ∈ steps, okPluginMessage st.1 st.2 m) :
    encHistory encPluginStep m (steps.map (·.1)) = steps.map (fun st => encPluginMessage st.1 m) ∧
    ∀ st ∈ steps, ∃ bs, encPluginMessage st.1 m = some bs ∧
      decPluginMessage st.1 st.2 bs = .ok (meantPluginMessage st.1 m) := by
  refine ⟨?_, fun st hst => plugin_message_decodes st.1 st.2 m (ok st hst)⟩
  rw [plugin_message_history, List.map_map]
  rfl

/-- an `Encode` that stores the transformed name back into the object breaks the second step:
    `FML|HS` encoded for 1.21 and then for 1.12.2 reaches the old client as `legacy:fmlhs` -/
theorem plugin_message_rewriting_fails :
    ∃ bs, (encHistory encPluginStepRewriting ⟨asc "FML|HS", []⟩ [767, 340]).getD 1 none = some bs ∧
      decPluginMessage 340 false bs = .ok ⟨asc "legacy:fmlhs", []⟩ ∧
      meantPluginMessage 340 ⟨asc "FML|HS", []⟩ = ⟨asc "FML|HS", []⟩ :=
  ⟨_, rfl, rfl, rfl⟩

/-- the mapped channel name is Velocity's mapping -/
theorem plugin_channel_mapping (name : Bytes) : transformChannel name = legacyToModern name :=
  transformChannel_eq name

/-- for a name without a colon it is an identifier a vanilla peer accepts (a name with a colon is passed
    on unchanged: `okPluginMessage` asks that it be an identifier already) -/
theorem plugin_channel_valid (name : Bytes) (h : name.contains 58 = false) :
    validIdentifier (transformChannel name) = true := by
  rw [transformChannel_eq]
  exact legacyToModern_valid name fun hc => by rw [h] at hc; cases hc

/-- pre-fix expression (`[^a-z0-9\\-_]*` as a raw string): `a]` became `legacy:a]`, which is not an
    identifier — a vanilla 1.13+ peer rejects the packet; and `my-chan` lost its hyphen -/
theorem plugin_channel_defective_fails :
    transformChannelDefective (asc "a]") = asc "legacy:a]" ∧
    validIdentifier (transformChannelDefective (asc "a]")) = false ∧
    (∃ bs, encPluginMessageDefective 767 ⟨asc "a]", []⟩ = some bs ∧
      decPluginMessage 767 false bs = .error .invalid) ∧
    transformChannelDefective (asc "my-chan") = asc "legacy:mychan" ∧
    legacyToModern (asc "my-chan") = asc "legacy:my-chan" := by
  refine ⟨by decide +kernel, by decide +kernel, ⟨_, rfl, rfl⟩, by decide +kernel, by decide +kernel⟩

/-- `canonical_action_order`: for every protocol, every action list (any order, duplicates allowed,
    all actions existing in that protocol) and every entry list, the vanilla decoder recovers the action
    set and, per entry, exactly the selected fields -/
theorem upsert_decodes (p : Int) (acts : List Action) (es : List Entry)
    (ok : okUpsert p acts es) (oknc : ∀ e ∈ es, entryNbtClosed p acts e) :
    decUpsert p (encUpsert p acts es) = .ok (meantUpsert p acts es) :=
  complete_rt (rdUpsert_rt p acts es [] ok fun e he => entryNbtOk_of_closed p acts e (oknc e he))

/-- the bytes depend only on which actions are present, not on their order or multiplicity -/
theorem upsert_order_irrelevant (p : Int) (acts acts' : List Action) (es : List Entry)
    (h : ∀ i, acts.contains i = acts'.contains i) : encUpsert p acts es = encUpsert p acts' es := by
  unfold encUpsert encEntry actionBits
  simp only [h]

/-- a permutation of the API's action list changes nothing -/
theorem upsert_perm_irrelevant (p : Int) (acts acts' : List Action) (es : List Entry)
    (h : acts.Perm acts') : encUpsert p acts es = encUpsert p acts' es :=
  upsert_order_irrelevant p acts acts' es fun i => by
    simp only [List.contains_eq_mem, h.mem_iff]

def witnessEntry : Entry :=
  { id := List.replicate 16 0, name := [], props := [], listed := true, latency := 0, gameMode := 0,
    display := none, hat := false, listOrder := 0, chat := none }

/-- pre-fix `Upsert.Encode` (per-entry data in API order): with `ActionSet = [latency, listed]`,
    latency 0 and listed = true, a vanilla peer reads listed = false and latency = 1 -/
theorem upsert_api_order_fails :
    decUpsert 767 (encUpsertDefective 767 [4, 3] [witnessEntry]) =
      .ok ⟨[3, 4], [⟨List.replicate 16 0, none, none, none, some false, some 1, none, none, none⟩]⟩ ∧
    decUpsert 767 (encUpsertDefective 767 [4, 3] [witnessEntry]) ≠ .ok (meantUpsert 767 [4, 3] [witnessEntry]) := by
  have h : decUpsert 767 (encUpsertDefective 767 [4, 3] [witnessEntry]) =
      .ok ⟨[3, 4], [⟨List.replicate 16 0, none, none, none, some false, some 1, none, none, none⟩]⟩ := by rfl
  refine ⟨h, ?_⟩
  rw [h]
  intro hc
  exact absurd (Except.ok.inj hc) (by decide +kernel)

/-- the same input through the repaired encoder -/
example : decUpsert 767 (encUpsert 767 [4, 3] [witnessEntry]) = .ok (meantUpsert 767 [4, 3] [witnessEntry]) :=
  upsert_decodes 767 [4, 3] [witnessEntry] (by decide +kernel) (by intro e _ hc; exact absurd hc (by decide))

theorem remove_decodes (ids : List Bytes) (ok : okRemove ids) : decRemove (encRemove ids) = .ok ids := by
  have := rdRemove_rt ids [] ok
  rw [List.append_nil] at this
  rw [decRemove, this, complete_ok]

/-- the NBT side condition is decidable: whatever one nameless tag the reference reader accepts
    exactly is self-delimiting in front of every continuation -/
theorem nbt_closed_is_wf (blob : Bytes) (h : nbtClosed blob = true) : WfNbt blob :=
  wfNbt_of_closed blob (nbtClosed_spec blob h)

/-! ### non-vacuity: the domains are inhabited, the NBT hypothesis is satisfiable -/

example : okHandshake 767 ⟨767, asc "localhost", 25565, 2⟩ := by decide +kernel
example : okLoginStart ⟨asc "Notch", some ⟨1700000000000, [1, 2, 3], [4, 5], List.replicate 16 7⟩, nilUUID⟩ := by decide +kernel
example : okEncryptionRequest 4 ⟨[], [1, 2, 3], [4, 5, 6, 7], false⟩ := by decide +kernel
example : okEncryptionResponse 759 ⟨[1], [2], some 5⟩ := by decide +kernel
example : okLoginSuccess ⟨List.replicate 16 1, asc "Notch", [⟨asc "textures", asc "e30=", []⟩], List.replicate 16 2⟩ := by
  decide +kernel
example : okLoginPluginMessage ⟨1, asc "velocity:player_info", [1]⟩ := by decide +kernel
example : okLoginPluginResponse ⟨1, false, []⟩ := by decide +kernel
example : okPluginMessage 767 false ⟨asc "MC|Brand", asc "gate"⟩ := by decide +kernel
example : okPluginMessage 4 true ⟨asc "FML|HS", [1, 2, 3]⟩ := by decide +kernel
example : okDisconnect 767 false ⟨asc "{}", 8, [0, 1, 65]⟩ := by decide +kernel
/-- a plain-text component in NBT form (string tag) satisfies the NBT condition … -/
example : compNbtClosed 767 ⟨asc "\"A\"", 8, [0, 1, 65]⟩ := by decide +kernel
/-- … and so does the compound `{text:"A"}`; in general every string tag / text compound does -/
example : compNbtClosed 767 ⟨asc "{}", 10, [8, 0, 4, 116, 101, 120, 116, 0, 1, 65, 0]⟩ := by decide +kernel
example (s : Bytes) (h : s.length < 65536) : WfNbt (8 :: (beBytes 2 s.length ++ s)) := wfNbt_string s h
example (s : Bytes) (h : s.length < 65536) :
    WfNbt (10 :: 8 :: 0 :: 4 :: 116 :: 101 :: 120 :: 116 :: (beBytes 2 s.length ++ s ++ [0])) :=
  wfNbt_text_compound s h
example : okUpsert 767 [0, 4, 3, 5, 1, 2] [witnessEntry] := by decide +kernel
example : okRemove [List.replicate 16 9] := by decide +kernel

end Gate.C07.Props
