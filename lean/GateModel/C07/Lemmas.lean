import GateModel.C03.Lemmas
import GateModel.C07.Intended
/-
C07 — field lemmas.  Almost every lemma here has the shape

    vX_rt : (domain of the value) → vX (writeX v ++ rest) = .ok (v', rest)

the vanilla reader `vX` (Spec.lean), given what gate's writer `writeX` (the C03 model) produced in front
of ANY continuation `rest`, returns the intended value and leaves exactly `rest`.  A packet proof
unfolds reader and encoder and rewrites field after field with these lemmas, `seq_ok` handing `rest`
to the next field; `complete_rt` closes with `rest = []`.  Composite fields (`vProperty_rt`,
`rdEntry_rt`, `rdUpsert_rt`, `rdUuidEra_rt`, …) are proved the same way from the simpler ones.
Two suffixes: `f_append` says `f` reads back exactly what was written in front of `rest`;
`f_app` says a read that succeeded on `bs` succeeds on `bs ++ x` with the same value and `x` left
behind as well (used for NBT only: from one run on the blob alone to the blob in front of any `rest`).
-/
namespace Gate.C07
open Gate Gate.C03 Gate.C07.Vanilla

/-! ## era constants
The model's thresholds are names (`V.v1_19`, regenerated from version.go), the reference's are literals
(`p ≥ 759`).  A packet whose layout depends on the era is proved by rewriting the names to numbers with
these equations, splitting on the reference's conditions and letting `omega` decide the model's. -/
theorem v1_7_6_eq : V.v1_7_6 = 5 := rfl
theorem v1_8_eq : V.v1_8 = 47 := rfl
theorem v1_12_2_eq : V.v1_12_2 = 340 := rfl
theorem v1_13_eq : V.v1_13 = 393 := rfl
theorem v1_16_eq : V.v1_16 = 735 := rfl
theorem v1_19_eq : V.v1_19 = 759 := rfl
theorem v1_19_1_eq : V.v1_19_1 = 760 := rfl
theorem v1_19_3_eq : V.v1_19_3 = 761 := rfl
theorem v1_20_2_eq : V.v1_20_2 = 764 := rfl
theorem v1_20_3_eq : V.v1_20_3 = 765 := rfl
theorem v1_20_5_eq : V.v1_20_5 = 766 := rfl
theorem v1_21_eq : V.v1_21 = 767 := rfl
theorem v26_2_eq : V.v26_2 = 776 := rfl

@[simp] theorem seq_ok {α β : Type} (a : α) (r : Bytes) (f : α → Bytes → Rd β) :
    seq (.ok (a, r)) f = f a r := rfl
@[simp] theorem seq_error {α β : Type} (e : Err) (f : α → Bytes → Rd β) :
    seq (.error e : Rd α) f = .error e := rfl
@[simp] theorem complete_ok {α : Type} (a : α) : complete (.ok (a, []) : Rd α) = .ok a := rfl

/-- the field lemmas speak of `bs ++ rest`; with `rest = []` they give the decoder of the whole packet -/
theorem complete_rt {α : Type} {rd : Bytes → Rd α} {bs : Bytes} {a : α} (h : rd (bs ++ []) = .ok (a, [])) :
    complete (rd bs) = .ok a := by
  rw [List.append_nil] at h
  rw [h, complete_ok]

theorem vVarInt_rt (v : Int) (rest : Bytes) (h : i32 v) : vVarInt (writeVarInt v ++ rest) = .ok (v, rest) :=
  readVarInt_writeVarInt v rest h.1 h.2

theorem vBool_rt (b : Bool) (rest : Bytes) : vBool (writeBool b ++ rest) = .ok (b, rest) := by
  cases b <;> simp [vBool, writeBool, readByte]

theorem vLong_rt (v : Int) (rest : Bytes) (h : i64 v) : vLong (writeInt 8 v ++ rest) = .ok (v, rest) :=
  readInt_rt 8 (by omega) v rest h.1 h.2

theorem vInt_rt (v : Int) (rest : Bytes) (h : i32 v) : vInt (writeInt 4 v ++ rest) = .ok (v, rest) :=
  readInt_rt 4 (by omega) v rest h.1 h.2

theorem vUUID_rt (u rest : Bytes) (h : isUUID u) : vUUID (writeUUID u ++ rest) = .ok (u, rest) :=
  readUUID_rt u rest h

theorem toU16_nonneg (v : Int) (h0 : 0 ≤ v) (h1 : v < 65536) : toU 16 v = v.toNat := by
  unfold toU
  have : ((2 ^ 16 : Nat) : Int) = 65536 := by decide
  rw [this, Int.emod_eq_of_lt h0 h1]

/-- `int16(port)` written as two bytes is read back as the unsigned short `port` -/
theorem vUShort_port (port : Int) (rest : Bytes) (h0 : 0 ≤ port) (h1 : port < 65536) :
    vUShort (writeInt 2 port ++ rest) = .ok (port.toNat, rest) := by
  rw [vUShort, writeInt, toU16_nonneg port h0 h1]
  exact readUint_beBytes 2 port.toNat rest (by omega)

theorem vString_rt (max : Nat) (s rest : Bytes) (hm : max * 3 < 2 ^ 31) (h : strOk max s) :
    vString max (writeBytes s ++ rest) = .ok (s, rest) := by
  obtain ⟨h1, h2⟩ := h
  simp only [vString, writeBytes, List.append_assoc, vVarInt_rt _ _ (show i32 s.length from ⟨by omega, by omega⟩), seq_ok,
    Int.not_ofNat_neg, show ¬ ((s.length : Int) > (max : Int) * 3) by omega, if_false,
    Int.toNat_natCast, readFull_append, show ¬ (utf16Len s > max) by omega]

theorem vByteArray_rt (max : Nat) (b rest : Bytes) (hm : max < 2 ^ 31) (h : b.length ≤ max) :
    vByteArray max (writeBytes b ++ rest) = .ok (b, rest) := by
  simp only [vByteArray, writeBytes, List.append_assoc, vVarInt_rt _ _ (show i32 b.length from ⟨by omega, by omega⟩), seq_ok,
    Int.not_ofNat_neg, show ¬ ((b.length : Int) > (max : Int)) by omega, if_false,
    Int.toNat_natCast, readFull_append]

theorem vOptional_some {α : Type} (rd : Bytes → Rd α) (tail : Bytes) (v : α) (rest : Bytes)
    (h : rd tail = .ok (v, rest)) :
    vOptional rd (writeBool true ++ tail) = .ok (some v, rest) := by
  unfold vOptional
  rw [vBool_rt]
  simp [h]

theorem vOptional_none {α : Type} (rd : Bytes → Rd α) (rest : Bytes) :
    vOptional rd (writeBool false ++ rest) = .ok (none, rest) := by
  unfold vOptional
  rw [vBool_rt]
  simp

theorem vRest_rt (max : Nat) (d : Bytes) (h : d.length ≤ max) : vRest max d = .ok (d, []) := by
  unfold vRest
  have : ¬ d.length > max := by omega
  simp [this]

theorem writeBytes17_short (b : Bytes) (h : b.length ≤ 32767) : writeBytes17 b = beBytes 2 b.length ++ b := by
  have hl : b.length < 32768 := Nat.lt_succ_of_le h
  simp only [writeBytes17, writeExtShort, Nat.div_eq_of_lt hl, Nat.mod_eq_of_lt hl, Nat.zero_mod, ne_eq,
    not_true, if_false]

theorem vShortArray_rt (b rest : Bytes) (h : b.length ≤ 32767) :
    vShortArray (writeBytes17 b ++ rest) = .ok (b, rest) := by
  rw [writeBytes17_short b h, vShortArray, vUShort, List.append_assoc, readUint_beBytes 2 b.length _ (by omega), seq_ok,
    if_neg (by omega)]
  exact readFull_append b rest

/-- FML's `readVarShort` is the reader gate itself uses for the 1.7 length -/
theorem vVarShort_eq (bs : Bytes) : vVarShort bs = readExtShort bs := by
  unfold vVarShort readExtShort vUShort
  rcases readUint 2 bs with e | ⟨low, r⟩
  · rfl
  · simp only [seq_ok]
    split
    · rcases readByte r with e | ⟨h, r'⟩ <;> rfl
    · rfl

theorem vVarShortArray_rt (b rest : Bytes) (h : b.length ≤ forgeMaxArrayLength) :
    vVarShortArray (writeBytes17 b ++ rest) = .ok (b, rest) := by
  have hf : forgeMaxArrayLength < 2 ^ 23 := by decide
  rw [vVarShortArray, writeBytes17, List.append_assoc, vVarShort_eq, readExtShort_rt _ _ (by omega), seq_ok]
  exact readFull_append b rest

theorem vProperty_rt (p : Property) (rest : Bytes) (h : propOk p) :
    vProperty (writeProperty p ++ rest) = .ok (toVProp p, rest) := by
  obtain ⟨h1, h2, h3⟩ := h
  have sig : vOptional (vString 1024)
      ((if p.signature.length ≠ 0 then writeBool true ++ writeBytes p.signature else writeBool false) ++ rest) =
      .ok (if p.signature.isEmpty then none else some p.signature, rest) := by
    cases hs : p.signature with
    | nil => exact vOptional_none _ _
    | cons a t =>
      rw [List.length_cons, if_pos (Nat.succ_ne_zero _), List.append_assoc]
      exact vOptional_some _ _ _ _ (vString_rt 1024 _ _ (by omega) (hs ▸ h3))
  simp only [vProperty, writeProperty, toVProp, List.append_assoc, vString_rt 64 _ _ (by omega) h1,
    vString_rt 32767 _ _ (by omega) h2, sig, seq_ok]

theorem vProperties_rt (ps : List Property) (rest : Bytes) (h : propsOk ps) :
    vProperties (writeProperties ps ++ rest) = .ok (ps.map toVProp, rest) := by
  obtain ⟨h1, h2⟩ := h
  simp only [vProperties, writeProperties, writeList, List.append_assoc,
    vVarInt_rt _ _ (show i32 ps.length from ⟨by omega, by omega⟩), seq_ok, Int.not_ofNat_neg,
    show ¬ ((ps.length : Int) > 16) by omega, if_false, Int.toNat_natCast]
  exact readN_map_rt writeProperty vProperty toVProp propOk vProperty_rt ps rest h2

theorem hexVal_hexDigit : ∀ n, n < 16 → hexVal (hexDigit n) = some n := by decide

theorem unhex_cons2 (b : UInt8) (r : Bytes) :
    unhex (hexDigit (b.toNat / 16) :: hexDigit (b.toNat % 16) :: r) = (unhex r).map (b :: ·) := by
  have hb := b.toNat_lt
  simp only [unhex, hexVal_hexDigit _ (show b.toNat / 16 < 16 by omega), hexVal_hexDigit _ (show b.toNat % 16 < 16 by omega)]
  have : UInt8.ofNat (b.toNat / 16 * 16 + b.toNat % 16) = b := by
    rw [Nat.div_add_mod' b.toNat 16]; simp
  cases unhex r with
  | none => rfl
  | some t => simp only [Option.map, this]

theorem unhex_hexBytes (u : Bytes) : unhex (hexBytes u) = some u := by
  induction u with
  | nil => rfl
  | cons b t ih => simp only [hexBytes, unhex_cons2, ih, Option.map]

theorem hexBytes_length (u : Bytes) : (hexBytes u).length = 2 * u.length := by
  induction u with
  | nil => rfl
  | cons b t ih => simp only [hexBytes, List.length_cons, ih]; omega

theorem parseUndashed_rt (u : Bytes) (h : isUUID u) : parseUndashedUUID (uuidUndashed u) = some u := by
  unfold parseUndashedUUID uuidUndashed
  rw [hexBytes_length, h, if_pos (by decide), unhex_hexBytes]

theorem len16 (u : Bytes) (h : u.length = 16) : ∃ b0 b1 b2 b3 b4 b5 b6 b7 b8 b9 b10 b11 b12 b13 b14 b15, u = [b0,b1,b2,b3,b4,b5,b6,b7,b8,b9,b10,b11,b12,b13,b14,b15] := by
  rcases u with _ | ⟨b0, u⟩
  · simp at h
  rcases u with _ | ⟨b1, u⟩
  · simp at h
  rcases u with _ | ⟨b2, u⟩
  · simp at h
  rcases u with _ | ⟨b3, u⟩
  · simp at h
  rcases u with _ | ⟨b4, u⟩
  · simp at h
  rcases u with _ | ⟨b5, u⟩
  · simp at h
  rcases u with _ | ⟨b6, u⟩
  · simp at h
  rcases u with _ | ⟨b7, u⟩
  · simp at h
  rcases u with _ | ⟨b8, u⟩
  · simp at h
  rcases u with _ | ⟨b9, u⟩
  · simp at h
  rcases u with _ | ⟨b10, u⟩
  · simp at h
  rcases u with _ | ⟨b11, u⟩
  · simp at h
  rcases u with _ | ⟨b12, u⟩
  · simp at h
  rcases u with _ | ⟨b13, u⟩
  · simp at h
  rcases u with _ | ⟨b14, u⟩
  · simp at h
  rcases u with _ | ⟨b15, u⟩
  · simp at h
  rcases u with _ | ⟨x, u⟩
  · exact ⟨b0,b1,b2,b3,b4,b5,b6,b7,b8,b9,b10,b11,b12,b13,b14,b15, rfl⟩
  · simp at h

theorem parseDashed_rt (u : Bytes) (h : isUUID u) : parseDashedUUID (uuidString u) = some u := by
  -- with the sixteen bytes named, the groups, the dash positions and the `take`/`drop` of the parser
  -- compute; `unhex_cons2` then undoes `hexBytes` byte by byte
  obtain ⟨b0,b1,b2,b3,b4,b5,b6,b7,b8,b9,b10,b11,b12,b13,b14,b15, rfl⟩ := len16 u h
  have e : uuidString [b0,b1,b2,b3,b4,b5,b6,b7,b8,b9,b10,b11,b12,b13,b14,b15] =
      hexBytes [b0,b1,b2,b3] ++ 45 :: (hexBytes [b4,b5] ++ 45 :: (hexBytes [b6,b7] ++ 45 :: (hexBytes [b8,b9] ++ 45 :: hexBytes [b10,b11,b12,b13,b14,b15]))) := by
    simp [uuidString]
  rw [e]
  simp only [hexBytes, parseDashedUUID, List.cons_append, List.nil_append, List.length_cons, List.length_nil,
    List.getD_cons_succ, List.getD_cons_zero, List.take_succ_cons, List.take_zero, List.drop_succ_cons, List.drop_zero]
  simp only [and_self, if_true]
  simp only [unhex_cons2]
  simp [unhex]

theorem splitFirstColon_append (a c : Bytes) (h : a.contains 58 = false) :
    splitFirstColon (a ++ 58 :: c) = some (a, c) := by
  induction a with
  | nil => simp [splitFirstColon]
  | cons x t ih =>
    simp only [List.contains_cons, Bool.or_eq_false_iff] at h
    have hx : x ≠ 58 := by
      intro hc; subst hc; simp at h
    simp only [List.cons_append, splitFirstColon, hx, if_false, ih h.2]

/-- both sides are the same chain of `if`s; the channel constants regenerated from the Go source
    evaluate to the literals of the reference, which is what `rfl` checks -/
theorem transformChannel_eq (name : Bytes) : transformChannel name = legacyToModern name := by
  unfold transformChannel transformChannelWith legacyToModern
  rfl

theorem keep_pathChar (b : UInt8) (h : keepIdent b = true) : pathChar b = true := by
  unfold pathChar nsChar
  simp only [keepIdent, Bool.or_eq_true] at h ⊢
  rcases h with ((h | h) | h) | h
  · exact .inl (.inl (.inl (.inl (.inl h))))
  · exact .inl (.inl (.inl (.inl (.inr h))))
  · exact .inl (.inr h)
  · exact .inl (.inl (.inl (.inr h)))

theorem filter_no_colon (xs : Bytes) :
    (xs.filter (fun b => Vanilla.isLower b || Vanilla.isDigit b || b == 45 || b == 95)).contains 58 = false := by
  rw [List.contains_eq_mem, decide_eq_false_iff_not, List.mem_filter]
  exact fun h => absurd h.2 (by decide)

theorem ite_ind {α : Type} {P : α → Prop} {c : Prop} [Decidable c] {a b : α} (ha : c → P a) (hb : ¬ c → P b) :
    P (if c then a else b) := by
  by_cases h : c
  · rw [if_pos h]; exact ha h
  · rw [if_neg h]; exact hb h

/-- the mapping has three kinds of outcome: the name itself (it has a colon), one of four fixed identifiers,
    or `legacy:` followed by the kept characters of the lowercased name -/
theorem legacyToModern_cases (P : Bytes → Prop) (name : Bytes)
    (colon : name.contains 58 = true → P name)
    (known : ∀ c ∈ [asc "minecraft:register", asc "minecraft:unregister", asc "minecraft:brand",
      asc "bungeecord:main"], P c)
    (other : P (asc "legacy:" ++ (name.map asciiLower).filter keepIdent)) : P (legacyToModern name) :=
  ite_ind colon fun _ =>
  ite_ind (fun _ => known _ (.head _)) fun _ =>
  ite_ind (fun _ => known _ (.tail _ (.head _))) fun _ =>
  ite_ind (fun _ => known _ (.tail _ (.tail _ (.head _)))) fun _ =>
  ite_ind (fun _ => known _ (.tail _ (.tail _ (.tail _ (.head _))))) fun _ => other

theorem known_channels : ∀ c ∈ [asc "minecraft:register", asc "minecraft:unregister", asc "minecraft:brand",
    asc "bungeecord:main"], validIdentifier c = true ∧ isAscii c ∧ c.length ≤ 20 := by decide +kernel

/-- a name that has a colon is passed on as it is, so it has to be an identifier already -/
theorem legacyToModern_valid (name : Bytes) (h : name.contains 58 = true → validIdentifier name = true) :
    validIdentifier (legacyToModern name) = true := by
  refine legacyToModern_cases (validIdentifier · = true) name h (fun c hc => (known_channels c hc).1) ?_
  · have : asc "legacy:" = [108, 101, 103, 97, 99, 121] ++ [58] := by decide
    rw [validIdentifier, this, List.append_assoc, List.singleton_append, splitFirstColon_append _ _ (by decide)]
    rw [Bool.and_eq_true, List.all_eq_true, List.all_eq_true]
    exact ⟨by decide, fun b hb => keep_pathChar b (List.mem_filter.1 hb).2⟩

theorem utf16Len_ascii (s : Bytes) (h : isAscii s) : utf16Len s = s.length := by
  unfold utf16Len
  have h1 : s.filter (fun b => b.toNat / 64 != 2) = s := by
    rw [List.filter_eq_self]
    intro b hb
    have := h b hb
    simp only [bne_iff_ne, ne_eq]
    omega
  have h2 : s.filter (fun b => decide (b.toNat ≥ 240)) = [] := by
    rw [List.filter_eq_nil_iff]
    intro b hb
    have := h b hb
    simp only [decide_eq_true_eq]
    omega
  rw [h1, h2]; rfl

theorem strOk_ascii (max : Nat) (s : Bytes) (ha : isAscii s) (hl : s.length ≤ max) : strOk max s := by
  unfold strOk
  rw [utf16Len_ascii _ ha]; omega

theorem asciiLower_ascii (b : UInt8) (h : b.toNat < 128) : (asciiLower b).toNat < 128 := by
  unfold asciiLower
  split
  · rename_i hc
    simp only [Bool.and_eq_true, decide_eq_true_eq, UInt8.le_iff_toNat_le] at hc
    have : (b + 32).toNat = (b.toNat + 32) % 256 := by simp [UInt8.toNat_add]
    rw [this]
    have h1 : (65 : UInt8).toNat = 65 := rfl
    have h2 : (90 : UInt8).toNat = 90 := rfl
    omega
  · exact h

theorem legacyToModern_ascii (name : Bytes) (h : isAscii name) : isAscii (legacyToModern name) := by
  refine legacyToModern_cases isAscii name (fun _ => h) (fun c hc => (known_channels c hc).2.1) (fun b hb => ?_)
  rw [List.mem_append] at hb
  rcases hb with hb | hb
  · exact (by decide : isAscii (asc "legacy:")) b hb
  · simp only [List.mem_filter, List.mem_map] at hb
    obtain ⟨⟨a, ha, rfl⟩, _⟩ := hb
    exact asciiLower_ascii a (h a ha)

theorem legacyToModern_length (name : Bytes) : (legacyToModern name).length ≤ name.length + 20 := by
  refine legacyToModern_cases (·.length ≤ name.length + 20) name (fun _ => Nat.le_add_right _ _)
    (fun c hc => Nat.le_trans (known_channels c hc).2.2 (Nat.le_add_left _ _)) ?_
  have := List.length_filter_le keepIdent (name.map asciiLower)
  rw [List.length_map] at this
  rw [List.length_append, show (asc "legacy:").length = 7 by decide]
  omega

/-- 1.13+: the channel name gate writes is accepted by `readIdentifier` and is the mapped name -/
theorem vIdentifier_channel (name rest : Bytes) (ha : isAscii name) (hl : name.length ≤ 32000)
    (hc : name.contains 58 = true → validIdentifier name = true) :
    vIdentifier (writeBytes (transformChannel name) ++ rest) = .ok (legacyToModern name, rest) := by
  have hs : strOk 32767 (legacyToModern name) :=
    strOk_ascii 32767 _ (legacyToModern_ascii name ha) (by have := legacyToModern_length name; omega)
  rw [transformChannel_eq, vIdentifier, vString_rt 32767 _ _ (by omega) hs, seq_ok, legacyToModern_valid name hc,
    if_pos rfl]

/-- every bit of a byte assembled from eight flags is the flag it was assembled from -/
theorem testBit_of_flags : ∀ (c0 c1 c2 c3 c4 c5 c6 c7 : Bool),
    let b := UInt8.ofNat ((if c0 then 1 else 0) + ((if c1 then 2 else 0) + ((if c2 then 4 else 0) +
      ((if c3 then 8 else 0) + ((if c4 then 16 else 0) + ((if c5 then 32 else 0) + ((if c6 then 64 else 0) +
      ((if c7 then 128 else 0) + 0))))))))
    testBit b 0 = c0 ∧ testBit b 1 = c1 ∧ testBit b 2 = c2 ∧ testBit b 3 = c3 ∧
    testBit b 4 = c4 ∧ testBit b 5 = c5 ∧ testBit b 6 = c6 ∧ testBit b 7 = c7 := by decide +kernel

theorem testBit_actionBits (acts : List Action) (i : Nat) (hi : i < 8) :
    testBit (actionBits acts) i = acts.contains i := by
  have hb := testBit_of_flags (acts.contains 0) (acts.contains 1) (acts.contains 2) (acts.contains 3)
    (acts.contains 4) (acts.contains 5) (acts.contains 6) (acts.contains 7)
  -- `actionBits acts` unfolds to the sum in `testBit_of_flags`, flag `i` being `acts.contains i`
  change let b := actionBits acts; _ at hb
  obtain ⟨b0, b1, b2, b3, b4, b5, b6, b7⟩ := hb
  match i, hi with
  | 0, _ => exact b0
  | 1, _ => exact b1
  | 2, _ => exact b2
  | 3, _ => exact b3
  | 4, _ => exact b4
  | 5, _ => exact b5
  | 6, _ => exact b6
  | 7, _ => exact b7

/-! ## NBT: families of well-formed blobs (non-vacuity of `WfNbt`) -/

theorem skipBytes_append (a rest : Bytes) : skipBytes a.length (a ++ rest) = some rest := by
  simp [skipBytes]

theorem skipUtf_rt (s rest : Bytes) (h : s.length < 65536) :
    skipUtf (beBytes 2 s.length ++ (s ++ rest)) = some rest := by
  rw [skipUtf, readUint_beBytes 2 s.length _ (by omega)]
  exact skipBytes_append s rest

theorem nbtSkip_string (f : Nat) (bs : Bytes) : nbtSkip (f + 1) (.payload 8) bs = skipUtf bs := rfl
theorem nbtSkip_compound (f : Nat) (bs : Bytes) : nbtSkip (f + 1) (.payload 10) bs = nbtSkip f .compound bs := rfl
theorem nbtSkip_end (f : Nat) (r : Bytes) : nbtSkip (f + 1) .compound (0 :: r) = some r := rfl
theorem nbtSkip_entry (f : Nat) (t : UInt8) (r r1 r2 : Bytes) (ht : t ≠ 0) (h1 : skipUtf r = some r1)
    (h2 : nbtSkip f (.payload t) r1 = some r2) :
    nbtSkip (f + 1) .compound (t :: r) = nbtSkip f .compound r2 := by
  simp only [nbtSkip, if_neg ht, h1, h2]

/-- the reader accepts a tag whose payload the skipper delimits -/
theorem vNbt_of_skip (t : UInt8) (r rest : Bytes) (ht : t ≠ 0)
    (h : nbtSkip (2 * (r ++ rest).length + 7 + 1) (.payload t) (r ++ rest) = some rest) :
    vNbt (t :: r ++ rest) = .ok (t :: r, rest) := by
  rw [List.cons_append, vNbt, if_neg ht, h]
  simp only [List.length_cons, List.length_append]
  rw [Nat.add_right_comm, Nat.add_sub_cancel, List.take_succ_cons, List.take_left']
  rfl

/-- a string tag (a plain-text component) is one well-formed nameless tag -/
theorem wfNbt_string (s : Bytes) (h : s.length < 65536) : WfNbt (8 :: (beBytes 2 s.length ++ s)) := fun rest =>
  vNbt_of_skip 8 _ rest (by decide) (by rw [nbtSkip_string, List.append_assoc, skipUtf_rt s rest h])

/-- a compound `{text: <s>}` (what a text component with content `s` becomes) is well-formed -/
theorem wfNbt_text_compound (s : Bytes) (h : s.length < 65536) :
    WfNbt (10 :: 8 :: 0 :: 4 :: 116 :: 101 :: 120 :: 116 :: (beBytes 2 s.length ++ s ++ [0])) := fun rest => by
  refine vNbt_of_skip 10 _ rest (by decide) ?_
  have hname : ∀ tl : Bytes, skipUtf (0 :: 4 :: 116 :: 101 :: 120 :: 116 :: tl) = some tl := fun tl => by
    simp [skipUtf, readUint, readFull, beNat, skipBytes]
  rw [show ∀ n, 2 * n + 7 + 1 = 2 * n + 5 + 1 + 1 + 1 from fun n => rfl, nbtSkip_compound]
  simp only [List.cons_append, List.append_assoc, List.nil_append]
  rw [nbtSkip_entry _ 8 _ _ _ (by decide) (hname _) (by rw [nbtSkip_string]; exact skipUtf_rt s (0 :: rest) h), nbtSkip_end]

theorem vComponent_rt (p : Int) (c : Comp) (rest : Bytes) (h1 : compOk p c) (h2 : compNbtOk p c) :
    vComponent p (writeComp p c ++ rest) = .ok (compBytes p c, rest) := by
  unfold vComponent writeComp compBytes
  rw [v1_20_3_eq]
  by_cases hp : p ≥ 765
  · simp only [hp, if_true]
    unfold writeBinaryTag
    rw [v1_20_2_eq]
    have : ¬ p < 764 := by omega
    simp only [this, if_false, List.append_nil, List.singleton_append]
    exact h2 hp rest
  · simp only [hp, if_false]
    rcases h1 with h1 | h1
    · exact absurd h1 hp
    · exact vString_rt 262144 _ _ (by omega) h1

/-- a field that exists only under the condition `c`, which the sender writes under the same condition -/
theorem optField_rt {α : Type} (c : Prop) [Decidable c] {rd : Bytes → Rd α} (enc : Bytes) {v : α} {rest : Bytes}
    (h : c → rd (enc ++ rest) = .ok (v, rest)) :
    (if c then seq (rd ((if c then enc else []) ++ rest)) fun v r => (.ok (some v, r) : Rd (Option α))
      else .ok (none, (if c then enc else []) ++ rest)) = .ok (if c then some v else none, rest) := by
  by_cases hc : c
  · simp only [hc, if_true, h hc, seq_ok]
  · simp only [hc, if_false, List.nil_append]

theorem vWhen_rt {α : Type} {c : Bool} {rd : Bytes → Rd α} (enc : Bytes) {v : α} {rest : Bytes}
    (h : c = true → rd (enc ++ rest) = .ok (v, rest)) :
    vWhen c rd ((if c then enc else []) ++ rest) = .ok (if c then some v else none, rest) :=
  optField_rt (c = true) enc h

theorem flatten_filter_cons {α : Type} (f : α → Bool) (g : α → Bytes) (a : α) (l : List α) :
    (((a :: l).filter f).map g).flatten = (if f a then g a else []) ++ ((l.filter f).map g).flatten := by
  cases h : f a <;> simp [h]

theorem vProfileKey_rt (expiry : Int) (pub sig rest : Bytes) (h1 : i64 expiry) (h2 : pub.length ≤ 512)
    (h3 : sig.length ≤ 4096) (holder : Bytes) :
    vProfileKey (writePlayerKey ⟨expiry, pub, sig, holder⟩ ++ rest) = .ok ((expiry, pub, sig), rest) := by
  simp only [vProfileKey, writePlayerKey, List.append_assoc, vLong_rt _ _ h1, vByteArray_rt 512 _ _ (by omega) h2,
    vByteArray_rt 4096 _ _ (by omega) h3, seq_ok]

theorem vSession_rt (s : ChatSession) (rest : Bytes) (h : sessionOk s) :
    vSession (writeUUID s.id ++ (writePlayerKey ⟨s.expiry, s.pub, s.sig, []⟩ ++ rest)) = .ok (toVSession s, rest) := by
  simp only [vSession, vUUID_rt _ _ h.1, vProfileKey_rt _ _ _ _ h.2.1 h.2.2.1 h.2.2.2, seq_ok, toVSession]

theorem vAddPlayer_rt (name : Bytes) (ps : List Property) (rest : Bytes) (h1 : strOk 16 name) (h2 : propsOk ps) :
    vAddPlayer (writeBytes name ++ writeProperties ps ++ rest) = .ok ((name, ps.map toVProp), rest) := by
  simp only [vAddPlayer, List.append_assoc, vString_rt 16 _ _ (by omega) h1, vProperties_rt _ _ h2, seq_ok]

theorem initChat_rt (p : Int) (e : Entry) (rest : Bytes) (h : optAll e.chat sessionOk) :
    vOptional vSession (encAction p e 1 ++ rest) = .ok (e.chat.map toVSession, rest) := by
  simp only [encAction]
  cases hs : e.chat with
  | none => exact vOptional_none _ _
  | some s =>
    simp only [List.append_assoc]
    exact vOptional_some vSession _ _ _ (vSession_rt s _ (optAll_some h hs))

theorem displayName_rt (p : Int) (e : Entry) (rest : Bytes) (h : optAll e.display (compOk p))
    (hn : ∀ c, e.display = some c → compNbtOk p c) :
    vOptional (vComponent p) (encAction p e 5 ++ rest) = .ok (e.display.map (compBytes p), rest) := by
  simp only [encAction]
  cases hs : e.display with
  | none => exact vOptional_none _ _
  | some c =>
    simp only [List.append_assoc]
    exact vOptional_some (vComponent p) _ _ _ (vComponent_rt p c _ (optAll_some h hs) (hn c hs))

/-- one entry, given that the decoder's action predicate agrees with the sender's set on 0..7 -/
theorem rdEntry_rt (p : Int) (acts : List Action) (has : Nat → Bool) (e : Entry) (rest : Bytes)
    (hh : ∀ i, i < 8 → has i = acts.contains i) (ok : entryOk p acts e) (okn : entryNbtOk p acts e) :
    rdEntry p has (encEntry p acts e ++ rest) = .ok (meantEntry p acts e, rest) := by
  obtain ⟨hid, h0, h1, h2, h4, h5, h6⟩ := ok
  unfold rdEntry encEntry meantEntry upsertActions
  rw [hh 0 (by omega), hh 1 (by omega), hh 2 (by omega), hh 3 (by omega), hh 4 (by omega), hh 5 (by omega),
    hh 6 (by omega), hh 7 (by omega)]
  simp only [flatten_filter_cons, List.filter_nil, List.map_nil, List.flatten_nil, List.append_nil, List.append_assoc]
  rw [vUUID_rt _ _ hid, seq_ok,
    vWhen_rt (encAction p e 0) fun hc => vAddPlayer_rt e.name e.props _ (h0 hc).1 (h0 hc).2, seq_ok,
    vWhen_rt (encAction p e 1) fun hc => initChat_rt p e _ (h1 hc), seq_ok,
    vWhen_rt (encAction p e 2) fun hc => vVarInt_rt _ _ (h2 hc), seq_ok,
    vWhen_rt (encAction p e 3) fun _ => vBool_rt _ _, seq_ok,
    vWhen_rt (encAction p e 4) fun hc => vVarInt_rt _ _ (h4 hc), seq_ok,
    vWhen_rt (encAction p e 5) fun hc => displayName_rt p e _ (h5 hc) (okn hc), seq_ok,
    vWhen_rt (encAction p e 6) fun hc => vVarInt_rt _ _ (h6 hc), seq_ok,
    vWhen_rt (encAction p e 7) fun _ => vBool_rt _ _, seq_ok]

theorem nActions_le (p : Int) : nActions p ≤ 8 := by
  unfold nActions
  split
  · omega
  · split <;> omega

/-- the decoder's view of the bit set = membership in the sender's action list -/
theorem has_eq (p : Int) (acts : List Action) (hw : ∀ a ∈ acts, a < nActions p) (i : Nat) (hi : i < 8) :
    (decide (i < nActions p) && testBit (actionBits acts) i) = acts.contains i := by
  rw [testBit_actionBits acts i hi]
  by_cases hc : acts.contains i = true
  · rw [hc, Bool.and_true, decide_eq_true_eq]
    exact hw i (List.contains_iff_mem.1 hc)
  · rw [Bool.not_eq_true] at hc
    rw [hc, Bool.and_false]

theorem rdUpsert_rt (p : Int) (acts : List Action) (es : List Entry) (rest : Bytes)
    (ok : okUpsert p acts es) (okn : ∀ e ∈ es, entryNbtOk p acts e) :
    rdUpsert p (encUpsert p acts es ++ rest) = .ok (meantUpsert p acts es, rest) := by
  obtain ⟨hw, hlen, hes⟩ := ok
  have hh := has_eq p acts hw
  simp only [rdUpsert, encUpsert, meantUpsert, List.cons_append, List.nil_append, List.append_assoc,
    readByte, seq_ok, vVarInt_rt _ _ (show i32 es.length from ⟨by omega, by omega⟩), Int.not_ofNat_neg,
    if_false, Int.toNat_natCast,
    readN_map_rt (encEntry p acts) _ (meantEntry p acts) (fun e => entryOk p acts e ∧ entryNbtOk p acts e)
      (fun e r h => rdEntry_rt p acts _ e r hh h.1 h.2) es rest (fun e he => ⟨hes e he, okn e he⟩)]
  rw [List.filter_congr fun i hi => hh i (List.mem_range.1 hi)]

theorem rdRemove_rt (ids : List Bytes) (rest : Bytes) (ok : okRemove ids) :
    (seq (vVarInt (encRemove ids ++ rest)) fun n r =>
      if n < 0 then .error .negative else readN vUUID n.toNat r) = .ok (ids, rest) := by
  obtain ⟨hlen, hu⟩ := ok
  simp only [encRemove, List.append_assoc, vVarInt_rt _ _ (show i32 ids.length from ⟨by omega, by omega⟩), seq_ok,
    Int.not_ofNat_neg, if_false, Int.toNat_natCast]
  exact readN_rt writeUUID vUUID isUUID vUUID_rt ids rest hu

theorem isAscii_append (a b : Bytes) : isAscii (a ++ b) ↔ isAscii a ∧ isAscii b :=
  List.forall_mem_append

theorem hexDigit_ascii : ∀ n, n < 16 → (hexDigit n).toNat < 128 := by decide

theorem hexBytes_ascii (u : Bytes) : isAscii (hexBytes u) := by
  induction u with
  | nil => intro b hb; simp [hexBytes] at hb
  | cons x t ih =>
    intro b hb
    simp only [hexBytes, List.mem_cons] at hb
    have hx := x.toNat_lt
    rcases hb with rfl | rfl | hb
    · exact hexDigit_ascii _ (by omega)
    · exact hexDigit_ascii _ (by omega)
    · exact ih b hb

theorem uuidString_ascii (u : Bytes) : isAscii (uuidString u) := by
  unfold uuidString
  have d : isAscii [45] := by decide
  simp only [isAscii_append, hexBytes_ascii, d, and_self]

theorem uuidString_length (u : Bytes) (h : isUUID u) : (uuidString u).length = 36 := by
  unfold uuidString isUUID at *
  simp only [List.length_append, hexBytes_length, List.length_take, List.length_drop, List.length_cons,
    List.length_nil, h]
  omega

theorem rdUuidEra_rt (p : Int) (u rest : Bytes) (hu : isUUID u) :
    rdUuidEra p
      ((if p ≥ V.v1_19 then writeUUID u else if p ≥ V.v1_16 then writeUUID u
        else if p ≥ V.v1_7_6 then writeBytes (uuidString u) else writeBytes (uuidUndashed u)) ++ rest) =
      .ok (u, rest) := by
  unfold rdUuidEra
  rw [v1_19_eq, v1_16_eq, v1_7_6_eq]
  by_cases e2 : p ≥ 735
  · rw [if_pos e2, if_pos e2, ite_self]
    exact vUUID_rt _ _ hu
  · rw [if_neg e2, if_neg (show ¬ p ≥ 759 by omega), if_neg e2]
    by_cases e3 : p ≥ 5
    · rw [if_pos e3, if_pos e3,
        vString_rt 36 _ _ (by omega) (strOk_ascii 36 _ (uuidString_ascii u) (by rw [uuidString_length u hu]; omega)),
        seq_ok, parseDashed_rt u hu]
    · have hl : (uuidUndashed u).length = 32 := by
        unfold uuidUndashed; rw [hexBytes_length, hu]
      rw [if_neg e3, if_neg e3, vString_rt 32 _ _ (by omega) (strOk_ascii 32 (uuidUndashed u) (hexBytes_ascii u) (Nat.le_of_eq hl)),
        seq_ok, parseUndashed_rt u hu]

/-- the holder gate means to send is one of the two ids it was given -/
theorem meantHolder_ok (s : ServerLogin) (hh : isUUID s.holder) (hk : optAll s.key keyOk) :
    optAll (meantHolder s) isUUID := by
  unfold meantHolder
  cases hs : s.key with
  | none => exact ite_ind (P := (optAll · isUUID)) (fun _ => hh) fun _ => trivial
  | some k =>
    exact ite_ind (P := (optAll · isUUID)) (fun _ => (optAll_some hk hs).2.2.2) fun _ =>
      ite_ind (P := (optAll · isUUID)) (fun _ => hh) fun _ => trivial

/-- the optional key block of 1.19–1.19.2 -/
theorem optKey_rt (k : Option PlayerKey) (tail : Bytes) (h : optAll k keyOk) :
    vOptional vProfileKey (encOptKey k ++ tail) = .ok (k.map (fun k => (k.expiry, k.pub, k.sig)), tail) := by
  unfold encOptKey
  cases k with
  | none => exact vOptional_none _ _
  | some k =>
    rw [List.append_assoc]
    exact vOptional_some vProfileKey _ _ _ (vProfileKey_rt k.expiry k.pub k.sig tail h.1 h.2.1 h.2.2.1 k.holder)

/-- the optional uuid of 1.19.1–1.20.1 -/
theorem optUUID_rt (u : Option Bytes) (tail : Bytes) (h : optAll u isUUID) :
    vOptional vUUID (encOptUUID u ++ tail) = .ok (u, tail) := by
  unfold encOptUUID
  cases u with
  | none => exact vOptional_none _ _
  | some u =>
    rw [List.append_assoc]
    exact vOptional_some vUUID _ _ _ (vUUID_rt u tail h)

/-- the uuid gate writes in the 1.19.1–1.20.1 era is the intended holder -/
theorem loginHolder_eq (s : ServerLogin) : loginHolder s = meantHolder s := by
  unfold loginHolder meantHolder keyHolderSet
  cases hk : s.key with
  | none => simp
  | some k => by_cases hh : (k.holder != nilUUID) = true <;> simp [hh]

/-! ## NBT: a blob the reader accepts exactly is well-formed
`WfNbt` quantifies over every continuation, `nbtClosed` runs the reader once on the blob alone: the
bridge is that every reader the skipper is made of is stable under input appended behind. -/

theorem skipBytes_app (n : Nat) (bs r x : Bytes) (h : skipBytes n bs = some r) :
    skipBytes n (bs ++ x) = some (r ++ x) := by
  unfold skipBytes at *
  split at h
  · rename_i hn
    have : n ≤ (bs ++ x).length := by simp; omega
    simp only [this, if_true]
    injection h with h
    rw [← h, List.drop_append_of_le_length hn]
  · cases h

/-- a conditional between two outcomes keeps a relation that both branches keep -/
theorem ite_app {c : Prop} [Decidable c] {a b a' b' : Option Bytes} {r r' : Bytes}
    (ha : a = some r → a' = some r') (hb : b = some r → b' = some r') :
    (if c then a else b) = some r → (if c then a' else b') = some r' := by
  by_cases h : c
  · rw [if_pos h, if_pos h]; exact ha
  · rw [if_neg h, if_neg h]; exact hb

theorem readUint_app (n : Nat) (bs : Bytes) (v : Nat) (r x : Bytes) (h : readUint n bs = .ok (v, r)) :
    readUint n (bs ++ x) = .ok (v, r ++ x) := by
  unfold readUint at *
  split at h
  · rename_i a r' hf
    rw [readFull_app n bs a r' x hf]
    cases h
    rfl
  · cases h

theorem readInt_app (n : Nat) (bs : Bytes) (v : Int) (r x : Bytes) (h : readInt n bs = .ok (v, r)) :
    readInt n (bs ++ x) = .ok (v, r ++ x) := by
  unfold readInt at *
  split at h
  · rename_i a r' hf
    rw [readUint_app n bs a r' x hf]
    cases h
    rfl
  · cases h

theorem skipArray_app (w : Nat) (bs r x : Bytes) (h : skipArray w bs = some r) :
    skipArray w (bs ++ x) = some (r ++ x) := by
  unfold skipArray at *
  split at h
  · rename_i len r' hf
    rw [readInt_app 4 bs len r' x hf]
    exact ite_app (fun h => by cases h) (skipBytes_app _ _ _ _) h
  · cases h

theorem skipUtf_app (bs r x : Bytes) (h : skipUtf bs = some r) : skipUtf (bs ++ x) = some (r ++ x) := by
  unfold skipUtf at *
  split at h
  · rename_i len r' hf
    rw [readUint_app 2 bs len r' x hf]
    exact skipBytes_app _ _ _ _ h
  · cases h

/-- more fuel and more input behind it change nothing for a skip that succeeded -/
theorem nbtSkip_app (f : Nat) : ∀ (m : NbtMode) (bs r x : Bytes) (k : Nat),
    nbtSkip f m bs = some r → nbtSkip (f + k) m (bs ++ x) = some (r ++ x) := by
  induction f with
  | zero => intro m bs r x k h; cases h
  | succ f ih =>
    intro m bs r x k
    rw [show f + 1 + k = (f + k) + 1 by omega]
    cases m with
    | payload t =>
      simp only [nbtSkip]
      -- one `ite_app` per tag type 1–12, in the order of the definition; the list (type 9) is done below
      refine ite_app (skipBytes_app _ _ _ _) <| ite_app (skipBytes_app _ _ _ _) <|
        ite_app (skipBytes_app _ _ _ _) <| ite_app (skipBytes_app _ _ _ _) <|
        ite_app (skipBytes_app _ _ _ _) <| ite_app (skipBytes_app _ _ _ _) <|
        ite_app (skipArray_app _ _ _ _) <| ite_app (skipUtf_app _ _ _) <| ite_app ?list <|
        ite_app (ih _ _ _ _ _) <| ite_app (skipArray_app _ _ _ _) <| ite_app (skipArray_app _ _ _ _) (fun h => by cases h)
      intro h
      cases bs with
      | nil => cases h
      | cons et r0 =>
        simp only [List.cons_append] at h ⊢
        split at h
        · rename_i cnt r' hf
          rw [readInt_app 4 r0 cnt r' x hf]
          exact ite_app (fun h => by cases h; rfl) (ite_app (fun h => by cases h) (ih _ _ _ _ _)) h
        · cases h
    | list t n =>
      cases n with
      | zero => intro h; cases h; rfl
      | succ n =>
        simp only [nbtSkip]
        intro h
        split at h
        · rename_i r1 hp
          rw [ih _ _ _ x k hp]
          exact ih _ _ _ _ _ h
        · cases h
    | compound =>
      cases bs with
      | nil => intro h; cases h
      | cons t r0 =>
        simp only [List.cons_append, nbtSkip]
        refine ite_app (fun h => by cases h; rfl) fun h => ?_
        split at h
        · cases h
        · rename_i r1 hu
          rw [skipUtf_app _ _ x hu]
          simp only
          split at h
          · rename_i r2 hp
            rw [ih _ _ _ x k hp]
            exact ih _ _ _ _ _ h
          · cases h

/-- a blob that the skipper accepts exactly (nothing left over) is self-delimiting in front of
    every continuation: the NBT hypothesis is decidable -/
theorem wfNbt_of_closed (blob : Bytes) (h : vNbt blob = .ok (blob, [])) : WfNbt blob := by
  intro rest
  cases blob with
  | nil => cases h
  | cons t r =>
    rw [vNbt] at h
    split at h
    · cases h
    · rename_i ht
      refine vNbt_of_skip t r rest ht ?_
      split at h
      · rename_i r0 hs
        obtain rfl : r0 = [] := by injection h with h; injection h
        have := nbtSkip_app _ _ _ _ rest (2 * rest.length) hs
        rwa [List.nil_append, show 2 * r.length + 7 + 1 + 2 * rest.length = 2 * (r ++ rest).length + 7 + 1 by
          rw [List.length_append]; omega] at this
      · cases h

theorem nbtClosed_spec (blob : Bytes) (h : nbtClosed blob = true) : vNbt blob = .ok (blob, []) := by
  unfold nbtClosed at h
  split at h
  · rename_i b hb
    have : b = blob := by simpa using h
    rw [hb, this]
  · cases h

theorem compNbtOk_of_closed (p : Int) (c : Comp) (h : compNbtClosed p c) : compNbtOk p c :=
  fun hp => wfNbt_of_closed _ (nbtClosed_spec _ (h hp))

theorem entryNbtOk_of_closed (p : Int) (acts : List Action) (e : Entry) (h : entryNbtClosed p acts e) :
    entryNbtOk p acts e :=
  fun hc c hs => compNbtOk_of_closed p c (optAll_some (h hc) hs)

end Gate.C07
