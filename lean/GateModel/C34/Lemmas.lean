import GateModel.C34.Spec
/-
C34 — helper lemmas.

A. ring buffer: `slot i` walks the ring from `head` (`slot_zero`, `slot_succ`) and `size` is the index at which it
   reaches `tail` (`eq_size_of_slot`); representation invariant `Rep c L` (live slots hold the list `L` in order,
   all other `counts` slots are zero, `total` = sum of `L`), preserved by `pop` (one `expire` iteration),
   `resize`, `push` (the write in `add`); hence the counter refines the deque machine `absStep`
   for ARBITRARY timestamps (`run_refines`).
B. on time-ordered histories the deque machine holds exactly the trailing window (`absRun_window`).
C. Limiter: the packet counter sees every event with size 1, the byte counter every event while all
   previous calls returned true (`runAll_tracked`, `account_tracked`).
D. ipKey: masking = prefix truncation (`ipKey_v4`, `ipKey_v6`).
E. token bucket bound (`countAllowed_le`), LRU of buckets under the capacity hypothesis (`allowedOf_eq`).
F. first contact of one group by concurrent callers: the atomic sections keep a single bucket (`cinv_run`).
-/
namespace Gate.C34
open Gate

theorem getD_set_self {l : List Int} {i : Nat} {a d : Int} (h : i < l.length) : (l.set i a).getD i d = a := by
  simp [List.getD_eq_getElem?_getD, h]
theorem getD_set_ne {l : List Int} {i j : Nat} {a d : Int} (h : i ≠ j) : (l.set i a).getD j d = l.getD j d := by
  simp [List.getD_eq_getElem?_getD, h]

def Counter.size (c : Counter) : Nat :=
  if c.head ≤ c.tail then c.tail - c.head else c.tail + c.times.length - c.head
def Counter.slot (c : Counter) (i : Nat) : Nat :=
  if c.head + i < c.times.length then c.head + i else c.head + i - c.times.length
def Counter.inLive (c : Counter) (j : Nat) : Prop :=
  (c.head ≤ c.tail ∧ c.head ≤ j ∧ j < c.tail) ∨ (c.tail < c.head ∧ (c.head ≤ j ∨ j < c.tail))

section geometry
variable {c : Counter}

theorem size_cases (c : Counter) (hd : c.head < c.times.length) :
    (c.head ≤ c.tail ∧ c.size + c.head = c.tail) ∨ (c.tail < c.head ∧ c.size + c.head = c.tail + c.times.length) := by
  unfold Counter.size; split <;> omega
theorem slot_cases (c : Counter) (i : Nat) :
    (c.head + i < c.times.length ∧ c.slot i = c.head + i) ∨
    (c.times.length ≤ c.head + i ∧ c.slot i + c.times.length = c.head + i) := by
  unfold Counter.slot; split <;> omega

theorem size_lt (hd : c.head < c.times.length) (tl : c.tail < c.times.length) : c.size < c.times.length := by
  rcases size_cases c hd with ⟨_, _⟩ | ⟨_, _⟩ <;> omega

theorem size_eq_zero_iff (hd : c.head < c.times.length) :
    c.size = 0 ↔ c.head = c.tail := by
  rcases size_cases c hd with ⟨_, _⟩ | ⟨_, _⟩ <;> omega

theorem slot_zero (hd : c.head < c.times.length) : c.slot 0 = c.head := if_pos hd

theorem slot_size (hd : c.head < c.times.length) (tl : c.tail < c.times.length) : c.slot c.size = c.tail := by
  rcases size_cases c hd with ⟨_, _⟩ | ⟨_, _⟩ <;> rcases slot_cases c c.size with ⟨_, _⟩ | ⟨_, _⟩ <;> omega

theorem slot_inj {i j : Nat} (hi : i < c.times.length) (hj : j < c.times.length)
    (h : c.slot i = c.slot j) : i = j := by
  rcases slot_cases c i with ⟨_, _⟩ | ⟨_, _⟩ <;> rcases slot_cases c j with ⟨_, _⟩ | ⟨_, _⟩ <;> omega

theorem slot_length : c.slot c.times.length = c.head := by
  rcases slot_cases c c.times.length with ⟨_, _⟩ | ⟨_, _⟩ <;> omega

/-- `size` is the index at which `slot` reaches `tail`. -/
theorem eq_size_of_slot (hd : c.head < c.times.length) (tl : c.tail < c.times.length) {i : Nat}
    (hi : i < c.times.length) (h : c.slot i = c.tail) : i = c.size :=
  slot_inj hi (size_lt hd tl) (h.trans (slot_size hd tl).symm)

theorem slot_eq_mod (hd : c.head < c.times.length) {i : Nat} (hi : i ≤ c.times.length) :
    c.slot i = (c.head + i) % c.times.length := by
  unfold Counter.slot
  split
  · rename_i h; exact (Nat.mod_eq_of_lt h).symm
  · rename_i h; rw [Nat.mod_eq_sub_mod (Nat.le_of_not_lt h), Nat.mod_eq_of_lt (by omega)]

theorem slot_succ (hd : c.head < c.times.length) {i : Nat} (hi : i < c.times.length) :
    c.slot (i + 1) = (c.slot i + 1) % c.times.length := by
  rw [slot_eq_mod hd hi, slot_eq_mod hd (Nat.le_of_lt hi), Nat.mod_add_mod]; rfl

theorem inLive_slot (hd : c.head < c.times.length) (tl : c.tail < c.times.length) {i : Nat} (hi : i < c.size) :
    c.inLive (c.slot i) := by
  unfold Counter.inLive
  rcases size_cases c hd with ⟨_, _⟩ | ⟨_, _⟩ <;> rcases slot_cases c i with ⟨_, _⟩ | ⟨_, _⟩ <;> omega

theorem exists_slot_of_inLive (hd : c.head < c.times.length) {j : Nat}
    (hj : j < c.times.length) (h : c.inLive j) : ∃ i, i < c.size ∧ c.slot i = j := by
  unfold Counter.inLive at h
  -- the index of `j` counted from `head`, around the end of the ring if `j` lies before `head`
  by_cases b : c.head ≤ j
  · obtain ⟨i, rfl⟩ := Nat.exists_eq_add_of_le b
    refine ⟨i, ?_⟩
    rcases size_cases c hd with ⟨_, _⟩ | ⟨_, _⟩ <;> rcases slot_cases c i with ⟨_, _⟩ | ⟨_, _⟩ <;> omega
  · obtain ⟨k, hk⟩ := Nat.exists_eq_add_of_le (Nat.le_of_lt hd)
    refine ⟨j + k, ?_⟩
    rcases size_cases c hd with ⟨_, _⟩ | ⟨_, _⟩ <;> rcases slot_cases c (j + k) with ⟨_, _⟩ | ⟨_, _⟩ <;> omega

end geometry

structure Rep (c : Counter) (L : List Ev) : Prop where
  lenEq : c.counts.length = c.times.length
  hd : c.head < c.times.length
  tl : c.tail < c.times.length
  sz : L.length = c.size
  content : ∀ i, i < c.size →
    c.times.getD (c.slot i) 0 = (L.getD i (0, 0)).1 ∧ c.counts.getD (c.slot i) 0 = (L.getD i (0, 0)).2
  zero : ∀ j, j < c.times.length → ¬ c.inLive j → c.counts.getD j 0 = 0
  tot : c.total = (L.map (·.2)).sum

/-- The `zero` clause in terms of `slot`: a slot that no index below `size` reaches holds count 0. -/
theorem Rep.zero_of_slots {c : Counter} {L : List Ev} (h : Rep c L) {j : Nat} (hj : j < c.times.length)
    (hn : ∀ i, i < c.size → c.slot i ≠ j) : c.counts.getD j 0 = 0 :=
  h.zero j hj fun hl =>
    let ⟨i, hi, e⟩ := exists_slot_of_inLive h.hd hj hl
    hn i hi e

/-- Conversely, `Rep` from its clauses with `zero` stated through `slot`: the form in which `pop`, `resize` and
    `push` establish it. -/
theorem Rep.of_slots {c : Counter} {L : List Ev} (lenEq : c.counts.length = c.times.length)
    (hd : c.head < c.times.length) (tl : c.tail < c.times.length) (sz : L.length = c.size)
    (content : ∀ i, i < c.size →
      c.times.getD (c.slot i) 0 = (L.getD i (0, 0)).1 ∧ c.counts.getD (c.slot i) 0 = (L.getD i (0, 0)).2)
    (zero : ∀ j, j < c.times.length → (∀ i, i < c.size → c.slot i ≠ j) → c.counts.getD j 0 = 0)
    (tot : c.total = (L.map (·.2)).sum) : Rep c L :=
  ⟨lenEq, hd, tl, sz, content,
    fun j hj hnl => zero j hj fun _ hi e => hnl (e ▸ inLive_slot hd tl hi), tot⟩

theorem pop_fields (c : Counter) : c.pop.times = c.times ∧ c.pop.interval = c.interval ∧ c.pop.minTime = c.minTime :=
  ⟨rfl, rfl, rfl⟩

theorem pop_head {c : Counter} (hd : c.head < c.times.length) : c.pop.head = (c.head + 1) % c.times.length := by
  show (if c.head + 1 ≥ c.times.length then 0 else c.head + 1) = _
  split
  · rename_i h; rw [show c.head + 1 = c.times.length from Nat.le_antisymm hd h, Nat.mod_self]
  · rename_i h; rw [Nat.mod_eq_of_lt (Nat.lt_of_not_le h)]

theorem pop_head_lt {c : Counter} (hd : c.head < c.times.length) : c.pop.head < c.pop.times.length := by
  rw [pop_head hd]; exact Nat.mod_lt _ (Nat.zero_lt_of_lt hd)

theorem pop_slot {c : Counter} (hd : c.head < c.times.length) (i : Nat) (hi : i < c.times.length) :
    c.pop.slot i = c.slot (i + 1) := by
  rw [slot_eq_mod (pop_head_lt hd) (Nat.le_of_lt hi), slot_eq_mod hd hi, pop_head hd]
  show ((c.head + 1) % c.times.length + i) % c.times.length = _
  rw [Nat.mod_add_mod, Nat.add_right_comm]
  rfl

theorem pop_size {c : Counter} (hd : c.head < c.times.length) (tl : c.tail < c.times.length) (hne : c.head ≠ c.tail) :
    c.pop.size + 1 = c.size := by
  have h1 : c.pop.size < c.times.length := size_lt (pop_head_lt hd) tl
  have h2 : c.slot (c.pop.size + 1) = c.tail := by
    rw [← pop_slot hd _ h1]; exact slot_size (pop_head_lt hd) tl
  refine eq_size_of_slot hd tl (Nat.lt_of_le_of_ne h1 fun e => hne ?_) h2
  rw [← slot_length, ← e]; exact h2

theorem pop_rep {c : Counter} {e : Ev} {L : List Ev} (h : Rep c (e :: L)) :
    c.head ≠ c.tail ∧ c.times.getD c.head 0 = e.1 ∧ Rep c.pop L := by
  have hd := h.hd
  have tl := h.tl
  have hsz : L.length + 1 = c.size := h.sz
  have hlt := size_lt hd tl
  have hne : c.head ≠ c.tail := fun he => by rw [(size_eq_zero_iff hd).mpr he] at hsz; cases hsz
  have h0 := h.content 0 (hsz ▸ Nat.succ_pos _)
  rw [slot_zero hd] at h0
  have hps := pop_size hd tl hne
  have hcounts : c.pop.counts = c.counts.set c.head 0 := rfl
  refine ⟨hne, h0.1, Rep.of_slots ?_ (pop_head_lt hd) tl (Nat.succ.inj (hsz.trans hps.symm)) ?_ ?_ ?_⟩
  · rw [hcounts, List.length_set]; exact h.lenEq
  · intro i hi
    have hi1 : i + 1 < c.size := hps ▸ Nat.succ_lt_succ hi
    have hne' : c.head ≠ c.slot (i + 1) := fun he => by
      rw [← slot_zero hd] at he; cases slot_inj (Nat.zero_lt_of_lt hd) (Nat.lt_trans hi1 hlt) he
    rw [pop_slot hd i (Nat.lt_of_succ_lt (Nat.lt_trans hi1 hlt)), hcounts, getD_set_ne hne']
    exact h.content (i + 1) hi1
  · intro j hj hn
    rw [hcounts]
    by_cases hjh : c.head = j
    · subst hjh; exact getD_set_self (by rw [h.lenEq]; exact hd)
    · rw [getD_set_ne hjh]
      refine h.zero_of_slots hj fun i hi => ?_
      cases i with
      | zero => rw [slot_zero hd]; exact hjh
      | succ i =>
        rw [← pop_slot hd i (Nat.lt_of_succ_lt (Nat.lt_trans hi hlt))]
        exact hn i (Nat.lt_of_succ_lt_succ (show i + 1 < c.pop.size + 1 by rw [hps]; exact hi))
  · show c.total - c.counts.getD c.head 0 = _
    rw [h.tot, h0.2, List.map_cons, List.sum_cons, List.getD_cons_zero, Int.add_comm]
    exact Int.add_sub_cancel _ _

theorem rep_nil_iff {c : Counter} {L : List Ev} (h : Rep c L) : L = [] ↔ c.head = c.tail := by
  rw [← List.length_eq_zero_iff, h.sz]; exact size_eq_zero_iff h.hd

/-- the predicate of the `expire` loop on an abstract event -/
def expired (m : Int) (e : Ev) : Bool := decide (e.1 - m < 0)

/-- The loop pops exactly the expired prefix: its condition at a non-empty `e :: L` is `expired m e`. -/
theorem expireLoop_rep (m : Int) : ∀ (fuel : Nat) (c : Counter) (L : List Ev), Rep c L → L.length ≤ fuel →
    Rep (expireLoop m fuel c) (L.dropWhile (expired m)) ∧ (expireLoop m fuel c).interval = c.interval := by
  intro fuel
  induction fuel with
  | zero =>
    intro c L h hl
    cases List.length_eq_zero_iff.mp (Nat.le_zero.1 hl)
    exact ⟨h, rfl⟩
  | succ f ih =>
    intro c L h hl
    cases L with
    | nil => rw [expireLoop, if_neg fun hc => hc.1 ((rep_nil_iff h).mp rfl)]; exact ⟨h, rfl⟩
    | cons e L =>
      obtain ⟨hne, ht, hp⟩ := pop_rep h
      rw [expireLoop, List.dropWhile_cons, ht]
      by_cases hx : e.1 - m < 0
      · rw [if_pos ⟨hne, hx⟩, show expired m e = true from decide_eq_true hx, if_pos rfl]
        exact ih c.pop L hp (Nat.le_of_succ_le_succ hl)
      · rw [if_neg fun hc => hx hc.2, show expired m e = false from decide_eq_false hx]
        exact ⟨h, rfl⟩

/-- `Rep` does not read `minTime`. -/
theorem rep_with_minTime {c : Counter} {L : List Ev} (h : Rep c L) (m : Int) : Rep { c with minTime := m } L :=
  ⟨h.lenEq, h.hd, h.tl, h.sz, h.content, h.zero, h.tot⟩

theorem expire_rep {c : Counter} {L : List Ev} (h : Rep c L) (now : Int) :
    Rep (c.expire now) (L.dropWhile (expired (now - c.interval))) ∧
    (c.expire now).interval = c.interval ∧ (c.expire now).minTime = now - c.interval := by
  have hl : L.length ≤ c.times.length := h.sz ▸ Nat.le_of_lt (size_lt h.hd h.tl)
  obtain ⟨r, i⟩ := expireLoop_rep (now - c.interval) c.times.length c L h hl
  exact ⟨rep_with_minTime r _, i, rfl⟩

theorem getD_take (l : List Int) (k i : Nat) : (l.take k).getD i 0 = if i < k then l.getD i 0 else 0 := by
  simp only [List.getD_eq_getElem?_getD, List.getElem?_take]; split <;> rfl
theorem getD_drop (l : List Int) (k i : Nat) : (l.drop k).getD i 0 = l.getD (k + i) 0 := by
  simp only [List.getD_eq_getElem?_getD, List.getElem?_drop]
theorem getD_append {α : Type} (l₁ l₂ : List α) (i : Nat) (d : α) :
    (l₁ ++ l₂).getD i d = if i < l₁.length then l₁.getD i d else l₂.getD (i - l₁.length) d := by
  simp only [List.getD_eq_getElem?_getD, List.getElem?_append]; split <;> rfl
theorem getD_replicate_zero (k i : Nat) : (List.replicate k (0 : Int)).getD i 0 = 0 := by
  simp only [List.getD_eq_getElem?_getD, List.getElem?_replicate]; split <;> rfl

/-- the slice `resize` copies, wrapped or not, is `size` elements of the doubled list from `head` on -/
theorem resizeCopy_eq {c : Counter} (xs : List Int) (hx : xs.length = c.times.length)
    (hd : c.head < c.times.length) (tl : c.tail < c.times.length) :
    resizeCopy c.head c.tail xs =
      ((xs ++ xs).drop c.head).take c.size ++ List.replicate (xs.length * 2 - c.size) 0 := by
  have hdl : (xs.drop c.head).length + c.head = xs.length := by rw [List.length_drop]; omega
  have live : (if c.tail ≥ c.head then (xs.drop c.head).take (c.tail - c.head) else xs.drop c.head ++ xs.take c.tail)
      = ((xs ++ xs).drop c.head).take c.size := by
    rw [List.drop_append_of_le_length (by omega)]
    rcases size_cases c hd with ⟨hc, hs⟩ | ⟨hc, hs⟩
    · rw [if_pos hc, Nat.sub_eq_of_eq_add hs.symm, List.take_append_of_le_length (by omega)]
    · rw [if_neg (Nat.not_le_of_lt hc), show c.size = (xs.drop c.head).length + c.tail by omega,
        List.take_length_add_append]
  have hlen : (((xs ++ xs).drop c.head).take c.size).length = c.size := by
    have := size_lt hd tl
    rw [List.length_take, List.length_drop, List.length_append]; omega
  unfold resizeCopy
  simp only [live, hlen]

theorem resizeCopy_length {c : Counter} (xs : List Int) (hx : xs.length = c.times.length)
    (hd : c.head < c.times.length) (tl : c.tail < c.times.length) :
    (resizeCopy c.head c.tail xs).length = xs.length * 2 := by
  have := size_lt hd tl
  rw [resizeCopy_eq xs hx hd tl, List.length_append, List.length_replicate, List.length_take, List.length_drop,
    List.length_append]
  omega

theorem resizeCopy_getD {c : Counter} (xs : List Int) (hx : xs.length = c.times.length)
    (hd : c.head < c.times.length) (tl : c.tail < c.times.length) (i : Nat) :
    (resizeCopy c.head c.tail xs).getD i 0 = if i < c.size then xs.getD (c.slot i) 0 else 0 := by
  have := size_lt hd tl
  rw [resizeCopy_eq xs hx hd tl, getD_append, getD_replicate_zero, getD_take, getD_drop, getD_append, hx,
    List.length_take, List.length_drop, List.length_append, Nat.min_eq_left (by omega)]
  unfold Counter.slot
  split
  · split <;> rfl
  · rfl

theorem resize_fields (c : Counter) :
    c.resize.head = 0 ∧ c.resize.tail = c.size ∧ c.resize.total = c.total ∧ c.resize.interval = c.interval ∧
    c.resize.minTime = c.minTime ∧ c.resize.times = resizeCopy c.head c.tail c.times ∧
    c.resize.counts = resizeCopy c.head c.tail c.counts := by
  refine ⟨rfl, ?_, rfl, rfl, rfl, rfl, rfl⟩
  unfold Counter.resize Counter.size; simp only; split <;> split <;> omega

theorem resize_rep {c : Counter} {L : List Ev} (h : Rep c L) :
    Rep c.resize L ∧ c.resize.times.length = c.times.length * 2 := by
  obtain ⟨rh, rt, rtot, _, _, rtimes, rcounts⟩ := resize_fields c
  have hd := h.hd
  have tl := h.tl
  have hlt := size_lt hd tl
  have hle := h.lenEq
  have tlen : c.resize.times.length = c.times.length * 2 := by rw [rtimes]; exact resizeCopy_length _ rfl hd tl
  have h2 : c.size < c.resize.times.length := tlen ▸ Nat.lt_of_lt_of_le hlt (Nat.le_mul_of_pos_right _ (by decide))
  have hd' : c.resize.head < c.resize.times.length := rh ▸ Nat.zero_lt_of_lt h2
  have tl' : c.resize.tail < c.resize.times.length := rt ▸ h2
  have rslot : ∀ i, i ≤ c.size → c.resize.slot i = i := fun i hi => by
    unfold Counter.slot; rw [rh, Nat.zero_add, if_pos (Nat.lt_of_le_of_lt hi h2)]
  have rsize : c.resize.size = c.size :=
    (eq_size_of_slot hd' tl' h2 ((rslot _ (Nat.le_refl _)).trans rt.symm)).symm
  refine ⟨Rep.of_slots ?_ hd' tl' (rsize ▸ h.sz) ?_ ?_ (rtot ▸ h.tot), tlen⟩
  · rw [rcounts, resizeCopy_length _ hle hd tl, hle, tlen]
  · intro i hi
    rw [rsize] at hi
    rw [rslot i (Nat.le_of_lt hi), rtimes, rcounts, resizeCopy_getD _ rfl hd tl, resizeCopy_getD _ hle hd tl, if_pos hi, if_pos hi]
    exact h.content i hi
  · intro j _ hn
    rw [rcounts, resizeCopy_getD _ hle hd tl, if_neg]
    exact fun hj => hn j (rsize ▸ hj) (rslot j (Nat.le_of_lt hj))

/-- the tail of `add`: write the slot at `tail`, advance `tail` -/
def Counter.push (c : Counter) (now count : Int) : Counter :=
  { c with times := c.times.set c.tail now,
           counts := c.counts.set c.tail (c.counts.getD c.tail 0 + count),
           total := c.total + count, tail := (c.tail + 1) % c.times.length }

theorem add_eq (c : Counter) (now count : Int) :
    c.add now count = if now - c.minTime < 0 then c
      else (if (c.tail + 1) % c.times.length = c.head then c.resize else c).push now count := rfl

theorem push_length (c : Counter) (now count : Int) : (c.push now count).times.length = c.times.length :=
  List.length_set

theorem push_slot (c : Counter) (now count : Int) (i : Nat) : (c.push now count).slot i = c.slot i := by
  unfold Counter.slot; rw [push_length]; rfl

theorem push_size {c : Counter} (hd : c.head < c.times.length) (tl : c.tail < c.times.length) (now count : Int)
    (hfull : (c.tail + 1) % c.times.length ≠ c.head) : (c.push now count).size = c.size + 1 := by
  have hlt := size_lt hd tl
  have hn := push_length c now count
  have h1 : c.slot (c.size + 1) = (c.tail + 1) % c.times.length := by rw [slot_succ hd hlt, slot_size hd tl]
  have h2 : c.size + 1 < c.times.length :=
    Nat.lt_of_le_of_ne hlt fun e => hfull (by rw [← h1, e, slot_length])
  refine (eq_size_of_slot (c := c.push now count) (hn ▸ hd) ?_ (hn ▸ h2) ?_).symm
  · rw [hn]; exact Nat.mod_lt _ (Nat.zero_lt_of_lt hd)
  · rw [push_slot]; exact h1

theorem push_rep {c : Counter} {L : List Ev} (h : Rep c L) (now count : Int)
    (hfull : (c.tail + 1) % c.times.length ≠ c.head) : Rep (c.push now count) (L ++ [(now, count)]) := by
  have hd := h.hd
  have tl := h.tl
  have hlt := size_lt hd tl
  have hn := push_length c now count
  have hsize := push_size hd tl now count hfull
  have htimes : (c.push now count).times = c.times.set c.tail now := rfl
  have hcounts : (c.push now count).counts = c.counts.set c.tail (c.counts.getD c.tail 0 + count) := rfl
  -- no live index reaches `tail`
  have hne : ∀ i, i < c.size → c.slot i ≠ c.tail := fun i hi e => by
    rw [← slot_size hd tl] at e; exact Nat.lt_irrefl _ (slot_inj (Nat.lt_trans hi hlt) hlt e ▸ hi)
  have hz : c.counts.getD c.tail 0 = 0 := h.zero_of_slots tl hne
  refine Rep.of_slots ?_ (hn ▸ hd) ?_ ?_ ?_ ?_ ?_
  · rw [hcounts, htimes, List.length_set, List.length_set]; exact h.lenEq
  · rw [hn]; exact Nat.mod_lt _ (Nat.zero_lt_of_lt hd)
  · rw [hsize, List.length_append, h.sz]; rfl
  · intro i hi
    rw [hsize] at hi
    rw [push_slot, htimes, hcounts]
    by_cases hi' : i < c.size
    · rw [getD_set_ne (hne i hi').symm, getD_set_ne (hne i hi').symm, getD_append, if_pos (h.sz ▸ hi')]
      exact h.content i hi'
    · have hi2 : i = c.size := Nat.le_antisymm (Nat.le_of_lt_succ hi) (Nat.le_of_not_lt hi')
      subst hi2
      rw [slot_size hd tl, getD_set_self tl, getD_set_self (h.lenEq ▸ tl), hz, ← h.sz, getD_append, if_neg (Nat.lt_irrefl _), Nat.sub_self]
      exact ⟨rfl, Int.zero_add _⟩
  · intro j hj hn'
    rw [hn] at hj
    have hjt : c.tail ≠ j := fun e => hn' c.size (hsize ▸ Nat.lt_succ_self _) (by rw [push_slot, slot_size hd tl]; exact e)
    rw [hcounts, getD_set_ne hjt]
    exact h.zero_of_slots hj fun i hi => by rw [← push_slot c now count]; exact hn' i (hsize ▸ Nat.lt_succ_of_lt hi)
  · show c.total + count = _
    rw [h.tot]; simp [List.sum_append]

theorem add_rep {c : Counter} {L : List Ev} (h : Rep c L) (now count : Int) (hm : ¬ now - c.minTime < 0) :
    Rep (c.add now count) (L ++ [(now, count)]) ∧ (c.add now count).interval = c.interval := by
  rw [add_eq, if_neg hm]
  have hlt := size_lt h.hd h.tl
  by_cases hf : (c.tail + 1) % c.times.length = c.head
  · rw [if_pos hf]
    obtain ⟨hr, hl⟩ := resize_rep h
    obtain ⟨rh, rt, _, ri, _, _, _⟩ := resize_fields c
    refine ⟨push_rep hr now count ?_, ri⟩
    rw [rh, rt, hl, Nat.mod_eq_of_lt (by omega)]; omega
  · rw [if_neg hf]
    exact ⟨push_rep h now count hf, rfl⟩

theorem newCounter_rep (iv : Int) : Rep (newCounter iv) [] := by
  have h8 : 0 < initialCounterSize := by decide
  refine ⟨by simp [newCounter], by simp [newCounter, h8], by simp [newCounter, h8], by simp [newCounter, Counter.size], ?_, ?_, rfl⟩
  · intro i hi; simp [newCounter, Counter.size] at hi
  · intro j _ _; simp [newCounter, List.getD_eq_getElem?_getD, List.getElem?_replicate]; split <;> rfl

/-! ## the abstract machine: a deque of (time, size) -/

def absStep (iv : Int) (L : List Ev) (e : Ev) : List Ev := L.dropWhile (expired (e.1 - iv)) ++ [e]
def absRun (iv : Int) (evs : List Ev) : List Ev := evs.foldl (absStep iv) []
/-- the counter after a history of `updateAndAdd` calls -/
def runCounter (iv : Int) (evs : List Ev) : Counter :=
  evs.foldl (fun c e => c.updateAndAdd e.2 e.1) (newCounter iv)

theorem updateAndAdd_rep {c : Counter} {L : List Ev} {iv : Int} (h : Rep c L) (hi : c.interval = iv) (h0 : 0 ≤ iv)
    (e : Ev) : Rep (c.updateAndAdd e.2 e.1) (absStep iv L e) ∧ (c.updateAndAdd e.2 e.1).interval = iv := by
  obtain ⟨hr, hiv, hmin⟩ := expire_rep h e.1
  unfold Counter.updateAndAdd absStep
  have hm : ¬ e.1 - (c.expire e.1).minTime < 0 := by rw [hmin, hi]; omega
  obtain ⟨ha, hb⟩ := add_rep hr e.1 e.2 hm
  rw [hi] at ha
  exact ⟨ha, by rw [hb, hiv, hi]⟩

theorem run_refines (iv : Int) (h0 : 0 ≤ iv) (evs : List Ev) :
    Rep (runCounter iv evs) (absRun iv evs) ∧ (runCounter iv evs).interval = iv :=
  List.foldl_rel (r := fun c L => Rep c L ∧ c.interval = iv) ⟨newCounter_rep iv, rfl⟩
    fun e _ _ _ h => updateAndAdd_rep h.1 h.2 h0 e

/-! ## the deque machine on time-ordered histories = the trailing window -/

/-- the window of a history: all events within `iv` of the last event's timestamp -/
def window (iv : Int) (P : List Ev) : List Ev :=
  match P.getLast? with
  | none => []
  | some l => P.filter (inWindow iv l.1)

theorem expired_eq_not_inWindow (iv t : Int) (x : Ev) : expired (t - iv) x = !inWindow iv t x := by
  unfold expired inWindow
  by_cases h : t - iv ≤ x.1
  · simp [h]
  · simp [h]; omega

/-- on a list sorted by time, dropping the expired prefix = filtering the window -/
theorem dropWhile_eq_filter (iv t : Int) : ∀ (S : List Ev), Mono S →
    S.dropWhile (expired (t - iv)) = S.filter (inWindow iv t) := by
  intro S
  induction S with
  | nil => intro _; rfl
  | cons x S ih =>
    intro hm
    obtain ⟨hx, hm'⟩ := List.pairwise_cons.mp hm
    rw [List.dropWhile_cons, List.filter_cons, expired_eq_not_inWindow]
    by_cases h : inWindow iv t x = true
    · -- everything after x is in the window as well
      have hall : S.filter (inWindow iv t) = S := List.filter_eq_self.mpr fun y hy =>
        decide_eq_true (Int.le_trans (of_decide_eq_true h) (hx y hy))
      rw [h, hall]; rfl
    · rw [(Bool.not_eq_true _).mp h]; exact ih hm'

theorem mono_append_singleton {P : List Ev} {e : Ev} (h : Mono (P ++ [e])) :
    Mono P ∧ ∀ x ∈ P, x.1 ≤ e.1 :=
  have h := List.pairwise_append.mp h
  ⟨h.1, fun x hx => h.2.2 x hx e (List.mem_singleton.mpr rfl)⟩

theorem window_snoc (iv : Int) (P : List Ev) (e : Ev) : window iv (P ++ [e]) = (P ++ [e]).filter (inWindow iv e.1) := by
  unfold window; simp [List.getLast?_append]

theorem step_window (iv : Int) (h0 : 0 ≤ iv) (P : List Ev) (e : Ev) (hm : Mono (P ++ [e])) :
    absStep iv (window iv P) e = window iv (P ++ [e]) := by
  obtain ⟨hmP, hle⟩ := mono_append_singleton hm
  have hwe : inWindow iv e.1 e = true := decide_eq_true (by omega)
  rw [window_snoc, List.filter_append, List.filter_cons_of_pos hwe, List.filter_nil]
  unfold absStep
  congr 1
  unfold window
  cases hl : P.getLast? with
  | none => cases List.getLast?_eq_none_iff.mp hl; rfl
  | some l =>
    -- the window of `P` ends at `l.1 ≤ e.1`, so filtering it for the window of `e` filters `P`
    have hle' := hle l (List.mem_of_getLast? hl)
    show (P.filter (inWindow iv l.1)).dropWhile _ = _
    rw [dropWhile_eq_filter iv e.1 _ (List.Pairwise.filter _ hmP), List.filter_filter]
    refine List.filter_congr fun x _ => ?_
    unfold inWindow
    by_cases h1 : e.1 - iv ≤ x.1
    · rw [decide_eq_true h1, decide_eq_true (show l.1 - iv ≤ x.1 by omega)]; rfl
    · rw [decide_eq_false h1]; rfl

theorem absRun_window_gen (iv : Int) (h0 : 0 ≤ iv) : ∀ (evs P : List Ev), Mono (P ++ evs) →
    evs.foldl (absStep iv) (window iv P) = window iv (P ++ evs) := by
  intro evs
  induction evs with
  | nil => intro P _; rw [List.append_nil]; rfl
  | cons e evs ih =>
    intro P hm
    rw [List.append_cons] at hm ⊢
    rw [List.foldl_cons, step_window iv h0 P e (List.pairwise_append.mp hm).1]
    exact ih _ hm

theorem absRun_window (iv : Int) (h0 : 0 ≤ iv) (evs : List Ev) (hm : Mono evs) : absRun iv evs = window iv evs :=
  absRun_window_gen iv h0 evs [] hm

theorem runCounter_snoc (iv : Int) (P : List Ev) (e : Ev) :
    runCounter iv (P ++ [e]) = (runCounter iv P).updateAndAdd e.2 e.1 := by
  simp [runCounter, List.foldl_append]

def ones (evs : List Ev) : List Ev := evs.map (fun e => (e.1, 1))

theorem mono_ones {evs : List Ev} (h : Mono evs) : Mono (ones evs) := by
  unfold Mono ones at *; rw [List.pairwise_map]; exact h

theorem windowSum_ones (iv : Int) (evs : List Ev) (t : Int) : windowSum iv (ones evs) t = windowCount iv evs t := by
  unfold windowSum windowCount ones
  rw [List.filter_map, List.map_map]
  -- the window test reads only the timestamp, and every size is 1
  show (List.map (fun _ => (1 : Int)) (evs.filter (inWindow iv t))).sum = _
  rw [List.map_const', List.sum_replicate_int, Int.mul_one]

theorem exceeds_eq_over (c : Counter) (r : Int) : c.exceeds r = over c.total r c.interval := rfl

theorem over_eq_gt_floor (n r iv : Int) : over n r iv = decide (n > (r * iv) / 1000000000) := by
  unfold over
  rw [decide_eq_decide]
  omega

/-- `Account` applied to a whole history; the flag says whether every call returned `true`. -/
def Limiter.runAll (l : Limiter) (evs : List Ev) : Limiter × Bool :=
  evs.foldl (fun s e => ((s.1.account e.1 e.2).1, s.2 && (s.1.account e.1 e.2).2)) (l, true)

/-- what the limiter `New pps bps w` has become once the history `P` is recorded and no call has returned false:
    the packet counter has seen every event with size 1, the byte counter every event -/
def tracked (pps bps w : Int) (P : List Ev) : Limiter :=
  { packets := if pps > 0 then some (runCounter w (ones P)) else none,
    bytes := if bps > 0 then some (runCounter w P) else none, pps, bps }

theorem new_tracked {pps bps w : Int} {l : Limiter} (h : Limiter.new pps bps w = some l) :
    0 < w ∧ l = tracked pps bps w [] := by
  unfold Limiter.new at h
  split at h
  · cases h
  · cases h
    exact ⟨by omega, rfl⟩

theorem ones_snoc (P : List Ev) (e : Ev) : ones (P ++ [e]) = ones P ++ [(e.1, 1)] := by simp [ones]

/-- the result of one `Account` call, and the state afterwards when it returned `true` -/
theorem account_tracked (pps bps w : Int) (P : List Ev) (e : Ev) :
    ((tracked pps bps w P).account e.1 e.2).2 =
      (!(decide (pps > 0) && (runCounter w (ones (P ++ [e]))).exceeds pps) &&
       !(decide (bps > 0) && (runCounter w (P ++ [e])).exceeds bps)) ∧
    (((tracked pps bps w P).account e.1 e.2).2 = true →
      ((tracked pps bps w P).account e.1 e.2).1 = tracked pps bps w (P ++ [e])) := by
  unfold tracked Limiter.account
  simp only [ones_snoc, runCounter_snoc]
  -- which counters exist, and whether the packet counter lets the byte counter be reached
  by_cases hp : pps > 0 <;> by_cases hb : bps > 0 <;> simp only [hp, hb, if_true, if_false] <;>
    cases ((runCounter w (ones P)).updateAndAdd 1 e.1).exceeds pps <;> simp

/-- `runAll` from any state that tracks a history `P`; `r` names the fold so that it is written once. -/
theorem runAll_tracked_gen {pps bps w : Int} : ∀ (evs : List Ev) (st : Limiter × Bool) (P : List Ev),
    (st.2 = true → st.1 = tracked pps bps w P) → ∀ r,
    r = evs.foldl (fun (s : Limiter × Bool) e => ((s.1.account e.1 e.2).1, s.2 && (s.1.account e.1 e.2).2)) st →
    r.2 = true → r.1 = tracked pps bps w (P ++ evs) := by
  intro evs
  induction evs with
  | nil => intro st P h r hr hok; subst hr; simpa using h hok
  | cons e evs ih =>
    intro st P h r hr hok
    have := ih _ (P ++ [e]) (fun h2 => ?_) r hr hok
    · simpa using this
    · simp only [Bool.and_eq_true] at h2
      show (st.1.account e.1 e.2).1 = _
      rw [h h2.1] at h2 ⊢
      exact (account_tracked pps bps w P e).2 h2.2

theorem runAll_tracked {pps bps w : Int} {l0 : Limiter} (hn : Limiter.new pps bps w = some l0) (evs : List Ev)
    (hok : (l0.runAll evs).2 = true) : (l0.runAll evs).1 = tracked pps bps w evs := by
  have := runAll_tracked_gen evs (l0, true) [] (fun _ => (new_tracked hn).2) _ rfl hok
  simpa [Limiter.runAll] using this

theorem u8_and_ff (x : UInt8) : x &&& 0xff = x := by
  have : (0xff : UInt8) = -1 := by decide
  rw [this]; simp

/-- masking with `k` bytes `ff` followed by zeros keeps the first `k` bytes and clears the rest -/
theorem maskIP_ff_zero : ∀ (ip : Bytes) (k m : Nat), ip.length = k + m →
    maskIP ip (List.replicate k 0xff ++ List.replicate m 0) = ip.take k ++ List.replicate m 0
  | [], k, m, h => by
    obtain ⟨rfl, rfl⟩ : k = 0 ∧ m = 0 := by rw [List.length_nil] at h; omega
    rfl
  | x :: ip, 0, m + 1, h => by
    have := maskIP_ff_zero ip 0 m (by rw [List.length_cons] at h; omega)
    simp only [maskIP, List.replicate_zero, List.nil_append, List.take_zero] at this ⊢
    rw [List.replicate_succ, List.zipWith_cons_cons, UInt8.and_zero, this]
  | x :: ip, k + 1, m, h => by
    have := maskIP_ff_zero ip k m (by rw [List.length_cons] at h; omega)
    simp only [maskIP] at this ⊢
    rw [List.replicate_succ, List.cons_append, List.zipWith_cons_cons, u8_and_ff, this, List.take_succ_cons,
      List.cons_append]

theorem cidr24 : cidrMask 24 32 = List.replicate 3 0xff ++ List.replicate 1 0 := by decide
theorem cidr64 : cidrMask 64 128 = List.replicate 8 0xff ++ List.replicate 8 0 := by decide

theorem to4_eq (a : Bytes) (ha : a.length = 16) : to4 a = if isV4 a then some (a.drop 12) else none := by
  have key : a.take 12 = v4InV6Prefix ↔ isV4 a = true := by
    have hl : (a.take 10).length = (List.replicate 10 (0 : UInt8)).length := by simp; omega
    rw [show a.take 12 = a.take 10 ++ (a.drop 10).take 2 from List.take_add (i := 10) (j := 2),
      show v4InV6Prefix = List.replicate 10 0 ++ [0xff, 0xff] by decide]
    unfold isV4
    rw [Bool.and_eq_true, beq_iff_eq, beq_iff_eq]
    exact ⟨fun he => List.append_inj he hl, fun h => by rw [h.1, h.2]⟩
  simp only [to4, ha, true_and, key]

theorem ipKey_v4 (a : Bytes) (ha : a.length = 16) (h : isV4 a = true) :
    ipKeyBytes (some a) = some ((a.drop 12).take 3 ++ [0]) := by
  simp only [ipKeyBytes, to4_eq a ha, h, if_true, cidr24]
  rw [maskIP_ff_zero _ 3 1 (by simp; omega)]; rfl

theorem ipKey_v6 (a : Bytes) (ha : a.length = 16) (h : isV4 a = false) :
    ipKeyBytes (some a) = some (a.take 8 ++ List.replicate 8 0) := by
  simp only [ipKeyBytes, to4_eq a ha, h, Bool.false_eq_true, if_false, cidr64]
  rw [maskIP_ff_zero _ 8 8 (by omega)]

/-- a 4-byte key is never a 16-byte key -/
theorem ipKey_v4_ne_v6 {a b : Bytes} (ha : a.length = 16) (hb : b.length = 16) (h1 : isV4 a = true)
    (h2 : isV4 b = false) : ipKeyBytes (some a) ≠ ipKeyBytes (some b) := by
  intro he
  rw [ipKey_v4 a ha h1, ipKey_v6 b hb h2] at he
  have := congrArg (fun o => o.map List.length) he
  simp at this; omega

/-- number of allowed events when `Allow()` is called at the given times -/
def QCfg.countAllowed (c : QCfg) : Bucket → List Int → Nat
  | _, [] => 0
  | b, t :: ts => (if (c.allow b t).2 then 1 else 0) + c.countAllowed (c.allow b t).1 ts

def lastOr (t : Int) : List Int → Int
  | [] => t
  | x :: xs => lastOr x xs

def QCfg.cap (c : QCfg) : Int := (c.burst : Int) * c.unit

theorem unit_nonneg (c : QCfg) : 0 ≤ c.unit := by unfold QCfg.unit; omega
theorem cap_nonneg (c : QCfg) : 0 ≤ c.cap := Int.mul_nonneg (by omega) (unit_nonneg c)

/-- `advance`: the bucket refills at `num` units per nanosecond since `last`, up to `cap` -/
theorem avail_eq (c : QCfg) (b : Bucket) (t : Int) :
    c.avail b t = min c.cap (b.tokens + (c.num : Int) * max 0 (t - b.last)) := by
  have h : t - (if t < b.last then t else b.last) = max 0 (t - b.last) := by split <;> omega
  unfold QCfg.avail QCfg.cap
  simp only [h]
  split <;> omega

theorem mul_mono (n : Nat) {x y : Int} (h : x ≤ y) : (n : Int) * x ≤ (n : Int) * y :=
  Int.mul_le_mul_of_nonneg_left h (by omega)

theorem avail_le_cap (c : QCfg) (b : Bucket) (t : Int) : c.avail b t ≤ c.cap := by
  rw [avail_eq]; exact Int.min_le_left _ _

theorem avail_nonneg (c : QCfg) (b : Bucket) (t : Int) (hb : 0 ≤ b.tokens) : 0 ≤ c.avail b t := by
  rw [avail_eq]
  have h1 := cap_nonneg c
  have h2 : 0 ≤ (c.num : Int) * max 0 (t - b.last) := Int.mul_nonneg (by omega) (Int.le_max_left _ _)
  omega

/-- waiting from `t0` to `t1` adds at most the refill over that time -/
theorem avail_mono (c : QCfg) (b : Bucket) (t0 t1 : Int) (h : t0 ≤ t1) :
    c.avail b t1 ≤ c.avail b t0 + (c.num : Int) * (t1 - t0) := by
  rw [avail_eq, avail_eq]
  have h1 : (c.num : Int) * max 0 (t1 - b.last) ≤ (c.num : Int) * (max 0 (t0 - b.last) + (t1 - t0)) :=
    mul_mono _ (by omega)
  have h2 : 0 ≤ (c.num : Int) * (t1 - t0) := Int.mul_nonneg (by omega) (by omega)
  rw [Int.mul_add] at h1
  omega

/-- an event just allowed at `t0` leaves `avail - unit` tokens, refilled from `t0` on -/
theorem avail_after_allow (c : QCfg) (tok t0 t1 : Int) (h : t0 ≤ t1) :
    c.avail { tokens := tok, last := t0 } t1 ≤ tok + (c.num : Int) * (t1 - t0) := by
  rw [avail_eq, Int.max_eq_right (by omega : (0 : Int) ≤ t1 - t0)]; exact Int.min_le_right _ _

theorem allow_cases (c : QCfg) (b : Bucket) (t : Int) :
    (c.avail b t - c.unit ≥ 0 ∧ c.allow b t = ({ tokens := c.avail b t - c.unit, last := t }, true)) ∨
    (c.avail b t - c.unit < 0 ∧ c.allow b t = (b, false)) := by
  unfold QCfg.allow
  simp only
  split
  · left; exact ⟨by assumption, rfl⟩
  · right; exact ⟨by omega, rfl⟩

theorem allow_nonneg (c : QCfg) (b : Bucket) (t : Int) (h : 0 ≤ b.tokens) : 0 ≤ (c.allow b t).1.tokens := by
  rcases allow_cases c b t with ⟨a, e⟩ | ⟨a, e⟩ <;> rw [e] <;> simp <;> omega

/-- every attempt pays for itself: the unit an allowed event takes is missing from what is available later -/
theorem allow_step (c : QCfg) (b : Bucket) {t t' : Int} (h : t ≤ t') :
    ((if (c.allow b t).2 then 1 else 0 : Nat) : Int) * c.unit + c.avail (c.allow b t).1 t' ≤
      c.avail b t + (c.num : Int) * (t' - t) := by
  rcases allow_cases c b t with ⟨_, e⟩ | ⟨_, e⟩ <;> rw [e] <;> dsimp only
  · have := avail_after_allow c (c.avail b t - c.unit) t t' h
    rw [if_pos rfl]
    omega
  · rw [if_neg Bool.false_ne_true, Int.natCast_zero, Int.zero_mul, Int.zero_add]
    exact avail_mono c b t t' h

/-- from any state the allowed events cost at most what is available at the first attempt plus the refill since -/
theorem countAllowed_le (c : QCfg) : ∀ (ts : List Int) (b : Bucket) (t0 : Int), 0 ≤ b.tokens →
    (t0 :: ts).Pairwise (· ≤ ·) →
    (c.countAllowed b (t0 :: ts) : Int) * c.unit ≤ c.avail b t0 + (c.num : Int) * (lastOr t0 ts - t0) := by
  intro ts
  induction ts with
  | nil =>
    intro b t0 hb _
    have h1 := allow_step c b (Int.le_refl t0)
    have h2 := avail_nonneg c _ t0 (allow_nonneg c b t0 hb)
    simp only [QCfg.countAllowed, lastOr, Nat.add_zero]
    omega
  | cons t1 ts ih =>
    intro b t0 hb hs
    obtain ⟨h01, hs'⟩ := List.pairwise_cons.mp hs
    have h1 := allow_step c b (h01 t1 List.mem_cons_self)
    have h2 := ih _ t1 (allow_nonneg c b t0 hb) hs'
    have hsplit : (c.num : Int) * (lastOr t1 ts - t0) = (c.num : Int) * (lastOr t1 ts - t1) + (c.num : Int) * (t1 - t0) := by
      rw [← Int.mul_add]; congr 1; omega
    rw [QCfg.countAllowed, lastOr, hsplit, Int.natCast_add, Int.add_mul]
    omega

abbrev QEv := Int × Option Bytes     -- (clock reading, derived key; `none` = unparsable address)

/-- number of events of group `g` that `Blocked` lets through over a history -/
def QCfg.allowedOf (c : QCfg) (g : Bytes) : Cache → List QEv → Nat
  | _, [] => 0
  | cache, e :: r =>
    (if e.2 = some g ∧ (c.blocked cache e.1 e.2).2 = false then 1 else 0) + c.allowedOf g (c.blocked cache e.1 e.2).1 r

def QCfg.stateAfter (c : QCfg) : Cache → List QEv → Cache
  | cache, [] => cache
  | cache, e :: r => c.stateAfter (c.blocked cache e.1 e.2).1 r

/-- timestamps of the events of group `g` -/
def gtimes (g : Bytes) (evs : List QEv) : List Int :=
  evs.filterMap (fun e => if e.2 = some g then some e.1 else none)

/-- number of first occurrences of keys not in `seen`: the number of distinct new groups -/
def firsts (seen : List Bytes) : List QEv → Nat
  | [] => 0
  | (_, none) :: r => firsts seen r
  | (_, some k) :: r => (if k ∈ seen then 0 else 1) + firsts (k :: seen) r

theorem lookup_filter_ne (cache : Cache) (k g : Bytes) (h : g ≠ k) :
    (cache.filter (fun e => e.1 ≠ k)).lookup g = cache.lookup g := by
  induction cache with
  | nil => rfl
  | cons x r ih =>
    by_cases hk : x.1 = k
    · rw [List.filter_cons_of_neg (by simpa using hk), List.lookup_cons, beq_false_of_ne (hk ▸ h), ih]
    · rw [List.filter_cons_of_pos (by simpa using hk), List.lookup_cons, List.lookup_cons, ih]

theorem length_filter_lt (cache : Cache) (k : Bytes) (b : Bucket) (h : cache.lookup k = some b) :
    (cache.filter (fun e => e.1 ≠ k)).length + 1 ≤ cache.length := by
  induction cache with
  | nil => cases h
  | cons x r ih =>
    by_cases hk : x.1 = k
    · rw [List.filter_cons_of_neg (by simpa using hk)]
      exact Nat.succ_le_succ (List.length_filter_le _ r)
    · rw [List.filter_cons_of_pos (by simpa using hk)]
      rw [List.lookup_cons, beq_false_of_ne (Ne.symm hk)] at h
      exact Nat.succ_le_succ (ih h)

theorem blocked_hit (c : QCfg) (cache : Cache) (t : Int) (k : Bytes) (b : Bucket) (h : cache.lookup k = some b) :
    c.blocked cache t (some k) = ((k, (c.allow b t).1) :: cache.filter (fun e => e.1 ≠ k), !(c.allow b t).2) := by
  simp [QCfg.blocked, h, cacheSet]

theorem blocked_miss (c : QCfg) (cache : Cache) (t : Int) (k : Bytes) (h : cache.lookup k = none)
    (hcap : ¬ (c.maxEntries ≠ 0 ∧ ((cache.length + 1 : Nat) : Int) > c.maxEntries)) :
    c.blocked cache t (some k) = ((k, (c.allow c.fresh t).1) :: cache, !(c.allow c.fresh t).2) := by
  simp only [QCfg.blocked, h, List.length_cons]
  rw [if_neg hcap]
  simp [cacheSet]

/-- invariants of a quota state w.r.t. the set of groups seen so far and the remaining history -/
structure Good (c : QCfg) (cache : Cache) (seen : List Bytes) (rest : List QEv) : Prop where
  keys : ∀ k, (cache.lookup k).isSome ↔ k ∈ seen
  room : c.maxEntries = 0 ∨ ((cache.length + firsts seen rest : Nat) : Int) ≤ c.maxEntries
  nonneg : ∀ k b, cache.lookup k = some b → 0 ≤ b.tokens

def seenAfter (seen : List Bytes) : List QEv → List Bytes
  | [] => seen
  | (_, none) :: r => seenAfter seen r
  | (_, some k) :: r => seenAfter (k :: seen) r

theorem fresh_nonneg (c : QCfg) : 0 ≤ c.fresh.tokens := cap_nonneg c

/-- `Blocked` on a state with room puts the key's updated bucket in front of a list that still maps every
    other key as before and has left room for the groups yet to come. -/
theorem blocked_shape {c : QCfg} {cache : Cache} {seen : List Bytes} {t : Int} {k : Bytes} {r : List QEv}
    (h : Good c cache seen ((t, some k) :: r)) :
    ∃ rest, c.blocked cache t (some k) =
        ((k, (c.allow ((cache.lookup k).getD c.fresh) t).1) :: rest, !(c.allow ((cache.lookup k).getD c.fresh) t).2) ∧
      (∀ g, g ≠ k → rest.lookup g = cache.lookup g) ∧
      rest.length + 1 + firsts (k :: seen) r ≤ cache.length + firsts seen ((t, some k) :: r) := by
  cases hl : cache.lookup k with
  | some b =>
    have hin : k ∈ seen := (h.keys k).mp (by rw [hl]; rfl)
    refine ⟨_, blocked_hit c cache t k b hl, fun g hg => lookup_filter_ne cache k g hg, ?_⟩
    have := length_filter_lt cache k b hl
    simp only [firsts, hin, if_true]
    omega
  | none =>
    have hnin : k ∉ seen := fun hh => by have := (h.keys k).mpr hh; rw [hl] at this; cases this
    have hf : firsts seen ((t, some k) :: r) = 1 + firsts (k :: seen) r := by simp only [firsts, hnin, if_false]
    refine ⟨cache, blocked_miss c cache t k hl fun hh => ?_, fun _ _ => rfl, by omega⟩
    rcases h.room with h0 | h1
    · exact hh.1 h0
    · omega

/-- the bucket an event of key `k` meets, cached or fresh, has no debt -/
theorem Good.getD_nonneg {c : QCfg} {cache : Cache} {seen : List Bytes} {rest : List QEv} (h : Good c cache seen rest)
    (k : Bytes) : 0 ≤ ((cache.lookup k).getD c.fresh).tokens := by
  cases hl : cache.lookup k with
  | none => exact fresh_nonneg c
  | some b => exact h.nonneg k b hl

/-- one step: what happens to the state and to the view of group `g` -/
theorem good_step {c : QCfg} {cache : Cache} {seen : List Bytes} {t : Int} {k : Bytes} {r : List QEv}
    (h : Good c cache seen ((t, some k) :: r)) :
    Good c (c.blocked cache t (some k)).1 (k :: seen) r ∧
    (c.blocked cache t (some k)).2 = !(c.allow ((cache.lookup k).getD c.fresh) t).2 ∧
    (c.blocked cache t (some k)).1.lookup k = some (c.allow ((cache.lookup k).getD c.fresh) t).1 ∧
    ∀ g, g ≠ k → (c.blocked cache t (some k)).1.lookup g = cache.lookup g := by
  obtain ⟨rest, hb, hrest, hlen⟩ := blocked_shape h
  have hnn := allow_nonneg c _ t (h.getD_nonneg k)
  rw [hb]
  generalize c.allow ((cache.lookup k).getD c.fresh) t = a at hnn ⊢
  have hself : ((k, a.1) :: rest).lookup k = some a.1 := by rw [List.lookup_cons, beq_self_eq_true]
  have hother : ∀ g, g ≠ k → ((k, a.1) :: rest).lookup g = cache.lookup g := fun g hg => by
    rw [List.lookup_cons, beq_false_of_ne hg, hrest g hg]
  refine ⟨⟨fun g => ?_, ?_, fun g b' hg => ?_⟩, rfl, hself, hother⟩
  · by_cases hg : g = k
    · subst hg; simp [hself]
    · rw [hother g hg, h.keys g, List.mem_cons]; simp [hg]
  · rcases h.room with h0 | h1
    · exact Or.inl h0
    · right; simp only [List.length_cons]; omega
  · by_cases hgk : g = k
    · subst hgk
      rw [hself] at hg
      cases hg
      exact hnn
    · rw [hother g hgk] at hg; exact h.nonneg g b' hg

theorem good_skip {c : QCfg} {cache : Cache} {seen : List Bytes} {t : Int} {r : List QEv}
    (h : Good c cache seen ((t, none) :: r)) : Good c cache seen r :=
  ⟨h.keys, by simpa [firsts] using h.room, h.nonneg⟩

/-- Over any history that never overflows the LRU, the events of group `g` see exactly one token bucket. -/
theorem allowedOf_eq (c : QCfg) (g : Bytes) : ∀ (evs : List QEv) (cache : Cache) (seen : List Bytes),
    Good c cache seen evs →
    c.allowedOf g cache evs = c.countAllowed ((cache.lookup g).getD c.fresh) (gtimes g evs) := by
  intro evs
  induction evs with
  | nil => intro cache seen h; rfl
  | cons e r ih =>
    intro cache seen h
    obtain ⟨t, ko⟩ := e
    cases ko with
    | none =>
      have := ih cache seen (good_skip h)
      simp only [QCfg.allowedOf, gtimes, List.filterMap_cons, QCfg.blocked]
      simp only [reduceCtorEq, false_and, if_false, Nat.zero_add]
      exact this
    | some k =>
      obtain ⟨hg, hout, hlk, hother⟩ := good_step h
      rw [QCfg.allowedOf, ih _ _ hg]
      by_cases hk : k = g
      · subst hk
        have hgt : gtimes k ((t, some k) :: r) = t :: gtimes k r := by simp [gtimes]
        rw [hgt, QCfg.countAllowed, hlk, hout]
        cases (c.allow ((cache.lookup k).getD c.fresh) t).2 <;> simp
      · have hgt : gtimes g ((t, some k) :: r) = gtimes g r := by simp [gtimes, hk]
        rw [hgt, hother g (Ne.symm hk), if_neg fun hh => hk (Option.some.inj hh.1), Nat.zero_add]

theorem good_init (c : QCfg) (evs : List QEv)
    (hcap : c.maxEntries = 0 ∨ ((firsts [] evs : Nat) : Int) ≤ c.maxEntries) : Good c [] [] evs :=
  ⟨by intro k; simp, by simpa using hcap, by intro k b h; simp at h⟩

theorem gtimes_sorted (g : Bytes) (evs : List QEv) (h : (evs.map (·.1)).Pairwise (· ≤ ·)) :
    (gtimes g evs).Pairwise (· ≤ ·) := by
  rw [List.pairwise_map] at h
  unfold gtimes
  apply List.Pairwise.filterMap _ _ h
  intro a a' hr b hb b' hb'
  split at hb <;> split at hb' <;> simp at hb hb'
  subst hb; subst hb'; exact hr

theorem good_prefix (c : QCfg) : ∀ (pre : List QEv) (cache : Cache) (seen : List Bytes) (seg : List QEv),
    Good c cache seen (pre ++ seg) → Good c (c.stateAfter cache pre) (seenAfter seen pre) seg := by
  intro pre
  induction pre with
  | nil => intro cache seen seg h; exact h
  | cons e r ih =>
    intro cache seen seg h
    obtain ⟨t, ko⟩ := e
    cases ko with
    | none =>
      simp only [QCfg.stateAfter, seenAfter, QCfg.blocked]
      exact ih cache seen seg (good_skip h)
    | some k =>
      simp only [QCfg.stateAfter, seenAfter]
      exact ih _ _ seg (good_step h).1

/-! ## concurrent first contact of one group (rate 0): atomic sections of `Quota.Blocked`

Threads are sequences of atomic actions on a shared state: a heap of buckets (remaining tokens), the cache slot
of the group's key, a per-thread local limiter reference.  `acq` is the critical section of the code as it is
(`q.mu.Lock … cache.Get / NewLimiter + cache.Add … q.mu.Unlock`: get-or-create, atomic); `alw` is
`limiter.Allow()` (atomic under the limiter's own mutex).  `look` / `create` are the two halves of a
check-then-act variant (lookup in one critical section, create + Add in another). -/

inductive CAct where
  | acq (i : Nat) | alw (i : Nat) | look (i : Nat) | create (i : Nat)
  deriving DecidableEq, Repr

structure CState where
  heap    : List Nat
  cache   : Option Nat
  loc     : Nat → Option Nat
  allowed : Nat

def CState.init : CState := { heap := [], cache := none, loc := fun _ => none, allowed := 0 }

def setLoc (loc : Nat → Option Nat) (i : Nat) (v : Option Nat) : Nat → Option Nat :=
  fun j => if j = i then v else loc j

def cstep (burst : Nat) (s : CState) : CAct → CState
  | .acq i =>
    match s.cache with
    | some k => { s with loc := setLoc s.loc i (some k) }
    | none => { s with heap := s.heap ++ [burst], cache := some s.heap.length, loc := setLoc s.loc i (some s.heap.length) }
  | .alw i =>
    match s.loc i with
    | some k => if s.heap.getD k 0 > 0 then { s with heap := s.heap.set k (s.heap.getD k 0 - 1), allowed := s.allowed + 1 } else s
    | none => s
  | .look i => { s with loc := setLoc s.loc i s.cache }
  | .create i =>
    match s.loc i with
    | some _ => s
    | none => { s with heap := s.heap ++ [burst], cache := some s.heap.length, loc := setLoc s.loc i (some s.heap.length) }

def crun (burst : Nat) (s : CState) (sched : List CAct) : CState := sched.foldl (cstep burst) s

def CAct.atomic : CAct → Bool
  | .acq _ | .alw _ => true
  | _ => false

/-- invariant of the atomic-section system: at most one bucket ever exists for the group -/
def CInv (burst : Nat) (s : CState) : Prop :=
  (s.cache = none ∧ s.heap = [] ∧ s.allowed = 0 ∧ ∀ i, s.loc i = none) ∨
  (∃ r, s.cache = some 0 ∧ s.heap = [r] ∧ s.allowed + r = burst ∧ ∀ i, s.loc i = none ∨ s.loc i = some 0)

theorem cinv_step (burst : Nat) (s : CState) (a : CAct) (ha : a.atomic = true) (h : CInv burst s) :
    CInv burst (cstep burst s a) := by
  have hloc : ∀ {loc : Nat → Option Nat} (i : Nat), (∀ j, loc j = none ∨ loc j = some 0) →
      ∀ j, setLoc loc i (some 0) j = none ∨ setLoc loc i (some 0) j = some 0 := fun i hl j => by
    unfold setLoc; split
    · exact Or.inr rfl
    · exact hl j
  cases a with
  | look i => cases ha
  | create i => cases ha
  | acq i =>
    rcases h with ⟨hc, hh, hal, hl⟩ | ⟨r, hc, hh, hal, hl⟩
    · simp only [cstep, hc, hh, List.nil_append, List.length_nil]
      exact Or.inr ⟨burst, rfl, rfl, show s.allowed + burst = burst by omega, hloc i fun j => Or.inl (hl j)⟩
    · simp only [cstep, hc]
      exact Or.inr ⟨r, rfl, hh, hal, hloc i hl⟩
  | alw i =>
    rcases h with ⟨hc, hh, hal, hl⟩ | ⟨r, hc, hh, hal, hl⟩
    · simp only [cstep, hl i]
      exact Or.inl ⟨hc, hh, hal, hl⟩
    · rcases hl i with hn | hs
      · simp only [cstep, hn]; exact Or.inr ⟨r, hc, hh, hal, hl⟩
      · simp only [cstep, hs, hh, List.getD_cons_zero]
        split
        · rename_i hr
          exact Or.inr ⟨r - 1, hc, rfl, show s.allowed + 1 + (r - 1) = burst by omega, hl⟩
        · exact Or.inr ⟨r, hc, hh, hal, hl⟩

theorem cinv_run (burst : Nat) (sched : List CAct) (s : CState) (ha : ∀ a ∈ sched, a.atomic = true)
    (h : CInv burst s) : CInv burst (crun burst s sched) :=
  List.foldlRecOn sched (cstep burst) h fun s hs a hm => cinv_step burst s a (ha a hm) hs

end Gate.C34
