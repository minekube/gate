import GateModel.C34.Lemmas
/-
C34 — Rate limiters enforce exactly their configured windows and buckets.
-/
namespace Gate.C34.Props
open Gate Gate.C34

/-- For arbitrary timestamps and sizes the ring buffer behaves as the deque machine
    "drop expired entries from the front, append at the back" (covers wrap-around and every resize). -/
theorem ring_is_deque (iv : Int) (h0 : 0 ≤ iv) (evs : List Ev) :
    Rep (runCounter iv evs) (absRun iv evs) ∧ (runCounter iv evs).total = ((absRun iv evs).map (·.2)).sum :=
  ⟨(run_refines iv h0 evs).1, (run_refines iv h0 evs).1.tot⟩

/-- Time-ordered history: the live slots hold exactly the trailing window, in arrival order. -/
theorem ring_holds_window (iv : Int) (h0 : 0 ≤ iv) (evs : List Ev) (hm : Mono evs) :
    Rep (runCounter iv evs) (window iv evs) := by
  have := (run_refines iv h0 evs).1
  rwa [absRun_window iv h0 evs hm] at this

/-- `counter.sum()` after recording `e` = sum of the sizes of all events with `e.t - interval ≤ t`. -/
theorem ring_refines_window (iv : Int) (h0 : 0 ≤ iv) (evs : List Ev) (e : Ev) (hm : Mono (evs ++ [e])) :
    (runCounter iv (evs ++ [e])).total = windowSum iv (evs ++ [e]) e.1 := by
  have h := ring_holds_window iv h0 _ hm
  rw [window_snoc] at h
  exact h.tot

example : Mono [(0, 3), (0, 1), (5, 2), (17, 0)] := by unfold Mono; decide

/-- The time-order hypothesis is necessary: an out-of-order event stays behind a newer head entry. -/
theorem ring_nonmonotone_overcounts :
    (runCounter 10 [(100, 1), (50, 1), (105, 1)]).total = 3 ∧ windowSum 10 [(100, 1), (50, 1), (105, 1)] 105 = 2 := by
  decide +kernel

/-- `Account` closes the connection exactly when the window count or the window byte sum exceeds
    rate × window — for every limiter `New` can return, every time-ordered history on which the
    connection is still open (all earlier calls returned true), every next packet. -/
theorem account_closes_iff (pps bps w : Int) (l0 : Limiter) (hn : Limiter.new pps bps w = some l0)
    (evs : List Ev) (e : Ev) (hm : Mono (evs ++ [e])) (hok : (l0.runAll evs).2 = true) :
    ((l0.runAll evs).1.account e.1 e.2).2 = !closesSpec pps bps w (evs ++ [e]) e.1 := by
  have hw : 0 ≤ w := Int.le_of_lt (new_tracked hn).1
  rw [runAll_tracked hn evs hok, (account_tracked pps bps w evs e).1]
  have hmo : Mono (ones evs ++ [(e.1, 1)]) := by rw [← ones_snoc]; exact mono_ones hm
  have h1 := ring_refines_window w hw (ones evs) (e.1, 1) hmo
  have h2 := ring_refines_window w hw evs e hm
  have i1 := (run_refines w hw (ones (evs ++ [e]))).2
  have i2 := (run_refines w hw (evs ++ [e])).2
  rw [exceeds_eq_over, exceeds_eq_over, i1, i2, h2, ones_snoc, h1, ← ones_snoc, windowSum_ones]
  unfold closesSpec
  simp [Bool.not_or]

/-- `New` returns the nil limiter (which allows everything) exactly for a non-positive window or when
    both rates are non-positive -/
theorem new_nil_iff (pps bps w : Int) : Limiter.new pps bps w = none ↔ (w ≤ 0 ∨ (pps ≤ 0 ∧ bps ≤ 0)) := by
  unfold Limiter.new; split <;> simp_all

example : ∃ l, Limiter.new 500 (-1) 7000000000 = some l := ⟨_, rfl⟩
example : ((Limiter.mk (some (newCounter 10)) none 1 0).runAll [(0, 5), (3, 5)]).2 = false := by decide +kernel

/-- The Go code decides `float64(total)/(float64(interval)*1e-9) > float64(rate)`.  Any verdict function
    that is monotone in `total` (IEEE conversions, division by a positive constant and `>` are monotone)
    and is right at the two totals around the boundary is the exact comparison of the model everywhere. -/
theorem float_verdict_agrees (f : Int → Bool) (rate iv : Int)
    (hmono : ∀ a b, a ≤ b → f a = true → f b = true)
    (hK : f ((rate * iv) / 1000000000) = false) (hK1 : f ((rate * iv) / 1000000000 + 1) = true) :
    ∀ n, f n = over n rate iv := by
  intro n
  rw [over_eq_gt_floor]
  by_cases h : n > (rate * iv) / 1000000000
  · rw [decide_eq_true h]; exact hmono _ _ (by omega) hK1
  · rw [decide_eq_false h]
    cases hf : f n with
    | false => rfl
    | true => rw [hmono n _ (by omega) hf] at hK; cases hK

example : (fun n : Int => decide (n > 3500)) ((500 * 7000000000) / 1000000000) = false := by decide

/-- `ipKey a = ipKey b` (as masked addresses) iff same /24 for IPv4 / IPv4-mapped, same /64 for IPv6;
    an IPv4 and an IPv6 address never share a bucket. -/
theorem same_bucket_iff (a b : Bytes) (ha : a.length = 16) (hb : b.length = 16) :
    ipKeyBytes (some a) = ipKeyBytes (some b) ↔ sameGroup a b = true := by
  unfold sameGroup samePrefixBytes
  cases h1 : isV4 a <;> cases h2 : isV4 b
  · rw [ipKey_v6 a ha h1, ipKey_v6 b hb h2]; simp
  · exact ⟨fun he => absurd he.symm (ipKey_v4_ne_v6 hb ha h2 h1), fun h => by simp at h⟩
  · exact ⟨fun he => absurd he (ipKey_v4_ne_v6 ha hb h1 h2), fun h => by simp at h⟩
  · rw [ipKey_v4 a ha h1, ipKey_v4 b hb h2]; simp

/-- an unparsable address has the empty key (and is never limited: see `QCfg.blocked`) -/
theorem unparsable_never_blocked (c : QCfg) (cache : Cache) (t : Int) :
    ipKeyBytes none = none ∧ c.blocked cache t none = (cache, false) := ⟨rfl, rfl⟩

/-- Token bucket: from ANY state with non-negative tokens, over any time-ordered attempts `t0 ≤ … ≤ tn`,
    allowed ≤ burst + rate × (tn − t0)   (scaled by `unit` = den × 10^9 to stay in integers). -/
theorem bucket_bound (c : QCfg) (b : Bucket) (t0 : Int) (ts : List Int) (hb : 0 ≤ b.tokens)
    (hs : (t0 :: ts).Pairwise (· ≤ ·)) :
    (c.countAllowed b (t0 :: ts) : Int) * c.unit ≤ (c.burst : Int) * c.unit + (c.num : Int) * (lastOr t0 ts - t0) :=
  Int.le_trans (countAllowed_le c ts b t0 hb hs) (Int.add_le_add_right (avail_le_cap c b t0) _)

/-- `Quota.Blocked`: in any segment `seg` of a time-ordered history `pre ++ seg` whose distinct groups fit
    the LRU, every group `g` gets at most burst + rate × elapsed events through, where elapsed is the time
    between `g`'s first and last attempt in the segment. -/
theorem quota_bound_any_interval (c : QCfg) (g : Bytes) (pre seg : List QEv)
    (hcap : c.maxEntries = 0 ∨ ((firsts [] (pre ++ seg) : Nat) : Int) ≤ c.maxEntries)
    (hs : (seg.map (·.1)).Pairwise (· ≤ ·)) (t0 : Int) (ts : List Int) (hg : gtimes g seg = t0 :: ts) :
    (c.allowedOf g (c.stateAfter [] pre) seg : Int) * c.unit ≤
      (c.burst : Int) * c.unit + (c.num : Int) * (lastOr t0 ts - t0) := by
  have hgood := good_prefix c pre [] [] seg (good_init c _ hcap)
  rw [allowedOf_eq c g seg _ _ hgood, hg]
  apply bucket_bound
  · exact hgood.getD_nonneg g
  · rw [← hg]; exact gtimes_sorted g seg hs

/-- `quota_bound_any_interval` with the whole history as the segment -/
theorem quota_bound (c : QCfg) (g : Bytes) (evs : List QEv)
    (hcap : c.maxEntries = 0 ∨ ((firsts [] evs : Nat) : Int) ≤ c.maxEntries)
    (hs : (evs.map (·.1)).Pairwise (· ≤ ·)) (t0 : Int) (ts : List Int) (hg : gtimes g evs = t0 :: ts) :
    (c.allowedOf g [] evs : Int) * c.unit ≤ (c.burst : Int) * c.unit + (c.num : Int) * (lastOr t0 ts - t0) :=
  quota_bound_any_interval c g [] evs hcap hs t0 ts hg

/-- a group without attempts lets nothing through -/
theorem quota_no_attempts (c : QCfg) (g : Bytes) (evs : List QEv)
    (hcap : c.maxEntries = 0 ∨ ((firsts [] evs : Nat) : Int) ≤ c.maxEntries) (hg : gtimes g evs = []) :
    c.allowedOf g [] evs = 0 := by
  rw [allowedOf_eq c g evs _ _ (good_init c _ hcap), hg]; rfl

example : firsts [] [(0, some [1]), (1, some [2]), (2, some [1]), (3, none)] = 2 := by decide

/-- The capacity hypothesis is necessary: with `maxEntries = 1`, `burst = 1`, rate 0, two alternating
    groups evict each other and group `[1]` gets 3 events through. -/
theorem quota_capacity_needed :
    (QCfg.mk 0 1 1 1).allowedOf [1] [] [(0, some [1]), (0, some [2]), (0, some [1]), (0, some [2]), (0, some [1])] = 3 := by
  decide +kernel

/-! ### concurrent first contact (interleavings of the atomic sections of `Blocked`, rate 0) -/

/-- Any number of goroutines, any interleaving of their atomic sections — get-or-create under the Quota mutex
    (`acq`, one critical section, see `src_quota_shape`) and `Allow` on the bucket obtained (`alw`) —
    lets at most `burst` events of a fresh group through: only one bucket is ever created. -/
theorem concurrent_first_contact_bound (burst : Nat) (sched : List CAct) (h : ∀ a ∈ sched, a.atomic = true) :
    (crun burst CState.init sched).allowed ≤ burst := by
  have hi : CInv burst CState.init := Or.inl ⟨rfl, rfl, rfl, fun _ => rfl⟩
  rcases cinv_run burst sched CState.init h hi with ⟨_, _, h0, _⟩ | ⟨r, _, _, hr, _⟩ <;> omega

/-- The check-then-act variant (lookup and create+Add in separate critical sections) is NOT safe: two
    goroutines that both miss each install a full bucket and both pass with `burst = 1`.  This is the
    schedule class the harness's `qconc` probe looks for on the real code. -/
theorem check_then_act_overadmits :
    (crun 1 CState.init [.look 0, .look 1, .create 0, .create 1, .alw 0, .alw 1]).allowed = 2 := by decide +kernel

/-! ### tie to the source: facts regenerated by `tools/gofacts` -/

/-- in a call sequence `a` occurs, and before the first `b` -/
def before (a b : String) (cs : List String) : Bool := cs.idxOf a < cs.idxOf b && cs.idxOf a < cs.length

open Gate.Gen.C34 in
/-- `updateAndAdd` = `expire` then `add`; `Account` reads the clock once, BEFORE taking the mutex (two concurrent
    callers could hand their readings to the counter out of order; each connection has one read loop, its only
    caller), then under the mutex updates and checks the packet counter before the byte counter (early return in
    between). -/
theorem src_counter_and_account_shape :
    updateAndAddCalls = ["c.expire", "c.add"] ∧
    accountCalls = ["return", "time.Now", "time.Now().UnixNano", "l.mu.Lock", "defer:l.mu.Unlock",
      "l.packets.updateAndAdd", "l.packets.rate", "float64", "return",
      "int64", "l.bytes.updateAndAdd", "l.bytes.rate", "float64", "return", "return"] ∧
    "c.resize" ∈ addCalls ∧ rateCalls = ["float64", "float64", "return"] ∧
    newCalls = ["return", "newCounter", "newCounter", "return"] := by decide +kernel

open Gate.Gen.C34 in
/-- `Blocked`: key derivation first, LRU `Get`/`Add` inside the critical section, `Allow` on the bucket;
    `ipKey`: parse, `To4`, /24 mask else /64 mask. -/
theorem src_quota_shape :
    blockedCalls = ["ipKey", "q.mu.Lock", "q.cache.Get", "rate.Limit", "rate.NewLimiter", "q.cache.Add",
      "q.mu.Unlock", "limiter.Allow", "return"] ∧
    ipKeyCalls = ["net.ParseIP", "return", "ip.To4", "net.CIDRMask", "v4.Mask", "v4.Mask().String", "return",
      "net.CIDRMask", "ip.Mask", "ip.Mask().String", "return"] := by decide +kernel

theorem src_initial_size_positive : 0 < initialCounterSize := by decide

end Gate.C34.Props
