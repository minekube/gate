import GateModel.C44.Model
import GateModel.Base.Sched
/-
C44 helper lemmas.  A step pops the head `act` of one goroutine's stack and pushes `pushed` in its place.
Steps come in two kinds.  The `plain` ones leave the `Once`, `disc` and `skipped` alone and push no `body` item
(`effect_plain`).  The closing ones are the `Close` that wins the fresh `Once` and the steps of the close body
(`effect_closing`); while the body runs, its single `body` item is the only one in the system (`Inv.count`).
Every invariant below is proved by this split.
-/
namespace Gate.C44

theorem step_cases {r c t c'} (h : step r c t = some c') :
    ∃ act rest c1 pushed, c.crashed = false ∧ c.threads[t]? = some (act :: rest) ∧
      effect r c t act = some (c1, pushed) ∧ c' = { c1 with threads := c.threads.set t (pushed ++ rest) } := by
  unfold step at h
  split at h
  · cases h
  · rename_i hc
    split at h
    · rename_i act rest hth
      split at h
      · rename_i c1 pushed he
        exact ⟨act, rest, c1, pushed, by simpa using hc, hth, he, (Option.some.inj h).symm⟩
      · cases h
    · cases h

theorem runs (r : Bool) : Runs (step r) (exec r) := ⟨fun _ => rfl, fun _ _ _ => rfl⟩

/-- where an item of the stacks after a step comes from: it was pushed, or it was there, below the head -/
theorem mem_after {ths : List (List Act)} {t : Nat} {act : Act} {rest : List Act}
    (hth : ths[t]? = some (act :: rest)) (pushed : List Act) {t2 : Nat} {st2 : List Act} {a : Act}
    (h2 : (ths.set t (pushed ++ rest))[t2]? = some st2) (ha : a ∈ st2) :
    (t2 = t ∧ a ∈ pushed) ∨ ∃ st, (ths.set t rest)[t2]? = some st ∧ a ∈ st := by
  by_cases e : t2 = t
  · subst e
    rw [getElem?_set_of_some hth] at h2
    cases h2
    rcases List.mem_append.1 ha with ha | ha
    · exact Or.inl ⟨rfl, ha⟩
    · exact Or.inr ⟨rest, getElem?_set_of_some hth _, ha⟩
  · rw [List.getElem?_set_ne (Ne.symm e)] at h2
    exact Or.inr ⟨st2, by rw [List.getElem?_set_ne (Ne.symm e)]; exact h2, ha⟩

theorem mem_before {ths : List (List Act)} {t : Nat} {act : Act} {rest : List Act}
    (hth : ths[t]? = some (act :: rest)) {t2 : Nat} {st : List Act} {a : Act}
    (h2 : (ths.set t rest)[t2]? = some st) (ha : a ∈ st) : ∃ st0, ths[t2]? = some st0 ∧ a ∈ st0 := by
  by_cases e : t2 = t
  · subst e
    rw [getElem?_set_of_some hth] at h2
    cases h2
    exact ⟨_, hth, List.mem_cons_of_mem _ ha⟩
  · rw [List.getElem?_set_ne (Ne.symm e)] at h2
    exact ⟨st, h2, ha⟩

/-! ### frame facts of `effect` -/

def isBody : Act → Bool
  | .body _ _ => true
  | _ => false

/-- everything except a `body` step and the `Close` that wins the `Once` -/
def plain (c : Conn) : Act → Bool
  | .body _ _ => false
  | .api (.close _) _ => c.once != .fresh
  | _ => true

structure Frame (c c1 : Conn) : Prop where
  threads : c1.threads = c.threads
  handlers : c1.handlers = c.handlers
  canc : c.cancelled = true → c1.cancelled = true
  netc : c.netClosed = true → c1.netClosed = true

theorem effect_frame {r c t act c1 pushed} (h : effect r c t act = some (c1, pushed)) : Frame c c1 := by
  unfold effect effApi at h
  repeat' split at h
  all_goals cases h
  all_goals exact ⟨rfl, rfl, fun h => by simp [h], fun h => by simp [h]⟩

structure PlainFrame (c c1 : Conn) (pushed : List Act) : Prop where
  once : c1.once = c.once
  disc : c1.disc = c.disc
  skipped : c1.skipped = c.skipped
  nobody : ∀ a ∈ pushed, isBody a = false

theorem plain_nobody {c : Conn} {act : Act} (hp : plain c act = true) : isBody act = false := by
  cases act <;> first | rfl | cases hp

theorem effect_plain {r c t act c1 pushed} (hp : plain c act = true)
    (h : effect r c t act = some (c1, pushed)) : PlainFrame c c1 pushed := by
  cases act with
  | body pc rep => cases hp
  | readLoop script =>
    simp only [effect] at h
    repeat' split at h
    all_goals cases h
    all_goals refine ⟨rfl, rfl, rfl, fun a ha => ?_⟩
    all_goals simp only [List.mem_append, List.mem_map, List.mem_cons, List.not_mem_nil, or_false] at ha
    all_goals rcases ha with ⟨x, _, rfl⟩ | ⟨_, rfl⟩ | rfl | rfl
    all_goals rfl
  | _ =>
    simp only [effect, effApi] at h
    repeat' split at h
    all_goals first | cases h | skip
    all_goals first | exact ⟨rfl, rfl, rfl, by simp [isBody]⟩ | simp_all [plain]

/-! ### the close-body invariant -/

def bodyCnt (st : List Act) : Nat := (st.map (fun a => if isBody a then 1 else 0)).sum
def bodyTotalL (ths : List (List Act)) : Nat := (ths.map bodyCnt).sum

theorem bodyCnt_append (a b : List Act) : bodyCnt (a ++ b) = bodyCnt a + bodyCnt b := by simp [bodyCnt]
theorem bodyCnt_cons (a : Act) (b : List Act) : bodyCnt (a :: b) = (if isBody a then 1 else 0) + bodyCnt b := by
  simp [bodyCnt]

theorem bodyCnt_eq_zero {l : List Act} : bodyCnt l = 0 ↔ ∀ a ∈ l, isBody a = false := by
  simp [bodyCnt, List.sum_eq_zero_iff_forall_eq_nat]

theorem bodyTotalL_eq_zero {ths : List (List Act)} :
    bodyTotalL ths = 0 ↔ ∀ st ∈ ths, ∀ a ∈ st, isBody a = false := by
  simp [bodyTotalL, List.sum_eq_zero_iff_forall_eq_nat, bodyCnt_eq_zero]

/-- what is known while `body pc` (statement `pc` of the close body comes next, see the header of Model.lean) is on
    goroutine `t`'s stack: `t` runs the `Once`, the statements before `pc` have taken effect, and the teardown
    (`disc` or `skipped`) has been counted not at all up to `pc = 3`, exactly once at `pc = 4` -/
def itemOK (c : Conn) (t : Nat) : Act → Prop
  | .body pc _ => c.once = .running t ∧ pc ≤ 4 ∧ (2 ≤ pc → c.cancelled = true) ∧ (3 ≤ pc → c.netClosed = true)
      ∧ (pc ≤ 3 → c.disc = [] ∧ c.skipped = 0) ∧ (pc = 4 → c.disc.length + c.skipped = 1)
  | _ => True

def onceCnt : Once → Nat
  | .running _ => 1
  | _ => 0

structure Inv (c : Conn) : Prop where
  count : bodyTotalL c.threads = onceCnt c.once
  items : ∀ t st, c.threads[t]? = some st → ∀ a ∈ st, itemOK c t a
  fresh : c.once = .fresh → c.disc = [] ∧ c.skipped = 0
  done  : c.once = .done → c.cancelled = true ∧ c.netClosed = true ∧ c.disc.length + c.skipped = 1

theorem itemOK_nobody {c : Conn} {t : Nat} {a : Act} (h : isBody a = false) : itemOK c t a := by
  cases a <;> first | trivial | cases h

theorem itemOK_mono {c c' : Conn} {t a} (ho : c'.once = c.once) (hd : c'.disc = c.disc) (hs : c'.skipped = c.skipped)
    (hc : c.cancelled = true → c'.cancelled = true) (hn : c.netClosed = true → c'.netClosed = true)
    (h : itemOK c t a) : itemOK c' t a := by
  cases a with
  | body pc rep =>
    simp only [itemOK] at h ⊢
    rw [ho, hd, hs]
    exact ⟨h.1, h.2.1, fun x => hc (h.2.2.1 x), fun x => hn (h.2.2.2.1 x), h.2.2.2.2.1, h.2.2.2.2.2⟩
  | _ => trivial

/-- while the `Once` is running, the `body` item of the goroutine inside the close body is on its stack -/
theorem Inv.running_body {c : Conn} (inv : Inv c) {t' : Nat} (ho : c.once = .running t') :
    ∃ (t : Nat) (st : List Act) (pc : Nat) (rep : Bool), c.threads[t]? = some st ∧ Act.body pc rep ∈ st ∧
      itemOK c t (.body pc rep) := by
  apply Classical.byContradiction
  intro hn
  have : bodyTotalL c.threads = 0 := bodyTotalL_eq_zero.2 fun st hst a ha => by
    obtain ⟨t, ht⟩ := List.getElem?_of_mem hst
    cases a with
    | body pc rep => exact absurd ⟨t, st, pc, rep, ht, ha, inv.items t st ht _ ha⟩ hn
    | _ => rfl
  rw [inv.count, ho] at this
  cases this

theorem bodyTotal_after {c : Conn} {t : Nat} {act : Act} {rest pushed : List Act}
    (hth : c.threads[t]? = some (act :: rest)) :
    bodyTotalL (c.threads.set t (pushed ++ rest)) + (if isBody act then 1 else 0)
      = bodyTotalL c.threads + bodyCnt pushed := by
  have := sum_map_set bodyCnt c.threads t (act :: rest) (pushed ++ rest) hth
  simp only [bodyCnt_cons, bodyCnt_append] at this
  simp only [bodyTotalL]
  omega

/-- when the head of goroutine `t` accounts for every `body` item there is, nothing below or beside it is one -/
theorem others_nobody {c : Conn} {t : Nat} {act : Act} {rest : List Act}
    (hth : c.threads[t]? = some (act :: rest))
    (hcnt : bodyTotalL c.threads = if isBody act then 1 else 0) {t2 : Nat} {st : List Act}
    (h2 : (c.threads.set t rest)[t2]? = some st) : ∀ a ∈ st, isBody a = false := by
  have h0 := bodyTotal_after (pushed := []) hth
  rw [hcnt] at h0
  exact bodyTotalL_eq_zero.1 (by simpa [bodyCnt] using h0) st (List.mem_of_getElem? h2)

def safeAct : Act → Bool
  | .api a _ => safeInTeardown a
  | _ => false

theorem handlersSafe_get {hs : List Handler} (h : handlersSafe hs = true) (i : Nat) :
    ∀ a ∈ ((hs[i]?.map (·.onDisconnect)).getD []).map (Act.api · false), safeAct a = true := by
  intro a ha
  obtain ⟨x, hx, rfl⟩ := List.mem_map.1 ha
  cases hi : hs[i]? with
  | none => simp [hi] at hx
  | some hd =>
    simp only [handlersSafe, List.all_eq_true] at h
    exact h hd (List.mem_of_getElem? hi) x (by simpa [hi] using hx)

/-- what `Disconnected()` of the active handler puts in front of the last `body` item: API calls, safe ones if the
    handlers are, and only with the context cancelled -/
structure Teardown (c1 : Conn) (hs : List Handler) (hd : List Act) : Prop where
  nobody : ∀ a ∈ hd, isBody a = false
  safe : handlersSafe hs = true → ∀ a ∈ hd, safeAct a = true
  canc : hd ≠ [] → c1.cancelled = true

theorem teardown_nil {c1 : Conn} {hs : List Handler} : Teardown c1 hs [] :=
  ⟨fun _ h => (nomatch h), fun _ _ h => (nomatch h), fun h => absurd rfl h⟩

theorem teardown_handler {c1 : Conn} {hs : List Handler} (i : Nat) (hc : c1.cancelled = true) :
    Teardown c1 hs (((hs[i]?.map (·.onDisconnect)).getD []).map (Act.api · false)) where
  nobody a ha := by
    obtain ⟨x, _, rfl⟩ := List.mem_map.1 ha
    rfl
  safe h := handlersSafe_get h i
  canc _ := hc

/-- The steps that are not `plain`: the `Close` that wins the fresh `Once` pushes the close body; a step of the
    body pushes the next one, at `pc = 3` behind what the handler's `Disconnected()` does; the last one marks the
    `Once` done.  `hd` is that handler part. -/
theorem effect_closing {r c t act c1 pushed} (he : effect r c t act = some (c1, pushed))
    (hp : plain c act = false) (hact : itemOK c t act) (hfresh : c.once = .fresh → c.disc = [] ∧ c.skipped = 0) :
    onceCnt c.once = (if isBody act then 1 else 0) ∧
    ((c1.once = .done ∧ pushed = [] ∧ c1.cancelled = true ∧ c1.netClosed = true ∧ c1.disc.length + c1.skipped = 1) ∨
     (c1.once = .running t ∧ ∃ hd b, pushed = hd ++ [b] ∧ isBody b = true ∧ itemOK c1 t b ∧
        Teardown c1 c.handlers hd)) := by
  cases act with
  | api a rep =>
    cases a with
    | close k =>
      have hf : c.once = .fresh := by simpa [plain] using hp
      simp only [effect, effApi, hf] at he
      cases he
      refine ⟨by rw [hf]; rfl, Or.inr ⟨rfl, [], _, rfl, rfl, ?_, teardown_nil⟩⟩
      exact ⟨rfl, by split <;> omega, by split <;> omega, by split <;> omega, fun _ => hfresh hf,
        by split <;> omega⟩
    | _ => cases hp
  | body pc rep =>
    obtain ⟨hrun, hpc, hcan, hnet, hlow, hfour⟩ := hact
    refine ⟨by rw [hrun]; rfl, ?_⟩
    have hlt : pc = 0 ∨ pc = 1 ∨ pc = 2 ∨ pc = 3 ∨ pc = 4 := by omega
    rcases hlt with rfl | rfl | rfl | rfl | rfl <;> simp only [effect] at he
    · cases he
      exact Or.inr ⟨hrun, [], _, rfl, rfl, ⟨hrun, by omega, by omega, by omega, fun _ => hlow (by omega), by omega⟩,
        teardown_nil⟩
    · cases he
      exact Or.inr ⟨hrun, [], _, rfl, rfl, ⟨hrun, by omega, fun _ => rfl, by omega, fun _ => hlow (by omega), by omega⟩,
        teardown_nil⟩
    · cases he
      exact Or.inr ⟨hrun, [], _, rfl, rfl,
        ⟨hrun, by omega, fun _ => hcan (by omega), fun _ => rfl, fun _ => hlow (by omega), by omega⟩, teardown_nil⟩
    · have ⟨hd0, hs0⟩ := hlow (by omega)
      have hc := hcan (by omega)
      have hn := hnet (by omega)
      split at he <;> cases he
      · exact Or.inr ⟨hrun, _, _, rfl, rfl,
          ⟨hrun, by omega, fun _ => hc, fun _ => hn, by omega, fun _ => by simp [hd0, hs0]⟩, teardown_handler _ hc⟩
      · exact Or.inr ⟨hrun, [], _, rfl, rfl,
          ⟨hrun, by omega, fun _ => hc, fun _ => hn, by omega, fun _ => by simp [hd0, hs0]⟩, teardown_nil⟩
    · cases he
      exact Or.inl ⟨rfl, rfl, hcan (by omega), hnet (by omega), hfour rfl⟩
  | _ => cases hp

theorem step_Inv {r c t c'} (h : step r c t = some c') (inv : Inv c) : Inv c' := by
  obtain ⟨act, rest, c1, pushed, _, hth, he, rfl⟩ := step_cases h
  have fr := effect_frame he
  have hcnt := bodyTotal_after (pushed := pushed) hth
  have hact : itemOK c t act := inv.items t _ hth act (List.mem_cons_self ..)
  by_cases hp : plain c act = true
  · -- `once`, `disc`, `skipped` unchanged, nothing pushed is a body
    have pf := effect_plain hp he
    refine ⟨?_, ?_, ?_, ?_⟩
    · rw [plain_nobody hp, bodyCnt_eq_zero.2 pf.nobody] at hcnt
      show bodyTotalL (c.threads.set t (pushed ++ rest)) = onceCnt c1.once
      rw [pf.once, ← inv.count]
      exact hcnt
    · intro t2 st2 h2 a ha
      rcases mem_after hth pushed h2 ha with ⟨_, hpu⟩ | ⟨st, h2', ha'⟩
      · exact itemOK_nobody (pf.nobody a hpu)
      · obtain ⟨st0, h0, ha0⟩ := mem_before hth h2' ha'
        exact itemOK_mono pf.once pf.disc pf.skipped fr.canc fr.netc (inv.items t2 st0 h0 a ha0)
    · intro ho
      have := inv.fresh (pf.once ▸ ho)
      exact ⟨pf.disc ▸ this.1, pf.skipped ▸ this.2⟩
    · intro ho
      have := inv.done (pf.once ▸ ho)
      exact ⟨fr.canc this.1, fr.netc this.2.1, by rw [pf.disc, pf.skipped]; exact this.2.2⟩
  · -- the only `body` item of `c`, if any, is `act`; the only one afterwards is the one pushed
    obtain ⟨h0, hcl⟩ := effect_closing he (by simpa using hp) hact inv.fresh
    have hc0 : bodyTotalL c.threads = if isBody act then 1 else 0 := inv.count.trans h0
    have old : ∀ t2 st, (c.threads.set t rest)[t2]? = some st → ∀ a ∈ st, itemOK c1 t2 a :=
      fun t2 st h2 a ha => itemOK_nobody (others_nobody hth hc0 h2 a ha)
    rw [hc0] at hcnt
    have hcnt' : bodyTotalL (c.threads.set t (pushed ++ rest)) = bodyCnt pushed :=
      Nat.add_right_cancel (hcnt.trans (Nat.add_comm _ _))
    rcases hcl with ⟨hdone, rfl, dc⟩ | ⟨hrun, hd, b, rfl, hb, hok, hhd⟩
    · refine ⟨?_, fun t2 st2 h2 => old t2 st2 h2, fun ho => ?_, fun _ => dc⟩
      · show bodyTotalL (c.threads.set t ([] ++ rest)) = onceCnt c1.once
        rw [hdone]
        exact hcnt'
      · rw [hdone] at ho; cases ho
    · have hnb := hhd.nobody
      refine ⟨?_, ?_, fun ho => ?_, fun ho => ?_⟩
      · show bodyTotalL (c.threads.set t (hd ++ [b] ++ rest)) = onceCnt c1.once
        rw [hrun, hcnt', bodyCnt_append, bodyCnt_eq_zero.2 hnb, bodyCnt_cons, hb]
        rfl
      · intro t2 st2 h2 a ha
        rcases mem_after hth _ h2 ha with ⟨rfl, hpu⟩ | ⟨st, h2', ha'⟩
        · rcases List.mem_append.1 hpu with hpu | hpu
          · exact itemOK_nobody (hnb a hpu)
          · rw [List.mem_singleton.1 hpu]; exact hok
        · exact old t2 st h2' a ha'
      · rw [hrun] at ho; cases ho
      · rw [hrun] at ho; cases ho

theorem exec_Inv {r sched c c'} (h : exec r c sched = some c') (inv : Inv c) : Inv c' :=
  (runs r).induct Inv (fun _ _ _ hp hs => step_Inv hs hp) inv h

theorem inv_mkConn (handlers : List Handler) (active : Option Nat) (threads : List (List Act))
    (htop : ∀ th ∈ threads, ∀ a ∈ th, topLevel a = true) : Inv (mkConn handlers active threads) := by
  have nob : ∀ th ∈ threads, ∀ a ∈ th, isBody a = false := by
    intro th hth a ha
    have := htop th hth a ha
    cases a <;> first | rfl | cases this
  exact ⟨bodyTotalL_eq_zero.2 nob, fun t st hst a ha => itemOK_nobody (nob st (List.mem_of_getElem? hst) a ha),
    fun _ => ⟨rfl, rfl⟩, fun ho => by cases ho⟩

/-! ### what else one step may change -/

/-- how `results` may change in one step -/
def ResStep (c c1 : Conn) (t : Nat) : Prop :=
  c1.results = c.results ∨ (∃ r, c1.results = c.results ++ [(t, false, r)]) ∨
    (∃ r, c1.results = c.results ++ [(t, true, r)] ∧ c1.once = .done)

structure Misc (r : Bool) (c c1 : Conn) (t : Nat) : Prop where
  doneStable : c.once = .done → c1.once = .done
  active : c.active.isSome = true → c1.active.isSome = true ∧ c1.skipped = c.skipped
  crash : r = true → c1.crashed = c.crashed
  res : ResStep c c1 t

theorem record_cases (c : Conn) (rep : Bool) (t : Nat) (b : Bool) (x : Res) :
    record c rep t b x = c.results ∨ record c rep t b x = c.results ++ [(t, b, x)] := by
  unfold record; cases rep <;> simp

/-- a result is recorded for the goroutine that took the step; a `Close` result only with the `Once` done -/
theorem resStep_record {c c1 : Conn} {t : Nat} {rep b : Bool} {x : Res} (h : c1.results = record c rep t b x)
    (hb : b = true → c1.once = .done) : ResStep c c1 t := by
  rcases record_cases c rep t b x with e | e
  · exact Or.inl (h.trans e)
  · cases b
    · exact Or.inr (Or.inl ⟨x, h.trans e⟩)
    · exact Or.inr (Or.inr ⟨x, h.trans e, hb rfl⟩)

theorem effect_misc {r c t act c1 pushed} (h : effect r c t act = some (c1, pushed)) : Misc r c c1 t := by
  unfold effect effApi at h
  repeat' split at h
  all_goals cases h
  all_goals refine ⟨fun hd => by simp_all, fun ha => by simp_all, fun hr => by simp_all, ?_⟩
  all_goals first | exact Or.inl rfl | exact resStep_record rfl (by simp_all)

/-- results of `Close()` calls exist only once the `Once` is done -/
def CloseRes (c : Conn) : Prop := ∀ e ∈ c.results, e.2.1 = true → c.once = .done

theorem step_closeRes {r c t c'} (h : step r c t = some c') (k : CloseRes c) : CloseRes c' := by
  obtain ⟨act, rest, c1, pushed, _, hth, he, rfl⟩ := step_cases h
  have m := effect_misc he
  intro e he' hb
  show c1.once = .done
  have he1 : e ∈ c1.results := he'
  rcases m.res with e1 | ⟨x, e1⟩ | ⟨x, e1, hd⟩
  · exact m.doneStable (k e (e1 ▸ he1) hb)
  · rw [e1] at he1
    rcases List.mem_append.1 he1 with h1 | h1
    · exact m.doneStable (k e h1 hb)
    · rw [List.mem_singleton.1 h1] at hb; cases hb
  · exact hd

theorem exec_closeRes {r sched c c'} (h : exec r c sched = some c') (k : CloseRes c) : CloseRes c' :=
  (runs r).induct CloseRes (fun _ _ _ hp hs => step_closeRes hs hp) k h

theorem step_handlers {r c t c'} (h : step r c t = some c') : c'.handlers = c.handlers := by
  obtain ⟨act, rest, c1, pushed, _, hth, he, rfl⟩ := step_cases h
  exact (effect_frame he).handlers

theorem step_cancelled_mono {r c t c'} (h : step r c t = some c') (hc : c.cancelled = true) : c'.cancelled = true := by
  obtain ⟨act, rest, c1, pushed, _, hth, he, rfl⟩ := step_cases h
  exact (effect_frame he).canc hc

theorem step_active {r c t c'} (h : step r c t = some c') (ha : c.active.isSome = true ∧ c.skipped = 0) :
    c'.active.isSome = true ∧ c'.skipped = 0 := by
  obtain ⟨act, rest, c1, pushed, _, hth, he, rfl⟩ := step_cases h
  have m := (effect_misc he).active ha.1
  exact ⟨m.1, m.2.trans ha.2⟩

theorem exec_active {r sched c c'} (h : exec r c sched = some c') (ha : c.active.isSome = true ∧ c.skipped = 0) :
    c'.active.isSome = true ∧ c'.skipped = 0 :=
  (runs r).induct (fun x => x.active.isSome = true ∧ x.skipped = 0) (fun _ _ _ hp hs => step_active hs hp)
    ha h

theorem step_nocrash {c t c'} (h : step true c t = some c') (hc : c.crashed = false) : c'.crashed = false := by
  obtain ⟨act, rest, c1, pushed, _, hth, he, rfl⟩ := step_cases h
  exact ((effect_misc he).crash rfl).trans hc

/-! ### deadlock freedom: what sits in front of the pending `body` is harmless -/

/-- the part of a stack in front of its first `body` item -/
def pre (st : List Act) : List Act := st.takeWhile (fun a => !isBody a)

theorem pre_cons_nobody {a : Act} {st : List Act} (h : isBody a = false) : pre (a :: st) = a :: pre st := by
  simp [pre, List.takeWhile, h]
theorem pre_cons_body {a : Act} {st : List Act} (h : isBody a = true) : pre (a :: st) = [] := by
  simp [pre, List.takeWhile, h]
theorem pre_append_body : ∀ (l : List Act) (b : Act) (r : List Act), (∀ x ∈ l, isBody x = false) → isBody b = true →
    pre (l ++ b :: r) = l
  | [], b, r, _, hb => pre_cons_body hb
  | a :: l, b, r, hl, hb => by
      rw [List.cons_append, pre_cons_nobody (hl a (List.mem_cons_self ..)),
        pre_append_body l b r (fun x hx => hl x (List.mem_cons_of_mem _ hx)) hb]

structure PrefOK (c : Conn) : Prop where
  safe : ∀ t st, c.once = .running t → c.threads[t]? = some st → ∀ a ∈ pre st, safeAct a = true
  canc : ∀ t st, c.once = .running t → c.threads[t]? = some st → pre st ≠ [] → c.cancelled = true

/-- once the context is cancelled, an operation that is safe in teardown pushes nothing -/
theorem safe_pushes_nothing {r c t act c1 pushed} (hs : safeAct act = true) (hc : c.cancelled = true)
    (h : effect r c t act = some (c1, pushed)) : pushed = [] := by
  cases act with
  | api a rep =>
    cases a <;> simp only [effect, effApi, hc, if_true] at h <;> first | (cases h; rfl) | cases hs
  | _ => cases hs

theorem step_prefOK {r c t c'} (h : step r c t = some c') (hsafe : handlersSafe c.handlers = true)
    (inv : Inv c) (p : PrefOK c) : PrefOK c' := by
  obtain ⟨act, rest, c1, pushed, _, hth, he, rfl⟩ := step_cases h
  have fr := effect_frame he
  by_cases hp : plain c act = true
  · have pf := effect_plain hp he
    -- the goroutine inside the close body moves only if its head is safe and the context cancelled: it pushes nothing
    have key : ∀ (t2 : Nat) (st2 : List Act), c1.once = .running t2 →
        (c.threads.set t (pushed ++ rest))[t2]? = some st2 →
        (∀ a ∈ pre st2, safeAct a = true) ∧ (pre st2 ≠ [] → c.cancelled = true) := by
      intro t2 st2 hrun h2
      rw [pf.once] at hrun
      by_cases e : t2 = t
      · subst e
        rw [getElem?_set_of_some hth] at h2
        cases h2
        have hpre : pre (act :: rest) = act :: pre rest := pre_cons_nobody (plain_nobody hp)
        have hsa := p.safe t2 _ hrun hth
        have hca : c.cancelled = true := p.canc t2 _ hrun hth (by rw [hpre]; simp)
        rw [hpre] at hsa
        rw [safe_pushes_nothing (hsa act (List.mem_cons_self ..)) hca he]
        exact ⟨fun a ha => hsa a (List.mem_cons_of_mem _ ha), fun _ => hca⟩
      · rw [List.getElem?_set_ne (Ne.symm e)] at h2
        exact ⟨p.safe t2 st2 hrun h2, p.canc t2 st2 hrun h2⟩
    exact ⟨fun t2 st2 hrun h2 => (key t2 st2 hrun h2).1, fun t2 st2 hrun h2 hne => fr.canc ((key t2 st2 hrun h2).2 hne)⟩
  · obtain ⟨_, hcl⟩ := effect_closing he (by simpa using hp) (inv.items t _ hth act (List.mem_cons_self ..)) inv.fresh
    rcases hcl with ⟨hdone, _⟩ | ⟨hrun, hd, b, rfl, hb, _, hhd⟩
    · exact ⟨fun t2 st2 hr => (nomatch hdone.symm.trans (hr : c1.once = _)),
        fun t2 st2 hr => (nomatch hdone.symm.trans (hr : c1.once = _))⟩
    · -- in front of the pushed `body` item sits what `Disconnected()` does, and that is safe by hypothesis
      have hpre : ∀ (t2 : Nat) (st2 : List Act), c1.once = .running t2 →
          (c.threads.set t (hd ++ [b] ++ rest))[t2]? = some st2 → pre st2 = hd := by
        intro t2 st2 hr h2
        rw [hrun] at hr
        cases hr
        rw [getElem?_set_of_some hth] at h2
        cases h2
        rw [List.append_assoc]
        exact pre_append_body _ _ _ hhd.nobody hb
      refine ⟨fun t2 st2 hr h2 a ha => ?_, fun t2 st2 hr h2 hne => ?_⟩
      · rw [hpre t2 st2 hr h2] at ha
        exact hhd.safe hsafe a ha
      · rw [hpre t2 st2 hr h2] at hne
        exact hhd.canc hne

theorem prefOK_mkConn (handlers : List Handler) (active : Option Nat) (threads : List (List Act)) :
    PrefOK (mkConn handlers active threads) :=
  ⟨fun _ _ hr => (nomatch hr), fun _ _ hr => (nomatch hr)⟩

/-- an act that is neither a `Close` waiting on a running `Once` nor a malformed `body` is enabled -/
theorem effect_isSome (r : Bool) (c : Conn) (t : Nat) (act : Act)
    (hclose : ∀ k rep, act = .api (.close k) rep → ∀ t', c.once ≠ .running t')
    (hbody : ∀ pc rep, act = .body pc rep → pc ≤ 4) : (effect r c t act).isSome = true := by
  unfold effect effApi
  repeat' split
  all_goals first | rfl | skip
  · exact absurd ‹c.once = _› (hclose _ _ rfl _)
  · have := hbody _ _ rfl
    simp only [imp_false] at *
    omega

theorem step_isSome_of_effect {r c t act rest} (hc : c.crashed = false) (hth : c.threads[t]? = some (act :: rest))
    (he : (effect r c t act).isSome = true) : (step r c t).isSome = true := by
  unfold step
  rw [hc, hth]
  obtain ⟨⟨c1, pushed⟩, h1⟩ := Option.isSome_iff_exists.1 he
  simp [h1]

theorem terminal_iff (c : Conn) : terminal c = true ↔ ∀ th ∈ c.threads, th = [] :=
  all_isEmpty_iff c.threads

theorem terminal_bodyTotal {c : Conn} (h : terminal c = true) : bodyTotalL c.threads = 0 :=
  bodyTotalL_eq_zero.2 fun st hst a ha => by
    rw [(terminal_iff c).1 h st hst] at ha
    cases ha

theorem progress (r : Bool) (c : Conn) (inv : Inv c) (p : PrefOK c) (hc : c.crashed = false)
    (hnt : terminal c = false) : ∃ t, (step r c t).isSome = true := by
  have hbody : ∀ {t act rest}, c.threads[t]? = some (act :: rest) → ∀ pc rep, act = Act.body pc rep → pc ≤ 4 :=
    fun hth pc rep e => (inv.items _ _ hth (Act.body pc rep) (e ▸ List.mem_cons_self ..)).2.1
  cases ho : c.once with
  | running t' =>
    -- the goroutine inside the close body can move: its head is the `body` item or safe in teardown
    obtain ⟨t, st, pc, rep, hst, ha, hrun, _⟩ := inv.running_body ho
    cases st with
    | nil => cases ha
    | cons act rest =>
      refine ⟨t, step_isSome_of_effect hc hst (effect_isSome r c t act ?_ (hbody hst))⟩
      intro k rep e
      have hsa := p.safe t _ hrun hst act (by rw [pre_cons_nobody (by rw [e]; rfl)]; exact List.mem_cons_self ..)
      rw [e] at hsa
      cases hsa
  | _ =>
    obtain ⟨t, act, rest, hth⟩ := exists_work hnt
    exact ⟨t, step_isSome_of_effect hc hth
      (effect_isSome r c t act (fun _ _ _ t' h' => by rw [ho] at h'; cases h') (hbody hth))⟩

/-! ### a pending close trigger keeps the connection from staying open for ever -/

/-- acts that inevitably lead to a `closeOnce.Do`: `Close`/`CloseUnknown` and a read loop (whose exit runs
    `closeKnown`).  `CloseWith` and the guarded close are NOT among them: they give up when `Closed(c)` already
    reports true, which a cancelled parent context causes without any close having run. -/
def isTrigger : Act → Bool
  | .api (.close _) _ => true
  | .readLoop _ => true
  | _ => false

def hasTrigger (c : Conn) : Prop :=
  ∃ (t : Nat) (st : List Act) (a : Act), c.threads[t]? = some st ∧ a ∈ st ∧ isTrigger a = true

theorem terminal_no_trigger {c : Conn} (h : terminal c = true) : ¬ hasTrigger c := by
  rintro ⟨t, st, a, hst, ha, _⟩
  rw [(terminal_iff c).1 h st (List.mem_of_getElem? hst)] at ha
  cases ha

/-- a read loop pushes its successor or the closing `closeKnown`; a `Close` is not `plain` while the `Once` is fresh -/
theorem trigger_pushes_trigger {r c t act c1 pushed} (htr : isTrigger act = true) (hp : plain c act = true)
    (hf : c.once = .fresh) (h : effect r c t act = some (c1, pushed)) : ∃ a ∈ pushed, isTrigger a = true := by
  cases act with
  | api a rep =>
    cases a with
    | close k => simp [plain, hf] at hp
    | _ => cases htr
  | readLoop s =>
    simp only [effect] at h
    split at h
    · cases h; exact ⟨_, List.mem_cons_self .., rfl⟩
    · split at h
      · cases h; exact ⟨_, List.mem_cons_self .., rfl⟩
      · cases h; exact ⟨_, List.mem_cons_self .., rfl⟩
      · rename_i p more
        split at h <;> cases h <;> exact ⟨.readLoop more, by simp, rfl⟩
  | _ => cases htr

/-- the ghost flag `werr` is raised only by the step that also pushes the `Close()` of closeOnWriteErr -/
theorem effect_werr {r c t act c1 pushed} (h : effect r c t act = some (c1, pushed)) :
    c1.werr = c.werr ∨ ∃ a ∈ pushed, isTrigger a = true := by
  unfold effect effApi at h
  repeat' split at h
  all_goals cases h
  all_goals first | exact Or.inl rfl | exact Or.inr ⟨_, List.mem_cons_self .., rfl⟩

/-- A step that leaves the `Once` fresh is `plain`: it keeps a pending trigger pending (replacing it by the one it
    pushes), and raises `werr` only together with a trigger. -/
theorem step_fresh {r c t c'} (h : step r c t = some c') (inv : Inv c) (hf' : c'.once = .fresh) :
    c.once = .fresh ∧ (hasTrigger c → hasTrigger c') ∧ (c'.werr = true → c.werr = true ∨ hasTrigger c') := by
  obtain ⟨act, rest, c1, pushed, _, hth, he, rfl⟩ := step_cases h
  have hf1 : c1.once = .fresh := hf'
  by_cases hp : plain c act = true
  · have hf : c.once = .fresh := (effect_plain hp he).once ▸ hf1
    have pushedTrigger : (∃ a ∈ pushed, isTrigger a = true) →
        hasTrigger { c1 with threads := c.threads.set t (pushed ++ rest) } :=
      fun ⟨a, ha, htr⟩ => ⟨t, pushed ++ rest, a, getElem?_set_of_some hth _, List.mem_append_left _ ha, htr⟩
    refine ⟨hf, ?_, fun hw => ?_⟩
    · rintro ⟨t0, st0, a0, h0, ha0, htr⟩
      by_cases e : t0 = t
      · subst e
        rw [hth] at h0
        cases h0
        rcases List.mem_cons.1 ha0 with rfl | hin
        · exact pushedTrigger (trigger_pushes_trigger htr hp hf he)
        · exact ⟨t0, pushed ++ rest, a0, getElem?_set_of_some hth _, List.mem_append_right _ hin, htr⟩
      · exact ⟨t0, st0, a0, (List.getElem?_set_ne (Ne.symm e)).trans h0, ha0, htr⟩
    · rcases effect_werr he with e | htr
      · exact Or.inl (e ▸ hw)
      · exact Or.inr (pushedTrigger htr)
  · obtain ⟨_, hcl⟩ := effect_closing he (by simpa using hp) (inv.items t _ hth act (List.mem_cons_self ..)) inv.fresh
    rcases hcl with ⟨ho, _⟩ | ⟨ho, _⟩ <;> rw [ho] at hf1 <;> cases hf1

/-- While the `Once` is fresh a close trigger is pending: from the start (`w`), or since a write error raised `werr`
    and left its `Close()` behind. -/
def Pending (w : Bool) (c : Conn) : Prop := c.once = .fresh → (w = true ∨ c.werr = true) → hasTrigger c

theorem step_pending {r c t c' w} (h : step r c t = some c') (inv : Inv c) (p : Pending w c) : Pending w c' :=
  fun hf' hw' =>
    have ⟨hf, keep, raised⟩ := step_fresh h inv hf'
    match hw' with
    | .inl hw => keep (p hf (.inl hw))
    | .inr hw => (raised hw).elim (fun hw => keep (p hf (.inr hw))) id

theorem exec_inv_pending {r sched c c' w} (h : exec r c sched = some c') (inv : Inv c) (p : Pending w c) :
    Inv c' ∧ Pending w c' :=
  (runs r).induct (fun x => Inv x ∧ Pending w x)
    (fun _ _ _ hp hs => ⟨step_Inv hs hp.1, step_pending hs hp.1 hp.2⟩) ⟨inv, p⟩ h

theorem exec_inv_pref {r sched c c'} (h : exec r c sched = some c') (hsafe : handlersSafe c.handlers = true)
    (inv : Inv c) (p : PrefOK c) : Inv c' ∧ PrefOK c' ∧ c'.handlers = c.handlers :=
  (runs r).induct (fun x => Inv x ∧ PrefOK x ∧ x.handlers = c.handlers)
    (fun _ _ _ hp hs => ⟨step_Inv hs hp.1, step_prefOK hs (hp.2.2 ▸ hsafe) hp.1 hp.2.1,
      (step_handlers hs).trans hp.2.2⟩) ⟨inv, p, rfl⟩ h

end Gate.C44
