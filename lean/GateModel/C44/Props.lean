import GateModel.C44.Lemmas
import GateModel.Gen.C44
/-
C44 — Connections tear down exactly once and survive handler panics.

All theorems quantify over EVERY schedule `sched` (any interleaving of the goroutines' atomic
actions) of a system built by `mkConn`: any handler table, any number of goroutines, each any list of
API calls (`Close`, `CloseUnknown`, `CloseWith`, `WritePacket`/`Write`, `BufferPacket`/`BufferPayload`,
`Flush`, a failing net.Conn, handler switches, the guarded close of `serverConnection.disconnect0`) or
a read loop over any script of packets / panicking packets / EOF.  `r` is whether the read loop
recovers panics (`true` = the source, a regenerated fact below).
-/
namespace Gate.C44.Props
open Gate.C44

variable (handlers : List Handler) (active : Option Nat) (threads : List (List Act))

/-! ### teardown runs exactly once -/

/-- at every moment of every schedule `Disconnected()` has been called at most once -/
theorem teardown_at_most_once (r : Bool) (htop : ∀ th ∈ threads, ∀ a ∈ th, topLevel a = true)
    (sched : List Nat) (c' : Conn) (h : exec r (mkConn handlers active threads) sched = some c') :
    c'.disc.length ≤ 1 := by
  have inv := exec_Inv h (inv_mkConn handlers active threads htop)
  cases ho : c'.once with
  | fresh => rw [(inv.fresh ho).1]; exact Nat.zero_le _
  | done => have := (inv.done ho).2.2; omega
  | running t =>
    obtain ⟨_, _, pc, _, _, _, _, hpc, _, _, hlow, hfour⟩ := inv.running_body ho
    by_cases h3 : pc ≤ 3
    · rw [(hlow h3).1]; exact Nat.zero_le _
    · have := hfour (by omega); omega

/-- every goroutine returned and the connection was closed by anything: the teardown ran exactly once
    (counting the "no session handler installed" case in `skipped`), the Once is done, the context is
    cancelled and the net.Conn closed -/
theorem teardown_exactly_once (r : Bool) (htop : ∀ th ∈ threads, ∀ a ∈ th, topLevel a = true)
    (sched : List Nat) (c' : Conn) (h : exec r (mkConn handlers active threads) sched = some c')
    (hterm : terminal c' = true) (hclosed : c'.once ≠ .fresh) :
    c'.disc.length + c'.skipped = 1 ∧ c'.once = .done ∧ c'.cancelled = true ∧ c'.netClosed = true := by
  have inv := exec_Inv h (inv_mkConn handlers active threads htop)
  have h0 := terminal_bodyTotal hterm
  cases ho : c'.once with
  | fresh => exact absurd ho hclosed
  | running t => rw [inv.count, ho] at h0; cases h0
  | done => have := inv.done ho; exact ⟨this.2.2, rfl, this.1, this.2.1⟩

/-- a pending close trigger forces the close: no terminal state leaves the Once fresh -/
private theorem pending_closes (r : Bool) (htop : ∀ th ∈ threads, ∀ a ∈ th, topLevel a = true) (w : Bool)
    (p0 : Pending w (mkConn handlers active threads))
    (sched : List Nat) (c' : Conn) (h : exec r (mkConn handlers active threads) sched = some c')
    (hterm : terminal c' = true) (hw : w = true ∨ c'.werr = true) : c'.once ≠ .fresh :=
  fun hf => terminal_no_trigger hterm ((exec_inv_pending h (inv_mkConn handlers active threads htop) p0).2 hf hw)

/-- any pending close trigger (a `Close`/`CloseUnknown` call or a read loop, which ends in `closeKnown`) forces the
    close: no terminal state leaves the Once fresh — also when the parent context was cancelled first
    (`Api.cancelParent` makes `Closed(c)` true without closing anything; `CloseWith`, the guarded close and all
    writes then give up with ErrClosedConn, so they are not triggers) -/
theorem close_trigger_closes (r : Bool) (htop : ∀ th ∈ threads, ∀ a ∈ th, topLevel a = true)
    (htrig : ∃ th ∈ threads, ∃ a ∈ th, isTrigger a = true)
    (sched : List Nat) (c' : Conn) (h : exec r (mkConn handlers active threads) sched = some c')
    (hterm : terminal c' = true) : c'.once ≠ .fresh := by
  obtain ⟨th, hth, a, ha, htr⟩ := htrig
  obtain ⟨t, ht⟩ := List.getElem?_of_mem hth
  exact pending_closes handlers active threads r htop true (fun _ _ => ⟨t, th, a, ht, ha, htr⟩) sched c' h hterm
    (.inl rfl)

/-- the statement of the property: with a session handler installed and at least one close trigger,
    however many goroutines close / fail / hit EOF: `Disconnected()` was called exactly once -/
theorem disconnected_exactly_once (r : Bool) (htop : ∀ th ∈ threads, ∀ a ∈ th, topLevel a = true)
    (hact : active.isSome = true) (htrig : ∃ th ∈ threads, ∃ a ∈ th, isTrigger a = true)
    (sched : List Nat) (c' : Conn) (h : exec r (mkConn handlers active threads) sched = some c')
    (hterm : terminal c' = true) : c'.disc.length = 1 := by
  have hne := close_trigger_closes handlers active threads r htop htrig sched c' h hterm
  have h1 := (teardown_exactly_once handlers active threads r htop sched c' h hterm hne).1
  have := exec_active h ⟨hact, rfl⟩
  omega

/-! ### a cancelled parent context is not a close -/

/-- `cancelParent` only flips what `Closed(c)` reports: the Once stays as it was, nothing is torn down -/
theorem cancelParent_closes_nothing (c : Conn) (t : Nat) (rep : Bool) :
    effApi c t .cancelParent rep = some ({ c with cancelled := true }, []) := rfl

/-- `Close` after the parent context was cancelled still runs the whole teardown (and reports nil): the close
    path must not take `Closed(c)` for "already closed" -/
example : (match exec true (mkConn [⟨[], []⟩] (some 0) [[.api .cancelParent true, .api (.close true) true, .api .writeFlush true]])
      [0, 0, 0, 0, 0, 0, 0, 0] with
    | some c => terminal c && c.disc == [0] && c.netClosed && c.once == .done
        && c.results.map (·.2.2) == [.ok, .closed] | none => false) = true := by decide +kernel

/-- the read loop ending after a parent cancellation tears down as well -/
example : (match exec true (mkConn [⟨[], []⟩] (some 0) [[.api .cancelParent true], [.readLoop [.pkt false]]])
      [0, 1, 1, 1, 1, 1, 1] with
    | some c => terminal c && c.disc == [0] && c.netClosed && c.handled == 0 | none => false) = true := by decide +kernel

/-! ### later writes report the connection as closed -/

theorem closed_is_forever (r : Bool) (c c' : Conn) (sched : List Nat) (h : exec r c sched = some c')
    (hc : c.cancelled = true) : c'.cancelled = true :=
  (runs r).induct (fun x => x.cancelled = true) (fun _ _ _ hp hs => step_cancelled_mono hs hp) hc h

/-- once any `Close()` call has returned (with whatever result) the connection is closed -/
theorem close_returned_means_closed (r : Bool) (htop : ∀ th ∈ threads, ∀ a ∈ th, topLevel a = true)
    (sched : List Nat) (c' : Conn) (h : exec r (mkConn handlers active threads) sched = some c')
    (t : Nat) (res : Res) (hres : (t, true, res) ∈ c'.results) :
    c'.once = .done ∧ c'.cancelled = true ∧ c'.netClosed = true := by
  have inv := exec_Inv h (inv_mkConn handlers active threads htop)
  have k := exec_closeRes h (c := mkConn handlers active threads) (by intro e he; simp [mkConn] at he)
  have hd := k _ hres rfl
  exact ⟨hd, (inv.done hd).1, (inv.done hd).2.1⟩

/-- a write that starts on a closed connection returns ErrClosedConn and touches nothing -/
theorem write_on_closed_reports_closed (r : Bool) (c c' : Conn) (t : Nat) (a : Api) (rest : List Act)
    (ha : a = .writeFlush ∨ a = .buffer ∨ a = .closeWith)
    (hcl : c.cancelled = true) (hth : c.threads[t]? = some (.api a true :: rest))
    (hs : step r c t = some c') :
    c'.results = c.results ++ [(t, false, .closed)] ∧ c'.threads = c.threads.set t rest ∧
      c'.disc = c.disc ∧ c'.once = c.once ∧ c'.buffered = c.buffered := by
  obtain ⟨act, rest', c1, pushed, _, hth', he, rfl⟩ := step_cases hs
  rw [hth] at hth'
  obtain ⟨rfl, rfl⟩ := List.cons.inj (Option.some.inj hth')
  rcases ha with rfl | rfl | rfl <;> simp [effect, effApi, hcl, record] at he <;>
    obtain ⟨rfl, rfl⟩ := he <;> simp

/-- the two together: after a `Close()` has returned, every later write reports ErrClosedConn -/
theorem later_writes_report_closed (r : Bool) (htop : ∀ th ∈ threads, ∀ a ∈ th, topLevel a = true)
    (sched : List Nat) (c1 : Conn) (h : exec r (mkConn handlers active threads) sched = some c1)
    (t0 : Nat) (res : Res) (hres : (t0, true, res) ∈ c1.results)
    (later : List Nat) (c2 : Conn) (h2 : exec r c1 later = some c2)
    (t : Nat) (a : Api) (rest : List Act) (ha : a = .writeFlush ∨ a = .buffer ∨ a = .closeWith)
    (hth : c2.threads[t]? = some (.api a true :: rest)) (c3 : Conn) (hs : step r c2 t = some c3) :
    c3.results = c2.results ++ [(t, false, .closed)] := by
  have hc := (close_returned_means_closed handlers active threads r htop sched c1 h t0 res hres).2.1
  have hc2 := closed_is_forever r c1 c2 later h2 hc
  exact (write_on_closed_reports_closed r c2 c3 t a rest ha hc2 hth hs).1

/-! ### every write error closes the connection -/

/-- `closeOnWriteErr`: whatever the class of the error (generic, io.ErrClosedPipe, EPIPE, ECONNRESET,
    net.ErrClosed, timeout), a failing flush on an open connection records the error for the caller and
    calls `Close()` -/
theorem write_error_closes_every_class (r : Bool) (cls : ErrClass) (c : Conn) (t : Nat) (rep : Bool)
    (hf : c.failing = some cls) (hb : c.buffered = true) :
    effect r c t (.netFlush rep) =
      some ({ c with werr := true, results := record c rep t false .other }, [.api (.close true) false]) := by
  simp [effect, hf, hb]

/-- in every terminal state of every schedule in which any write/flush hit an error (of any class), the
    teardown ran exactly once, the context is cancelled and the net.Conn closed — also when no other close
    trigger exists (read loop parked, nobody calls `Close`) -/
theorem write_error_leads_to_teardown (r : Bool) (htop : ∀ th ∈ threads, ∀ a ∈ th, topLevel a = true)
    (sched : List Nat) (c' : Conn) (h : exec r (mkConn handlers active threads) sched = some c')
    (hterm : terminal c' = true) (hw : c'.werr = true) :
    c'.disc.length + c'.skipped = 1 ∧ c'.once = .done ∧ c'.cancelled = true ∧ c'.netClosed = true := by
  -- at the start nothing is pending and nothing has to be: no trigger is assumed and no write has failed yet
  have p0 : Pending false (mkConn handlers active threads) := fun _ hw0 => hw0.elim nofun nofun
  exact teardown_exactly_once handlers active threads r htop sched c' h hterm
    (pending_closes handlers active threads r htop false p0 sched c' h hterm (.inr hw))

/-- with a session handler installed: `Disconnected()` exactly once after any write error -/
theorem write_error_disconnects_exactly_once (r : Bool) (htop : ∀ th ∈ threads, ∀ a ∈ th, topLevel a = true)
    (hact : active.isSome = true)
    (sched : List Nat) (c' : Conn) (h : exec r (mkConn handlers active threads) sched = some c')
    (hterm : terminal c' = true) (hw : c'.werr = true) : c'.disc.length = 1 := by
  have h1 := (write_error_leads_to_teardown handlers active threads r htop sched c' h hterm hw).1
  have := exec_active h ⟨hact, rfl⟩
  omega

/-- non-vacuity: read side parked (no read loop), the only goroutine writes on a connection whose peer
    reset it: the write fails, the teardown runs once, the next write reports ErrClosedConn -/
example : (match exec true (mkConn [⟨[], []⟩] (some 0) [[.api (.failNet .connReset) true, .api .writeFlush true, .api .writeFlush true]])
      [0, 0, 0, 0, 0, 0, 0, 0, 0, 0] with
    | some c => terminal c && c.werr && c.disc == [0] && c.cancelled
        && c.results.map (·.2.2) == [.other, .closed] | none => false) = true := by decide +kernel

/-! ### a handler panic is contained -/

theorem panic_contained (c c' : Conn) (sched : List Nat) (h : exec true c sched = some c')
    (hc : c.crashed = false) : c'.crashed = false :=
  (runs true).induct (fun x => x.crashed = false) (fun _ _ _ hp hs => step_nocrash hs hp) hc h

/-- after the panic the loop goes on with the rest of its input -/
theorem loop_continues_after_panic (c : Conn) (t : Nat) (more : List Ev) (rest : List Act)
    (hc : c.crashed = false) (hth : c.threads[t]? = some (.notePanic :: .readLoop more :: rest)) :
    ∃ c', step true c t = some c' ∧ c'.threads[t]? = some (.readLoop more :: rest) ∧
      c'.panics = c.panics + 1 ∧ c'.crashed = false ∧ c'.once = c.once ∧ c'.disc = c.disc := by
  refine ⟨{ c with panics := c.panics + 1, threads := c.threads.set t (.readLoop more :: rest) }, ?_, ?_, rfl, hc, rfl, rfl⟩
  · simp [step, hc, hth, effect]
  · exact getElem?_set_of_some hth _

/-- what the `recover` buys: without it the same panic ends the process -/
def panicProg : List (List Act) := [[.readLoop [.pkt true, .pkt false, .eof]]]
theorem without_recover_process_dies :
    (match exec false (mkConn [⟨[], []⟩] (some 0) panicProg) [0, 0] with
     | some c => c.crashed && c.disc.isEmpty | none => false) = true := by decide +kernel
theorem with_recover_loop_finishes :
    (match exec true (mkConn [⟨[], []⟩] (some 0) panicProg) [0, 0, 0, 0, 0, 0, 0, 0, 0] with
     | some c => !c.crashed && terminal c && c.handled == 2 && c.panics == 1 && c.disc == [0] | none => false) = true := by
  decide +kernel

/-! ### no deadlock — as long as `Disconnected()` stays away from `Close()`/`Flush()` on its own connection -/

theorem no_deadlock (r : Bool) (htop : ∀ th ∈ threads, ∀ a ∈ th, topLevel a = true)
    (hsafe : handlersSafe handlers = true)
    (sched : List Nat) (c' : Conn) (h : exec r (mkConn handlers active threads) sched = some c')
    (hc : c'.crashed = false) (hnt : terminal c' = false) : ∃ t, (step r c' t).isSome = true := by
  have ⟨inv, p, _⟩ := exec_inv_pref h (c := mkConn handlers active threads) hsafe
    (inv_mkConn handlers active threads htop) (prefOK_mkConn handlers active threads)
  exact progress r c' inv p hc hnt

def stuckAfter (hs : List Handler) (prog : List (List Act)) (sched : List Nat) : Bool :=
  match exec true (mkConn hs (some 0) prog) sched with
  | some c => !terminal c && !c.crashed && (List.range c.threads.length).all (fun t => (step true c t).isNone)
  | none => false

/-- `Disconnected()` calling `Close()` on its own connection re-enters `closeOnce.Do`: stuck for ever -/
theorem reclose_in_disconnected_deadlocks :
    stuckAfter [⟨[], [.close true]⟩] [[.api (.close true) true]] [0, 0, 0, 0, 0] = true := by decide +kernel

/-- so does `Flush()`: it has no `Closed` check, the flush of the closed net.Conn fails and its error
    path (`closeOnWriteErr`) calls `Close()` -/
theorem flush_in_disconnected_deadlocks :
    stuckAfter [⟨[], [.flush]⟩] [[.api (.close true) true]] [0, 0, 0, 0, 0, 0, 0] = true := by decide +kernel

/-- the guard used by `serverConnection.disconnect0` (`if !Closed(c) { CloseUnknown(c) }`) and every
    checked write are fine inside `Disconnected()` -/
example : handlersSafe [⟨[.close true], [.guardedClose, .writeFlush, .buffer, .closeWith, .setHandler 0, .failNet .connReset]⟩] = true := by
  decide +kernel

/-! ### tie to the source: call sequences regenerated from connection.go / server.go -/

open Gate.Gen.C44 in
/-- the close body runs inside `closeOnce.Do`'s function: cancel the context, close the net.Conn, then
    read the active handler and call `Disconnected()` -/
theorem close_body_order :
    before closeKnownCalls "func:{" "c.cancelCtx" = true ∧ before closeKnownCalls "c.cancelCtx" "c.c.Close" = true ∧
    before closeKnownCalls "c.c.Close" "c.ActiveSessionHandler" = true ∧
    before closeKnownCalls "c.ActiveSessionHandler" "sh.Disconnected" = true ∧
    before closeKnownCalls "sh.Disconnected" "}" = true ∧ before closeKnownCalls "}" "c.closeOnce.Do" = true ∧
    (closeKnownCalls.filter (· == "sh.Disconnected")).length = 1 ∧
    closeCalls = ["c.closeKnown", "return"] ∧ has closeUnknownCalls "mc.closeKnown" = true ∧
    -- no `Closed(c)` fast path in front of the Once: the context may be cancelled by the parent alone
    has closeKnownCalls "Closed" = false ∧ closeKnownCalls.head? = some "func:{" := by decide +kernel

open Gate.Gen.C44 in
/-- every writer checks `Closed(c)` before anything else; `Closed` reads the context -/
theorem writers_check_closed_first :
    writePacketCalls.head? = some "Closed" ∧ writeCalls.head? = some "Closed" ∧
    bufferPacketCalls.head? = some "Closed" ∧ bufferPayloadCalls.head? = some "Closed" ∧
    closeWithCalls.head? = some "Closed" ∧ closedCalls = ["c.Context", "c.Context().Err", "return"] := by decide +kernel

open Gate.Gen.C44 in
/-- `Flush` has no `Closed` check; write errors close the connection through `closeOnWriteErr → Close` -/
theorem flush_error_path :
    flushCalls = ["c.wr.Flush", "c.closeOnWriteErr", "return"] ∧ has closeOnWriteErrCalls "c.Close" = true ∧
    has writeCalls "c.closeOnWriteErr" = true ∧ has bufferPacketCalls "c.closeOnWriteErr" = true ∧
    has bufferPayloadCalls "c.closeOnWriteErr" = true ∧ before writePacketCalls "c.BufferPacket" "c.Flush" = true := by
  decide +kernel

open Gate.Gen.C44 in
/-- `closeOnWriteErr` reaches `c.Close()` on every path with a non-nil error: the only `return` in front of it
    is the `err == nil` guard, and every classification of the error (`errors.Is` ErrClosedConn, `errors.As`
    *net.OpError, `errs.IsConnClosedErr`) comes after it — the class only decides about logging -/
theorem closeOnWriteErr_closes_before_classifying :
    closeOnWriteErrCalls.take 2 = ["return", "c.Close"] ∧
    before closeOnWriteErrCalls "c.Close" "errors.Is" = true ∧ before closeOnWriteErrCalls "c.Close" "errors.As" = true ∧
    before closeOnWriteErrCalls "c.Close" "errs.IsConnClosedErr" = true ∧
    (closeOnWriteErrCalls.filter (· == "c.Close")).length = 1 := by decide +kernel

open Gate.Gen.C44 in
/-- `CloseWith`: closed check, mark known, write the packet, and (deferred) `Close` -/
theorem closeWith_shape :
    closeWithCalls = ["Closed", "return", "defer:{", "c.Close", "}", "mc.knownDisconnect.Store", "c.WritePacket", "return"] := by
  decide +kernel

open Gate.Gen.C44 in
/-- the read loop: `closeKnown` is deferred; the inner loop function defers a `recover` and the outer
    loop calls it again -/
theorem readloop_recovers_and_closes :
    before readLoopCalls "defer:{" "c.closeKnown" = true ∧
    readLoopCalls.drop (readLoopCalls.length - 9) =
      ["func:{", "defer:{", "recover", "c.log.Error", "}", "cond", "return", "}", "loop"] ∧
    before readLoopCalls "Closed" "next" = true ∧ has readLoopCalls "sessionHandler.HandlePacket" = true := by decide +kernel

open Gate.Gen.C44 in
/-- the one place where gate's own `Disconnected()` closes a connection checks `Closed` first -/
theorem disconnect0_is_guarded : before disconnect0Calls "netmc.Closed" "netmc.CloseUnknown" = true := by decide +kernel

end Gate.C44.Props
