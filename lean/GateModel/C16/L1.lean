import GateModel.C16.Model
/-
C16 — part 1: frame facts of the primitive updates, handler/phase consistency `JP`, the order `StLe` (what any step
may do to the records of the connections that exist already), and `step` read backwards (`BackStep` for a read loop,
`TaskStep` with `KickStep` for a request goroutine, `EnvStep` for the rest: one constructor per critical section), on
which the later invariants do their case analysis.
-/
namespace Gate.C16

@[simp] theorem upd_same {α} (f : Nat → α) (i : Nat) (x : α) : upd f i x i = x := by simp [upd]
theorem upd_other {α} (f : Nat → α) (i j : Nat) (x : α) (h : j ≠ i) : upd f i x j = f j := by simp [upd, h]
theorem upd_apply {α} (f : Nat → α) (i j : Nat) (x : α) : upd f i x j = if j = i then x else f j := rfl

@[simp] theorem orElse_isNone (r : Option Res) (x : Res) : (orElse r x).isNone = false := by
  cases r <;> rfl
@[simp] theorem orElse_ne_none (r : Option Res) (x : Res) : orElse r x ≠ none := by
  cases r <;> simp [orElse]
@[simp] theorem orElse_some (y x : Res) : orElse (some y) x = some y := rfl
@[simp] theorem orElse_none (x : Res) : orElse none x = some x := rfl

/-- closing a connection touches the connection records and the player lists only -/
theorem closeConn_frame (s : St) (o : Nat) : ∃ cs pl, closeConn s o = { s with conns := cs, players := pl } := by
  cases hp : (s.conns o).phase <;> simp only [closeConn, hp] <;> exact ⟨_, _, rfl⟩

@[simp] theorem closeConn_nconns (s : St) (o : Nat) : (closeConn s o).nconns = s.nconns := by
  obtain ⟨_, _, h⟩ := closeConn_frame s o; rw [h]
@[simp] theorem closeConn_ntasks (s : St) (o : Nat) : (closeConn s o).ntasks = s.ntasks := by
  obtain ⟨_, _, h⟩ := closeConn_frame s o; rw [h]
@[simp] theorem closeConn_tasks (s : St) (o : Nat) : (closeConn s o).tasks = s.tasks := by
  obtain ⟨_, _, h⟩ := closeConn_frame s o; rw [h]
@[simp] theorem closeConn_inFlight (s : St) (o : Nat) : (closeConn s o).inFlight = s.inFlight := by
  obtain ⟨_, _, h⟩ := closeConn_frame s o; rw [h]
@[simp] theorem closeConn_current (s : St) (o : Nat) : (closeConn s o).current = s.current := by
  obtain ⟨_, _, h⟩ := closeConn_frame s o; rw [h]
@[simp] theorem closeConn_active (s : St) (o : Nat) : (closeConn s o).active = s.active := by
  obtain ⟨_, _, h⟩ := closeConn_frame s o; rw [h]

theorem closeConn_conns_other (s : St) (o c : Nat) (h : c ≠ o) : (closeConn s o).conns c = s.conns c := by
  cases hp : (s.conns o).phase <;> simp [closeConn, hp, upd_other, h]

theorem closeConn_conns_cases (s : St) (o c : Nat) :
    ((c ≠ o ∨ (s.conns c).phase = .closed ∨ (s.conns c).phase = .dialing) ∧ (closeConn s o).conns c = s.conns c) ∨
    ((s.conns c).phase = .play ∧ c = o ∧ (closeConn s o).conns c = { s.conns c with phase := .closed }) ∨
    (((s.conns c).phase = .login ∨ (s.conns c).phase = .config ∨ (s.conns c).phase = .transition) ∧ c = o ∧
      (closeConn s o).conns c = { s.conns c with phase := .closed, result := orElse (s.conns c).result .err }) := by
  by_cases hc : c = o
  · subst hc
    cases hp : (s.conns c).phase <;> simp [closeConn, hp]
  · left; exact ⟨Or.inl hc, closeConn_conns_other s o c hc⟩

@[simp] theorem closeConn_h (s : St) (o c : Nat) : ((closeConn s o).conns c).h = (s.conns c).h := by
  rcases closeConn_conns_cases s o c with ⟨_, h⟩ | ⟨_, _, h⟩ | ⟨_, _, h⟩ <;> rw [h]
@[simp] theorem closeConn_server (s : St) (o c : Nat) : ((closeConn s o).conns c).server = (s.conns c).server := by
  rcases closeConn_conns_cases s o c with ⟨_, h⟩ | ⟨_, _, h⟩ | ⟨_, _, h⟩ <;> rw [h]
@[simp] theorem closeConn_jold (s : St) (o c : Nat) : ((closeConn s o).conns c).jold = (s.conns c).jold := by
  rcases closeConn_conns_cases s o c with ⟨_, h⟩ | ⟨_, _, h⟩ | ⟨_, _, h⟩ <;> rw [h]
@[simp] theorem closeConn_completedJoin (s : St) (o c : Nat) :
    ((closeConn s o).conns c).completedJoin = (s.conns c).completedJoin := by
  rcases closeConn_conns_cases s o c with ⟨_, h⟩ | ⟨_, _, h⟩ | ⟨_, _, h⟩ <;> rw [h]

theorem closeConn_phase_self (s : St) (o : Nat) (h : (s.conns o).phase ≠ .dialing) :
    ((closeConn s o).conns o).phase = .closed := by
  cases hp : (s.conns o).phase <;> simp_all [closeConn]

theorem closeConn_stalled (s : St) (o c : Nat) : ((closeConn s o).conns c).stalled = (s.conns c).stalled := by
  rcases closeConn_conns_cases s o c with ⟨_, h⟩ | ⟨_, _, h⟩ | ⟨_, _, h⟩ <;> rw [h]

theorem closeConn_phase_closed_or_dialing (s : St) (o : Nat) :
    ((closeConn s o).conns o).phase = .closed ∨ ((closeConn s o).conns o).phase = .dialing := by
  cases hp : (s.conns o).phase <;> simp [closeConn, hp]

@[simp] theorem closeOpt_nconns (s : St) (o : Option Nat) : (closeOpt s o).nconns = s.nconns := by
  cases o <;> simp [closeOpt]
@[simp] theorem closeOpt_ntasks (s : St) (o : Option Nat) : (closeOpt s o).ntasks = s.ntasks := by
  cases o <;> simp [closeOpt]
@[simp] theorem closeOpt_tasks (s : St) (o : Option Nat) : (closeOpt s o).tasks = s.tasks := by
  cases o <;> simp [closeOpt]
@[simp] theorem closeOpt_inFlight (s : St) (o : Option Nat) : (closeOpt s o).inFlight = s.inFlight := by
  cases o <;> simp [closeOpt]
@[simp] theorem closeOpt_current (s : St) (o : Option Nat) : (closeOpt s o).current = s.current := by
  cases o <;> simp [closeOpt]
@[simp] theorem closeOpt_active (s : St) (o : Option Nat) : (closeOpt s o).active = s.active := by
  cases o <;> simp [closeOpt]
@[simp] theorem closeOpt_h (s : St) (o : Option Nat) (c : Nat) : ((closeOpt s o).conns c).h = (s.conns c).h := by
  cases o <;> simp [closeOpt]
@[simp] theorem closeOpt_server (s : St) (o : Option Nat) (c : Nat) :
    ((closeOpt s o).conns c).server = (s.conns c).server := by
  cases o <;> simp [closeOpt]
@[simp] theorem closeOpt_jold (s : St) (o : Option Nat) (c : Nat) : ((closeOpt s o).conns c).jold = (s.conns c).jold := by
  cases o <;> simp [closeOpt]
@[simp] theorem closeOpt_completedJoin (s : St) (o : Option Nat) (c : Nat) :
    ((closeOpt s o).conns c).completedJoin = (s.conns c).completedJoin := by
  cases o <;> simp [closeOpt]
theorem closeOpt_conns_cases (s : St) (o : Option Nat) (c : Nat) :
    (closeOpt s o).conns c = s.conns c ∨
    ((s.conns c).phase = .play ∧ o = some c ∧ (closeOpt s o).conns c = { s.conns c with phase := .closed }) ∨
    (((s.conns c).phase = .login ∨ (s.conns c).phase = .config ∨ (s.conns c).phase = .transition) ∧ o = some c ∧
      (closeOpt s o).conns c = { s.conns c with phase := .closed, result := orElse (s.conns c).result .err }) := by
  cases o with
  | none => left; rfl
  | some o =>
    rcases closeConn_conns_cases s o c with ⟨_, h⟩ | ⟨hp, hc, h⟩ | ⟨hp, hc, h⟩
    · left; exact h
    · right; left; exact ⟨hp, by rw [hc], h⟩
    · right; right; exact ⟨hp, by rw [hc], h⟩

@[simp] theorem setH_nconns (s : St) (c : Nat) (h : H) : (setH s c h).nconns = s.nconns := rfl
@[simp] theorem setH_inFlight (s : St) (c : Nat) (h : H) : (setH s c h).inFlight = s.inFlight := rfl
@[simp] theorem setH_current (s : St) (c : Nat) (h : H) : (setH s c h).current = s.current := rfl
@[simp] theorem setH_tasks (s : St) (c : Nat) (h : H) : (setH s c h).tasks = s.tasks := rfl
@[simp] theorem setH_ntasks (s : St) (c : Nat) (h : H) : (setH s c h).ntasks = s.ntasks := rfl
@[simp] theorem setH_active (s : St) (c : Nat) (h : H) : (setH s c h).active = s.active := rfl
@[simp] theorem setH_players (s : St) (c : Nat) (h : H) : (setH s c h).players = s.players := rfl
theorem setH_conns (s : St) (c d : Nat) (h : H) :
    (setH s c h).conns d = if d = c then { s.conns c with h := h } else s.conns d := by
  simp [setH, upd_apply]

@[simp] theorem spawnTask_conns (s : St) (t : Task) : (spawnTask s t).conns = s.conns := rfl
@[simp] theorem spawnTask_nconns (s : St) (t : Task) : (spawnTask s t).nconns = s.nconns := rfl
@[simp] theorem spawnTask_inFlight (s : St) (t : Task) : (spawnTask s t).inFlight = s.inFlight := rfl
@[simp] theorem spawnTask_current (s : St) (t : Task) : (spawnTask s t).current = s.current := rfl
@[simp] theorem spawnTask_active (s : St) (t : Task) : (spawnTask s t).active = s.active := rfl
@[simp] theorem spawnTask_players (s : St) (t : Task) : (spawnTask s t).players = s.players := rfl
@[simp] theorem spawnTask_ntasks (s : St) (t : Task) : (spawnTask s t).ntasks = s.ntasks + 1 := rfl
theorem spawnTask_tasks (s : St) (t : Task) (i : Nat) :
    (spawnTask s t).tasks i = if i = s.ntasks then t else s.tasks i := rfl

@[simp] theorem setPc_conns (s : St) (i : Nat) (pc : PC) : (setPc s i pc).conns = s.conns := rfl
@[simp] theorem setPc_nconns (s : St) (i : Nat) (pc : PC) : (setPc s i pc).nconns = s.nconns := rfl
@[simp] theorem setPc_ntasks (s : St) (i : Nat) (pc : PC) : (setPc s i pc).ntasks = s.ntasks := rfl
@[simp] theorem setPc_inFlight (s : St) (i : Nat) (pc : PC) : (setPc s i pc).inFlight = s.inFlight := rfl
@[simp] theorem setPc_current (s : St) (i : Nat) (pc : PC) : (setPc s i pc).current = s.current := rfl
@[simp] theorem setPc_active (s : St) (i : Nat) (pc : PC) : (setPc s i pc).active = s.active := rfl
@[simp] theorem setPc_players (s : St) (i : Nat) (pc : PC) : (setPc s i pc).players = s.players := rfl
theorem setPc_tasks (s : St) (i j : Nat) (pc : PC) :
    (setPc s i pc).tasks j = if j = i then { s.tasks i with pc := pc } else s.tasks j := rfl

@[simp] theorem finish_conns (s : St) (i : Nat) (r : Res) : (finish s i r).conns = s.conns := rfl
@[simp] theorem finish_nconns (s : St) (i : Nat) (r : Res) : (finish s i r).nconns = s.nconns := rfl
@[simp] theorem finish_ntasks (s : St) (i : Nat) (r : Res) : (finish s i r).ntasks = s.ntasks := rfl
@[simp] theorem finish_inFlight (s : St) (i : Nat) (r : Res) : (finish s i r).inFlight = s.inFlight := rfl
@[simp] theorem finish_current (s : St) (i : Nat) (r : Res) : (finish s i r).current = s.current := rfl
@[simp] theorem finish_active (s : St) (i : Nat) (r : Res) : (finish s i r).active = s.active := rfl
@[simp] theorem finish_players (s : St) (i : Nat) (r : Res) : (finish s i r).players = s.players := rfl
theorem finish_tasks (s : St) (i j : Nat) (r : Res) :
    (finish s i r).tasks j = if j = i then { s.tasks i with res := some r, pc := .post } else s.tasks j := rfl

@[simp] theorem quitPlayer_nconns (s : St) : (quitPlayer s).nconns = s.nconns := by
  unfold quitPlayer; split <;> simp
@[simp] theorem quitPlayer_ntasks (s : St) : (quitPlayer s).ntasks = s.ntasks := by
  unfold quitPlayer; split <;> simp
@[simp] theorem quitPlayer_tasks (s : St) : (quitPlayer s).tasks = s.tasks := by
  unfold quitPlayer; split <;> simp
@[simp] theorem quitPlayer_inFlight (s : St) : (quitPlayer s).inFlight = s.inFlight := by
  unfold quitPlayer; split <;> simp
@[simp] theorem quitPlayer_current (s : St) : (quitPlayer s).current = s.current := by
  unfold quitPlayer; split <;> simp
theorem quitPlayer_active (s : St) : (quitPlayer s).active = false := by
  unfold quitPlayer; split <;> simp_all

/-- Well-formedness of one connection record: the position `h` of its read loop, its phase and the result of its
    request fit together.  Inside handleJoinGame before completeJoin (`j1b`, `j3`) and inside doSwitch (`sw1`–`sw3`) the
    connection is still in transition / config and has no result, unless it was closed meanwhile (closing writes a
    result); `j4`, `j5` come after the change to play; `closeSelf` follows a Disconnect in login or transition,
    `cfgKick2` the close after one in config.  A dialing connection (no result yet) and a stalled one are between two
    packets.  As long as the backend has something left to say, a connection that waits for its login outcome or its
    JoinGame has no result.  Success goes with play, every other result with login / transition, where
    `Disconnected()`, the kick handlers and the deadline watchers write it.  In each case the connection may have
    been closed since. -/
def jpOK (C : Conn) : Prop :=
  ((C.h = .j1b ∨ C.h = .j3) → (C.phase = .transition ∧ C.result = none) ∨ (C.phase = .closed ∧ C.result ≠ none)) ∧
  ((C.h = .j4 ∨ C.h = .j5) → C.phase = .play ∨ C.phase = .closed) ∧
  (C.phase = .dialing → C.h = .idle ∧ C.result = none) ∧
  (C.h = .closeSelf → C.phase = .login ∨ C.phase = .transition ∨ C.phase = .closed) ∧
  (C.h = .cfgKick2 → C.phase = .closed) ∧
  ((C.phase = .login ∨ C.phase = .config ∨ C.phase = .transition) → C.h = .idle → C.beh ≠ .idle → C.result = none) ∧
  ((C.h = .sw1 ∨ C.h = .sw2 ∨ C.h = .sw3) → (C.phase = .config ∧ C.result = none) ∨ (C.phase = .closed ∧ C.result ≠ none)) ∧
  (C.stalled = true → C.h = .idle) ∧
  (C.result = some .ok → C.phase = .play ∨ C.phase = .closed) ∧
  (∀ r, C.result = some r → r ≠ .ok → C.phase = .login ∨ C.phase = .transition ∨ C.phase = .closed)

def JP (s : St) : Prop := ∀ c, c < s.nconns → jpOK (s.conns c)

theorem jpOK.joining {C : Conn} (h : jpOK C) : (C.h = .j1b ∨ C.h = .j3) →
    (C.phase = .transition ∧ C.result = none) ∨ (C.phase = .closed ∧ C.result ≠ none) := h.1
theorem jpOK.installing {C : Conn} (h : jpOK C) : (C.h = .j4 ∨ C.h = .j5) → C.phase = .play ∨ C.phase = .closed :=
  h.2.1
theorem jpOK.dialing {C : Conn} (h : jpOK C) : C.phase = .dialing → C.h = .idle ∧ C.result = none := h.2.2.1
theorem jpOK.closeSelf {C : Conn} (h : jpOK C) :
    C.h = .closeSelf → C.phase = .login ∨ C.phase = .transition ∨ C.phase = .closed := h.2.2.2.1
theorem jpOK.cfgKick2 {C : Conn} (h : jpOK C) : C.h = .cfgKick2 → C.phase = .closed := h.2.2.2.2.1
theorem jpOK.pending {C : Conn} (h : jpOK C) : (C.phase = .login ∨ C.phase = .config ∨ C.phase = .transition) →
    C.h = .idle → C.beh ≠ .idle → C.result = none := h.2.2.2.2.2.1
theorem jpOK.switching {C : Conn} (h : jpOK C) : (C.h = .sw1 ∨ C.h = .sw2 ∨ C.h = .sw3) →
    (C.phase = .config ∧ C.result = none) ∨ (C.phase = .closed ∧ C.result ≠ none) := h.2.2.2.2.2.2.1
theorem jpOK.stalled {C : Conn} (h : jpOK C) : C.stalled = true → C.h = .idle := h.2.2.2.2.2.2.2.1
theorem jpOK.ok {C : Conn} (h : jpOK C) : C.result = some .ok → C.phase = .play ∨ C.phase = .closed :=
  h.2.2.2.2.2.2.2.2.1
theorem jpOK.failed {C : Conn} (h : jpOK C) :
    ∀ r, C.result = some r → r ≠ .ok → C.phase = .login ∨ C.phase = .transition ∨ C.phase = .closed :=
  h.2.2.2.2.2.2.2.2.2

/-- `C'` is a later version of the record `C`: same server, a result once given stays, closed stays closed, and —
    for a well-formed `C` — `C'` is well-formed and is an attempt in flight only if `C` was -/
structure ConnLe (C C' : Conn) : Prop where
  server : C'.server = C.server
  result : ∀ r, C.result = some r → C'.result = some r
  closed : C.phase = .closed → C'.phase = .closed
  att : jpOK C → attempting C' = true → attempting C = true
  jp : jpOK C → jpOK C'

theorem ConnLe.refl (C : Conn) : ConnLe C C := ⟨rfl, fun _ h => h, id, fun _ h => h, id⟩

theorem ConnLe.trans {C C' C'' : Conn} (h1 : ConnLe C C') (h2 : ConnLe C' C'') : ConnLe C C'' :=
  ⟨h2.server.trans h1.server, fun r h => h2.result r (h1.result r h), fun h => h2.closed (h1.closed h),
   fun hj h => h1.att hj (h2.att (h1.jp hj) h), fun hj => h2.jp (h1.jp hj)⟩

theorem connLe_closeConn (s : St) (o c : Nat) : ConnLe (s.conns c) ((closeConn s o).conns c) := by
  rcases closeConn_conns_cases s o c with ⟨_, h1⟩ | ⟨hp, _, h1⟩ | ⟨hp, _, h1⟩ <;> rw [h1]
  · exact .refl _
  · exact ⟨rfl, fun _ h => h, fun _ => rfl, fun _ h => by simp_all [attempting], fun hJ => by simp_all [jpOK]⟩
  · -- a closed record with a result: all that is left to ask is that a stalled read loop is idle
    exact ⟨rfl, fun r h => by simp [h], fun _ => rfl, fun _ h => by simp [attempting] at h,
      fun hJ => by simpa [jpOK] using hJ.stalled⟩

theorem connLe_closeOpt (s : St) (o : Option Nat) (c : Nat) : ConnLe (s.conns c) ((closeOpt s o).conns c) := by
  cases o with
  | none => exact .refl _
  | some o => exact connLe_closeConn s o c

theorem connLe_quitPlayer (s : St) (c : Nat) : ConnLe (s.conns c) ((quitPlayer s).conns c) := by
  unfold quitPlayer
  split
  · exact .refl _
  · exact (connLe_closeOpt { s with active := false } _ c).trans (connLe_closeOpt _ _ c)

/-! ### the record updates of the read loop, one lemma per kind of section -/

/-- the next section of the same handler -/
theorem connLe_next {C : Conn} {h' : H} (j : Option Nat)
    (hn : (C.h = .sw1 ∧ h' = .sw2) ∨ (C.h = .sw2 ∧ h' = .sw3) ∨ (C.h = .j4 ∧ h' = .j5) ∨ (C.h = .j1b ∧ h' = .j3)) :
    ConnLe C { C with h := h', jold := j } := by
  rcases hn with ⟨h1, rfl⟩ | ⟨h1, rfl⟩ | ⟨h1, rfl⟩ | ⟨h1, rfl⟩ <;>
    exact ⟨rfl, fun _ h => h, id, fun _ h => by simp_all [attempting], by simp [jpOK, h1]⟩

/-- back to `idle` on a record that is closed or still without result -/
theorem connLe_idle {C : Conn} (hok : jpOK C → C.phase = .closed ∨ C.result = none) :
    ConnLe C { C with h := .idle } := by
  refine ⟨rfl, fun _ h => h, id, fun _ h => by simp_all [attempting], fun hJ => ?_⟩
  -- only the clause about a pending login outcome / JoinGame asks something new of an idle record
  refine ⟨by simp, by simp, fun h => ⟨rfl, (hJ.dialing h).2⟩, by simp, by simp, fun hp _ _ => ?_, by simp,
    fun _ => rfl, hJ.ok, hJ.failed⟩
  rcases hok hJ with h | h
  · rw [show ({ C with h := H.idle } : Conn).phase = C.phase from rfl, h] at hp; simp at hp
  · exact h

theorem connLe_cfgKick2 {C : Conn} (hp : C.phase = .closed) (hst : C.stalled = false) :
    ConnLe C { C with h := .cfgKick2 } :=
  ⟨rfl, fun _ h => h, id, by simp [attempting, hp], by simp_all [jpOK]⟩

theorem connLe_j3 {C : Conn} (hh : C.h = .j3) :
    ConnLe C { C with h := .j4, completedJoin := true, phase := if C.phase = .closed then .closed else .play } := by
  refine ⟨rfl, fun _ h => h, fun h => by simp [h], fun hJ => ?_, fun hJ => ?_⟩ <;>
    rcases hJ.joining (.inr hh) with ⟨h1, h2⟩ | ⟨h1, h2⟩ <;> simp_all [jpOK, attempting]

theorem connLe_j5 {C : Conn} (hh : C.h = .j5) : ConnLe C { C with h := .idle, result := orElse C.result .ok } := by
  refine ⟨rfl, fun r h => by simp [h], id, fun _ => by simp [attempting], fun hJ => ?_⟩
  cases hr : C.result <;> rcases hJ.installing (.inr hh) with h1 | h1 <;> simp_all [jpOK]

/-- a Disconnect during login or before JoinGame -/
theorem connLe_kicked {C : Conn} (hh : C.h = .idle) (hst : C.stalled = false)
    (hp : C.phase = .login ∨ C.phase = .transition) :
    ConnLe C { C with h := .closeSelf, result := orElse C.result .disconnected } := by
  refine ⟨rfl, fun r h => by simp [h], id, fun _ => by simp [attempting], fun hJ => ?_⟩
  cases hr : C.result <;> rcases hp with h1 | h1 <;> simp_all [jpOK]

/-- an EncryptionRequest: the backend is in online mode -/
theorem connLe_enc {C : Conn} (hp : C.phase = .login) :
    ConnLe C { C with h := .idle, beh := .idle, result := orElse C.result .err } := by
  refine ⟨rfl, fun r h => by simp [h], by simp [hp], fun _ => by simp [attempting], fun hJ => ?_⟩
  cases hr : C.result <;> simp_all [jpOK]

/-- ServerLoginSuccess on 1.20.2+: on to the config phase -/
theorem connLe_toConfig {C : Conn} (hh : C.h = .idle) (hst : C.stalled = false) (hp : C.phase = .login)
    (hb : C.beh ≠ .idle) (b : Bool) : ConnLe C { C with phase := .config, h := if b then .sw1 else .idle } := by
  refine ⟨rfl, fun _ h => h, by simp [hp], fun _ => by simp [attempting, hp], fun hJ => ?_⟩
  have := hJ.pending (.inl hp) hh hb
  cases b <;> simp_all [jpOK]

/-- login success (legacy) or the end of the config phase: on to the transition handler -/
theorem connLe_toTransition {C : Conn} (hh : C.h = .idle) (hp : C.phase = .login ∨ C.phase = .config)
    (hb : C.beh ≠ .idle) (st : Bool) (b : Beh) :
    ConnLe C { C with h := .idle, phase := .transition, stalled := st, beh := b } := by
  refine ⟨rfl, fun _ h => h, by rcases hp with h | h <;> simp [h], fun _ => ?_, fun hJ => ?_⟩
  · rcases hp with h | h <;> simp [attempting, h]
  · have := hJ.pending (by rcases hp with h | h <;> simp [h]) hh hb
    simp_all [jpOK]

/-- a stalled backend goes on -/
theorem connLe_release (C : Conn) : ConnLe C { C with stalled := false } :=
  ⟨rfl, fun _ h => h, id, fun _ h => h, fun hJ => by simp_all [jpOK]⟩

/-- JoinGame, first section -/
theorem connLe_join {C : Conn} {h' : H} (hh : C.h = .idle) (hst : C.stalled = false) (hp : C.phase = .transition)
    (hb : C.beh = .accept) (hj : h' = .j1b ∨ h' = .j3) (j : Option Nat) : ConnLe C { C with h := h', jold := j } := by
  refine ⟨rfl, fun _ h => h, id, fun _ => by simp [attempting, hp], fun hJ => ?_⟩
  have := hJ.pending (.inr (.inr hp)) hh (by simp [hb])
  rcases hj with rfl | rfl <;> simp_all [jpOK]

/-- `s'` is a later state than `s`: at most one connection is added, and it is dialing; every existing record moves
    on by `ConnLe`; the player never comes back -/
structure StLe (s s' : St) : Prop where
  nconns : s'.nconns = s.nconns ∨ (s'.nconns = s.nconns + 1 ∧ (s'.conns s.nconns).phase = .dialing ∧
    (s'.conns s.nconns).h = .idle ∧ (s'.conns s.nconns).result = none)
  conn : ∀ c, c < s.nconns → ConnLe (s.conns c) (s'.conns c)
  active : s'.active = true → s.active = true

theorem stLe_refl (s : St) : StLe s s := ⟨.inl rfl, fun _ _ => .refl _, id⟩

theorem StLe.congr {s t t' : St} (h : StLe s t) (h1 : t'.nconns = t.nconns) (h2 : t'.conns = t.conns)
    (h3 : t'.active = t.active) : StLe s t' := by
  obtain ⟨a, b, c⟩ := h
  exact ⟨by rw [h1, h2]; exact a, by rw [h2]; exact b, by rw [h3]; exact c⟩

theorem stLe_closeConn (s : St) (o : Nat) : StLe s (closeConn s o) :=
  ⟨.inl (by simp), fun c _ => connLe_closeConn s o c, by simp⟩

/-- a record update of one connection -/
theorem connLe_upd (s : St) (c0 : Nat) (C' : Conn) (h : ConnLe (s.conns c0) C') (c : Nat) :
    ConnLe (s.conns c) (upd s.conns c0 C' c) := by
  rw [upd_apply]
  split
  · rename_i hc; subst hc; exact h
  · exact .refl _

theorem stLe_own {s s' : St} {c : Nat} {C' : Conn} (h : ConnLe (s.conns c) C') (hn : s'.nconns = s.nconns)
    (hc : s'.conns = upd s.conns c C') (ha : s'.active = s.active) : StLe s s' :=
  ⟨.inl hn, fun e _ => by rw [hc]; exact connLe_upd s c C' h e, by rw [ha]; exact id⟩

theorem stLe_closeOpt (s : St) (o : Option Nat) : StLe s (closeOpt s o) :=
  ⟨.inl (by simp), fun c _ => connLe_closeOpt s o c, by simp⟩

theorem stLe_setH {s t : St} {c : Nat} {h' : H} (ht : StLe s t) (hn : t.nconns = s.nconns)
    (hm : ConnLe (t.conns c) { t.conns c with h := h' }) : StLe s (setH t c h') := by
  refine ⟨.inl hn, fun e he => ?_, ht.active⟩
  rw [setH_conns]
  split
  · rename_i hc; subst hc; exact (ht.conn e he).trans hm
  · exact ht.conn e he

/-- the critical sections of backend read loop `c`, one constructor per section (`stepBack` read backwards) -/
inductive BackStep (cfg : Cfg) (s : St) (c : Nat) (C : Conn) : St → Prop
  | closeSelf : C.h = .closeSelf → BackStep cfg s c C (setH (closeConn s c) c .idle)
  | cfgKick2 : C.h = .cfgKick2 → s.inFlight.isSome = true → BackStep cfg s c C (setH s c .idle)
  | cfgKick2Spawn : C.h = .cfgKick2 → ¬s.inFlight.isSome = true →
      BackStep cfg s c C (spawnTask (setH s c .idle)
        { pc := .err2 C.server, orig := C.server, dest := C.server })
  | sw1None : C.h = .sw1 → s.current = none → BackStep cfg s c C { setH s c .idle with clientPlay := false }
  | sw1 (o : Nat) : C.h = .sw1 → s.current = some o →
      BackStep cfg s c C { s with conns := upd s.conns c { C with h := .sw2, jold := some o } }
  | sw2 : C.h = .sw2 →
      BackStep cfg s c C { s with conns := upd s.conns c { C with h := .sw3 }, current := none, tryIndex := 0 }
  | sw3 : C.h = .sw3 →
      BackStep cfg s c C { setH (closeOpt s C.jold) c .idle with clientPlay := false }
  | j1b : C.h = .j1b → BackStep cfg s c C (setH (closeOpt s C.jold) c .j3)
  | j3 : C.h = .j3 →
      BackStep cfg s c C { s with
        conns := upd s.conns c { C with h := .j4, completedJoin := true,
                                                phase := if C.phase = .closed then .closed else .play },
        players := addPlayer s.players C.server }
  | j4 : C.h = .j4 →
      BackStep cfg s c C { s with
        conns := upd s.conns c { C with h := .j5 }, current := some c, tryIndex := 0,
        inFlight := if s.inFlight = some c then none else s.inFlight }
  | j5 : C.h = .j5 →
      BackStep cfg s c C { s with
        conns := upd s.conns c { C with h := .idle, result := orElse C.result .ok } }
  | kicked : C.h = .idle → C.stalled = false →
      C.phase = .login ∨ C.phase = .transition →
      BackStep cfg s c C { s with
        conns := upd s.conns c { C with h := .closeSelf, result := orElse C.result .disconnected } }
  | eof : C.h = .idle → C.stalled = false →
      C.phase = .login ∨ C.phase = .config ∨ C.phase = .transition →
      BackStep cfg s c C (closeConn s c)
  | enc : C.h = .idle → C.stalled = false → C.phase = .login →
      BackStep cfg s c C { s with
        conns := upd s.conns c { C with h := .idle, beh := .idle, result := orElse C.result .err } }
  | loginModern : C.h = .idle → C.stalled = false → C.phase = .login →
      C.beh ≠ .idle →
      BackStep cfg s c C { s with
        conns := upd s.conns c { C with phase := .config, h := if s.clientPlay then .sw1 else .idle } }
  | loginLegacy : C.h = .idle → C.stalled = false → C.phase = .login →
      C.beh ≠ .idle →
      BackStep cfg s c C { s with
        conns := upd s.conns c { C with h := .idle, phase := .transition, stalled := C.beh == .lateJoin,
                                                beh := if C.beh = .lateJoin then .accept else C.beh } }
  | cfgKick : C.h = .idle → C.stalled = false → C.phase = .config →
      BackStep cfg s c C (setH (closeConn s c) c .cfgKick2)
  | configDone : C.h = .idle → C.stalled = false → C.phase = .config →
      C.beh ≠ .idle →
      BackStep cfg s c C { s with
        conns := upd s.conns c { C with h := .idle, phase := .transition, stalled := C.beh == .lateJoin,
                                                beh := if C.beh = .lateJoin then .accept else C.beh },
        clientPlay := true }
  | joinNone : C.h = .idle → C.stalled = false → C.phase = .transition →
      C.beh = .accept → (cfg.joinBySnapshot = true ∨ s.current = none) →
      BackStep cfg s c C { s with conns := upd s.conns c { C with h := .j3, jold := none } }
  | joinSome (o : Nat) : C.h = .idle → C.stalled = false → C.phase = .transition →
      C.beh = .accept → s.current = some o →
      BackStep cfg s c C { s with conns := upd s.conns c { C with h := .j1b, jold := some o }, current := none }

theorem stepBack_inv {cfg : Cfg} {s s' : St} {c : Nat} (h : stepBack cfg s c = some s') :
    c < s.nconns ∧ BackStep cfg s c (s.conns c) s' := by
  unfold stepBack at h
  split at h
  · cases h
  · refine ⟨by omega, ?_⟩
    simp only [] at h
    cases hh : (s.conns c).h <;> simp only [hh] at h
    case closeSelf => cases h; exact .closeSelf hh
    case cfgKick2 =>
      split at h <;> cases h
      · exact .cfgKick2 hh ‹_›
      · exact .cfgKick2Spawn hh ‹_›
    case sw1 =>
      split at h <;> cases h
      · exact .sw1None hh ‹_›
      · exact .sw1 _ hh ‹_›
    case sw2 => cases h; exact .sw2 hh
    case sw3 => cases h; exact .sw3 hh
    case j1b => cases h; exact .j1b hh
    case j3 => cases h; exact .j3 hh
    case j4 => cases h; exact .j4 hh
    case j5 => cases h; exact .j5 hh
    case idle =>
      split at h
      · cases h
      · have hst : (s.conns c).stalled = false := by simpa using ‹¬(s.conns c).stalled = true›
        split at h
        · rename_i hp
          split at h
          · cases h; exact .kicked hh hst (.inl hp)
          · cases h; exact .eof hh hst (.inl hp)
          · cases h; exact .enc hh hst hp
          · cases h
          · cases h
          · split at h <;> cases h
            · exact .loginModern hh hst hp (by assumption)
            · exact .loginLegacy hh hst hp (by assumption)
        · rename_i hp
          split at h
          · cases h; exact .cfgKick hh hst hp
          -- the four behaviours that finish the configuration share one branch of `stepBack`; the rest do nothing
          all_goals first
            | cases h
            | (rename_i hb
               split at h <;> cases h
               · exact .eof hh hst (.inr (.inl hp))
               · simpa [hb] using BackStep.configDone (cfg := cfg) (s := s) (c := c) hh hst hp (by rw [hb]; decide))
        · rename_i hp
          split at h
          · cases h; exact .kicked hh hst (.inr hp)
          · cases h; exact .kicked hh hst (.inr hp)
          · cases h; exact .eof hh hst (.inr (.inr hp))
          · rename_i hb
            split at h
            · cases h; exact .joinNone hh hst hp hb (.inl (by simp_all))
            · split at h <;> cases h
              · exact .joinSome _ hh hst hp hb ‹_›
              · exact .joinNone hh hst hp hb (.inr ‹_›)
          · cases h
        · cases h

theorem stepBack_le {cfg : Cfg} {s s' : St} {c : Nat} (h : stepBack cfg s c = some s') : StLe s s' := by
  obtain ⟨hc, hb⟩ := stepBack_inv h
  have hclosed : jpOK ((closeConn s c).conns c) → ((closeConn s c).conns c).h ≠ .idle →
      ((closeConn s c).conns c).phase = .closed := fun hJ hi => by
    rcases closeConn_phase_closed_or_dialing s c with h1 | h1
    · exact h1
    · exact absurd (hJ.dialing h1).1 hi
  cases hb with
  | closeSelf hh =>
    exact stLe_setH (stLe_closeConn s c) (by simp)
      (connLe_idle fun hJ => .inl (hclosed hJ (by rw [closeConn_h, hh]; decide)))
  | cfgKick2 hh _ => exact stLe_setH (stLe_refl s) rfl (connLe_idle fun hJ => .inl (hJ.cfgKick2 hh))
  | cfgKick2Spawn hh _ =>
    exact (stLe_setH (stLe_refl s) rfl (connLe_idle fun hJ => .inl (hJ.cfgKick2 hh))).congr rfl rfl rfl
  | sw1None hh _ =>
    refine (stLe_setH (stLe_refl s) rfl (connLe_idle fun hJ => ?_)).congr rfl rfl rfl
    exact (hJ.switching (.inl hh)).elim (fun h => .inr h.2) (fun h => .inl h.1)
  | sw1 o hh _ => exact stLe_own (connLe_next _ (.inl ⟨hh, rfl⟩)) rfl rfl rfl
  | sw2 hh => exact stLe_own (connLe_next _ (.inr (.inl ⟨hh, rfl⟩))) rfl rfl rfl
  | sw3 hh =>
    refine (stLe_setH (stLe_closeOpt s _) (by simp) (connLe_idle fun hJ => ?_)).congr rfl rfl rfl
    exact (hJ.switching (.inr (.inr (by rw [closeOpt_h, hh])))).elim (fun h => .inr h.2) (fun h => .inl h.1)
  | j1b hh =>
    exact stLe_setH (stLe_closeOpt s _) (by simp)
      (connLe_next _ (.inr (.inr (.inr ⟨by rw [closeOpt_h, hh], rfl⟩))))
  | j3 hh => exact stLe_own (connLe_j3 hh) rfl rfl rfl
  | j4 hh => exact stLe_own (connLe_next _ (.inr (.inr (.inl ⟨hh, rfl⟩)))) rfl rfl rfl
  | j5 hh => exact stLe_own (connLe_j5 hh) rfl rfl rfl
  | kicked hh hst hp => exact stLe_own (connLe_kicked hh hst hp) rfl rfl rfl
  | eof _ _ _ => exact stLe_closeConn s c
  | enc _ _ hp => exact stLe_own (connLe_enc hp) rfl rfl rfl
  | loginModern hh hst hp hbeh => exact stLe_own (connLe_toConfig hh hst hp hbeh _) rfl rfl rfl
  | loginLegacy hh _ hp hbeh => exact stLe_own (connLe_toTransition hh (.inl hp) hbeh _ _) rfl rfl rfl
  | cfgKick hh hst hp =>
    have hcl := closeConn_phase_self s c (by rw [hp]; decide)
    exact stLe_setH (stLe_closeConn s c) (by simp) (connLe_cfgKick2 hcl (by rw [closeConn_stalled, hst]))
  | configDone hh _ hp hbeh => exact stLe_own (connLe_toTransition hh (.inr hp) hbeh _ _) rfl rfl rfl
  | joinNone hh hst hp hbeh _ => exact stLe_own (connLe_join hh hst hp hbeh (.inr rfl) _) rfl rfl rfl
  | joinSome o hh hst hp hbeh _ => exact stLe_own (connLe_join hh hst hp hbeh (.inl rfl) _) rfl rfl rfl

/-- the caller's context is cancelled: `s1` is `s` with connection `c` of the request closed if a login handler, or a
    transition handler whose watcher closes, is still installed on it -/
def CancelClose (cfg : Cfg) (s : St) (T : Task) (s1 : St) : Prop :=
  (s1 = s ∧ ∀ c, T.conn = some c →
    ¬((s.conns c).phase = .login ∨ ((s.conns c).phase = .transition ∧ cfg.watcherCloses = true))) ∨
  ∃ c, T.conn = some c ∧ ((s.conns c).phase = .login ∨ ((s.conns c).phase = .transition ∧ cfg.watcherCloses = true)) ∧
    s1 = closeConn s c

theorem cancelClose_model (cfg : Cfg) (s : St) (T : Task) :
    CancelClose cfg s T (match T.conn with
      | some c => if (s.conns c).phase = .login || ((s.conns c).phase = .transition && cfg.watcherCloses)
                  then closeConn s c else s
      | none => s) := by
  split
  · rename_i c hc
    split
    · rename_i h; exact .inr ⟨c, hc, by simpa using h, rfl⟩
    · rename_i h; exact .inl ⟨rfl, fun c' hc' => by rw [hc] at hc'; cases hc'; simpa using h⟩
  · rename_i hc; exact .inl ⟨rfl, fun c hc' => by rw [hc] at hc'; cases hc'⟩

/-- the sections of the kick path (`handleConnectionErr2` → `handleKickEvent`) of goroutine `i` with record `T` -/
inductive KickStep (s : St) (i : Nat) (T : Task) : Task → St → Prop
  | pc (pc' : PC) : isKickPc pc' = true ∨ pc' = .done → KickStep s i T { T with pc := pc' } (setPc s i pc')
  | next (idx : Nat) (pc' : PC) : isKickPc pc' = true →
      KickStep s i T { T with pc := pc' } { setPc s i pc' with tryIndex := idx }
  | resetIf (rs : Nat) (s1 : St) : T.pc = .resetIf rs → s1 = s ∨ s1 = { s with inFlight := none } →
      KickStep s i T { T with pc := .kickReset false none } (setPc s1 i (.kickReset false none))
  | reset (kfc : Bool) (redir : Option Nat) : T.pc = .kickReset kfc redir →
      KickStep s i T { T with pc := .kickClear kfc redir } (setPc { s with inFlight := none } i (.kickClear kfc redir))
  | clear (cur : Option Nat) (pc' : PC) : isKickPc pc' = true →
      KickStep s i T { T with pc := pc' } (setPc { s with current := cur } i pc')
  | quit : KickStep s i T { T with pc := .done } (setPc (quitPlayer s) i .done)
  | redirect (d : Nat) (p : Option Nat) :
      KickStep s i T { pc := .check1, mode := .redirect, orig := d, dest := d, prev := p }
        { s with tasks := upd s.tasks i { pc := .check1, mode := .redirect, orig := d, dest := d, prev := p } }

/-- the critical sections of request / kick-path goroutine `i` with record `T`, one constructor per section or
    group of like sections (`stepTask` read backwards): the new record of the goroutine, and the new state.
    It keeps what the invariants need, not all of `stepTask`: the event's outcome `T.ev` is not recorded, and of the
    kick path's next section often only that it is one (`isKickPc`); a statement about those unfolds `stepTask`. -/
inductive TaskStep (cfg : Cfg) (s : St) (i : Nat) (T : Task) : Task → St → Prop
  | created : T.pc = .created → TaskStep cfg s i T { T with pc := .check1 } (setPc s i .check1)
  | answered (r : Res) : T.pc = .check1 ∨ T.pc = .check2 ∨ T.pc = .set → checkServer s T.dest = some r →
      TaskStep cfg s i T { T with res := some r, pc := .post } (finish s i r)
  | checked (pc' : PC) : (T.pc = .check1 ∧ pc' = .event) ∨ (T.pc = .check2 ∧ pc' = .set) →
      checkServer s T.dest = none → TaskStep cfg s i T { T with pc := pc' } (setPc s i pc')
  | allowed : T.pc = .event → TaskStep cfg s i T { T with pc := .check2 } (setPc s i .check2)
  | denied : T.pc = .event → TaskStep cfg s i T { T with res := some .canceled, pc := .post } (finish s i .canceled)
  | redirected (d : Nat) : T.pc = .event →
      TaskStep cfg s i T { T with dest := d, pc := .check2 }
        { s with tasks := upd s.tasks i { T with dest := d, pc := .check2 } }
  | published : T.pc = .set → (cfg.atomicSet = true → checkServer s T.dest = none) →
      TaskStep cfg s i T { T with conn := some s.nconns, pc := .dial }
        { s with
          nconns := s.nconns + 1,
          conns := upd s.conns s.nconns { server := T.dest, phase := .dialing, prev := T.prev },
          inFlight := some s.nconns,
          timed := upd s.timed s.nconns T.timed,
          tasks := upd s.tasks i { T with conn := some s.nconns, pc := .dial } }
  | dialRefused (c : Nat) (rest : List (Beh × Bool)) : T.pc = .dial → T.conn = some c →
      (s.conns c).phase = .dialing →
      TaskStep cfg s i T { T with res := some .err, pc := .deferReset }
        { s with
          scripts := upd s.scripts T.dest rest,
          conns := upd s.conns c { s.conns c with phase := .closed, beh := .refuse },
          tasks := upd s.tasks i { T with res := some .err, pc := .deferReset } }
  | dialed (c : Nat) (b : Beh) (st : Bool) (rest : List (Beh × Bool)) : T.pc = .dial → T.conn = some c →
      (s.conns c).phase = .dialing →
      TaskStep cfg s i T { T with pc := .wait }
        { s with
          scripts := upd s.scripts T.dest rest,
          conns := upd s.conns c { s.conns c with phase := .login, beh := b, stalled := st },
          tasks := upd s.tasks i { T with pc := .wait } }
  | waited (c : Nat) (r : Res) : T.pc = .wait → T.conn = some c → (s.conns c).result = some r →
      TaskStep cfg s i T { T with res := some r, pc := .deferReset }
        { s with tasks := upd s.tasks i { T with res := some r, pc := .deferReset } }
  | deferReset : T.pc = .deferReset →
      TaskStep cfg s i T { T with pc := .post }
        { s with inFlight := if s.inFlight = T.conn then none else s.inFlight,
                 tasks := upd s.tasks i { T with pc := .post } }
  | post (s1 : St) : T.pc = .post → s1 = s ∨ (cfg.foreignReset = true ∧ s1 = { s with inFlight := none }) →
      TaskStep cfg s i T { T with pc := .cancel } (setPc s1 i .cancel)
  | cancelDone (s1 : St) : T.pc = .cancel → CancelClose cfg s T s1 →
      TaskStep cfg s i T { T with pc := .done } (setPc s1 i .done)
  | cancelKick (s1 : St) : T.pc = .cancel → CancelClose cfg s T s1 →
      T.res = some .err ∨ T.res = some .disconnected →
      TaskStep cfg s i T { T with pc := .err2 T.orig } (setPc s1 i (.err2 T.orig))
  | cancelQuit (s1 : St) : T.pc = .cancel → CancelClose cfg s T s1 → T.mode = .redirect →
      TaskStep cfg s i T { T with pc := .done } (setPc (quitPlayer s1) i .done)
  | kick {T' : Task} {s' : St} : isKickPc T.pc = true → KickStep s i T T' s' → TaskStep cfg s i T T' s'

theorem isKickPc_next_or_resetIf (b : Bool) (rs : Nat) :
    isKickPc (if b = true then .next rs else .resetIf rs) = true := by
  cases b <;> rfl

theorem stepTask_inv {cfg : Cfg} {s s' : St} {i : Nat} (h : stepTask cfg s i = some s') :
    i < s.ntasks ∧ ∃ T', TaskStep cfg s i (s.tasks i) T' s' := by
  unfold stepTask at h
  split at h
  · cases h
  · refine ⟨by omega, ?_⟩
    simp only [] at h
    cases hpc : (s.tasks i).pc <;> simp only [hpc] at h
    case created => cases h; exact ⟨_, .created hpc⟩
    case check1 =>
      split at h <;> cases h
      · exact ⟨_, .answered _ (.inl hpc) ‹_›⟩
      · exact ⟨_, .checked _ (.inl ⟨hpc, rfl⟩) ‹_›⟩
    case event =>
      split at h <;> cases h
      · exact ⟨_, .allowed hpc⟩
      · exact ⟨_, .denied hpc⟩
      · exact ⟨_, .redirected _ hpc⟩
    case check2 =>
      split at h <;> cases h
      · exact ⟨_, .answered _ (.inr (.inl hpc)) ‹_›⟩
      · exact ⟨_, .checked _ (.inr ⟨hpc, rfl⟩) ‹_›⟩
    case set =>
      split at h <;> cases h
      · rename_i hck
        exact ⟨_, .answered _ (.inr (.inr hpc)) (by split at hck <;> simp_all)⟩
      · rename_i hck
        exact ⟨_, .published hpc (fun hat => by simpa [hat] using hck)⟩
    case done => cases h
    case wait =>
      split at h
      · cases h
      · split at h <;> cases h
        exact ⟨_, .waited _ _ hpc ‹_› ‹_›⟩
    case deferReset => cases h; exact ⟨_, .deferReset hpc⟩
    case err2 rs =>
      split at h <;> cases h
      · exact ⟨_, .kick (by rw [hpc]; rfl) (.pc _ (.inr rfl))⟩
      · exact ⟨_, .kick (by rw [hpc]; rfl) (.pc _ (.inl (isKickPc_next_or_resetIf _ rs)))⟩
    case next rs =>
      split at h <;> cases h
      · exact ⟨_, .kick (by rw [hpc]; rfl) (.next _ _ rfl)⟩
      · exact ⟨_, .kick (by rw [hpc]; rfl) (.pc _ (.inl rfl))⟩
    case kickReset kfc redir => cases h; exact ⟨_, .kick (by rw [hpc]; rfl) (.reset kfc redir hpc)⟩
    case kickClear kfc redir => cases h; exact ⟨_, .kick (by rw [hpc]; rfl) (.clear _ _ rfl)⟩
    case kickApply kfc redir prev =>
      have hk : isKickPc (s.tasks i).pc = true := by rw [hpc]; rfl
      split at h
      · cases h; exact ⟨_, .kick hk (.pc _ (.inr rfl))⟩
      · split at h
        · cases h; exact ⟨_, .kick hk (.redirect _ _)⟩
        · cases h; exact ⟨_, .kick hk .quit⟩
        · split at h <;> cases h
          · exact ⟨_, .kick hk (.pc _ (.inr rfl))⟩
          · exact ⟨_, .kick hk .quit⟩
    case resetIf rs =>
      cases h
      refine ⟨_, .kick (by rw [hpc]; rfl) (.resetIf rs _ hpc ?_)⟩
      split
      · split
        · exact .inr rfl
        · exact .inl rfl
      · exact .inl rfl
    case post =>
      cases h
      refine ⟨_, .post _ hpc ?_⟩
      split
      · rename_i hc; exact .inr ⟨by simp at hc; exact hc.1.1, rfl⟩
      · exact .inl rfl
    case dial =>
      split at h
      · cases h
      · split at h
        · cases h
        · rename_i c hconn hph
          have hph : (s.conns c).phase = .dialing := Decidable.not_not.mp hph
          split at h
          · split at h <;> cases h
            · rename_i hb; cases hb
            · exact ⟨_, .dialed c _ _ _ hpc hconn hph⟩
          · rename_i b st rest _
            split at h <;> cases h
            · rename_i hb
              have hb : b = .refuse := hb
              subst hb
              exact ⟨_, .dialRefused c _ hpc hconn hph⟩
            · exact ⟨_, .dialed c _ _ _ hpc hconn hph⟩
    case cancel =>
      -- `s1` first (is there a connection, and does its handler close it), then what the caller does with the result
      have hcc := cancelClose_model cfg s (s.tasks i)
      split at h <;> cases h
      · exact ⟨_, .cancelDone _ hpc hcc⟩
      · exact ⟨_, .cancelKick _ hpc hcc (.inl ‹_›)⟩
      · exact ⟨_, .cancelKick _ hpc hcc (.inr ‹_›)⟩
      · exact ⟨_, .cancelKick _ hpc hcc (.inl ‹_›)⟩
      · exact ⟨_, .cancelKick _ hpc hcc (.inr ‹_›)⟩
      · exact ⟨_, .cancelQuit _ hpc hcc ‹_›⟩
      · exact ⟨_, .cancelDone _ hpc hcc⟩

/-- the dial: the connection leaves `dialing` -/
theorem connLe_dial {C : Conn} (hp : C.phase = .dialing) {p' : Phase} (hp' : p' = .closed ∨ p' = .login) (b : Beh)
    (st : Bool) : ConnLe C { C with phase := p', beh := b, stalled := st } := by
  refine ⟨rfl, fun _ h => h, by simp [hp], fun _ => ?_, fun hJ => ?_⟩
  · intro h; rcases hp' with rfl | rfl <;> simp_all [attempting]
  · obtain ⟨h1, h2⟩ := hJ.dialing hp
    rcases hp' with rfl | rfl <;> simp_all [jpOK]

theorem CancelClose.le {cfg : Cfg} {s s1 : St} {T : Task} (h : CancelClose cfg s T s1) : StLe s s1 := by
  rcases h with ⟨rfl, _⟩ | ⟨c, _, _, rfl⟩
  · exact stLe_refl _
  · exact stLe_closeConn s c

theorem CancelClose.frame {cfg : Cfg} {s s1 : St} {T : Task} (h : CancelClose cfg s T s1) :
    ∃ cs pl, s1 = { s with conns := cs, players := pl } := by
  rcases h with ⟨rfl, _⟩ | ⟨c, _, _, rfl⟩
  · exact ⟨_, _, rfl⟩
  · exact closeConn_frame s c

theorem setPc_of_tasks {s s1 : St} (i : Nat) (pc : PC) (hn : s1.ntasks = s.ntasks) (ht : s1.tasks = s.tasks) :
    (setPc s1 i pc).ntasks = s.ntasks ∧ (setPc s1 i pc).tasks = upd s.tasks i { s.tasks i with pc := pc } := by
  simp [setPc, hn, ht]

/-- a task step changes the record of the stepping task only, to `T'` -/
theorem TaskStep.tasks {cfg : Cfg} {s s' : St} {i : Nat} {T' : Task} (h : TaskStep cfg s i (s.tasks i) T' s') :
    s'.ntasks = s.ntasks ∧ s'.tasks = upd s.tasks i T' := by
  cases h with
  | post s1 _ hs1 => rcases hs1 with rfl | ⟨_, rfl⟩ <;> exact ⟨rfl, rfl⟩
  | cancelDone s1 _ hcc | cancelKick s1 _ hcc _ =>
    obtain ⟨_, _, rfl⟩ := hcc.frame
    exact ⟨rfl, rfl⟩
  | cancelQuit s1 _ hcc _ =>
    obtain ⟨_, _, rfl⟩ := hcc.frame
    exact setPc_of_tasks i _ (by simp) (by simp)
  | kick _ hk =>
    cases hk with
    | resetIf rs s1 _ hs1 => rcases hs1 with rfl | rfl <;> exact ⟨rfl, rfl⟩
    | quit => exact setPc_of_tasks i _ (by simp) (by simp)
    | _ => exact ⟨rfl, rfl⟩
  | _ => exact ⟨rfl, rfl⟩

theorem stLe_quitPlayer {s t : St} (h : StLe s t) (hn : t.nconns = s.nconns) : StLe s (quitPlayer t) :=
  ⟨.inl (by simp [hn]), fun c hc => (h.conn c hc).trans (connLe_quitPlayer t c), by simp [quitPlayer_active]⟩

theorem stepTask_le {cfg : Cfg} {s s' : St} {i : Nat} (h : stepTask cfg s i = some s') : StLe s s' := by
  obtain ⟨_, _, hb⟩ := stepTask_inv h
  cases hb with
  | published _ _ =>
    exact ⟨.inr ⟨rfl, by simp⟩, fun c hc => by
      show ConnLe _ (upd s.conns s.nconns _ c)
      rw [upd_other _ _ _ _ (by omega)]; exact .refl _, id⟩
  | dialRefused c rest _ _ hph => exact stLe_own (connLe_dial hph (.inl rfl) _ _) rfl rfl rfl
  | dialed c b st rest _ _ hph => exact stLe_own (connLe_dial hph (.inr rfl) _ _) rfl rfl rfl
  | post s1 _ hs1 => rcases hs1 with rfl | ⟨_, rfl⟩ <;> exact (stLe_refl _).congr rfl rfl rfl
  | cancelDone s1 _ hcc => exact hcc.le.congr rfl rfl rfl
  | cancelKick s1 _ hcc _ => exact hcc.le.congr rfl rfl rfl
  | cancelQuit s1 _ hcc _ =>
    have hle := hcc.le
    obtain ⟨_, _, rfl⟩ := hcc.frame
    exact (stLe_quitPlayer hle rfl).congr rfl rfl rfl
  | kick _ hk =>
    cases hk with
    | resetIf rs s1 _ hs1 => rcases hs1 with rfl | rfl <;> exact (stLe_refl _).congr rfl rfl rfl
    | quit => exact (stLe_quitPlayer (stLe_refl s) rfl).congr rfl rfl rfl
    | _ => exact (stLe_refl s).congr rfl rfl rfl
  | _ => exact (stLe_refl s).congr rfl rfl rfl

/-- what happens besides the request goroutines and the read loops (`step` read backwards): a new request object,
    a stalled backend released, a deadline and its watcher, the backend kicking or dropping the player in play,
    the client leaving -/
inductive EnvStep (cfg : Cfg) (s : St) : Act → St → Prop
  | request (a : Act) (t : Task) : t.conn = none → t.res = none → t.pc = .check1 ∨ t.pc = .created →
      EnvStep cfg s a (spawnTask s t)
  | release (c : Nat) : c < s.nconns → (s.conns c).stalled = true →
      EnvStep cfg s (.release c) { s with conns := upd s.conns c { s.conns c with stalled := false } }
  | deadline (c : Nat) : EnvStep cfg s (.deadline c) { s with expired := upd s.expired c true }
  | watchClose (c : Nat) : (s.conns c).phase = .login ∨ ((s.conns c).phase = .transition ∧ cfg.watcherCloses = true) →
      EnvStep cfg s (.watch c) (closeConn s c)
  | watchFail (c : Nat) : cfg.watcherCloses = false →
      EnvStep cfg s (.watch c) { s with conns := upd s.conns c { s.conns c with result := some .err } }
  | lost (a : Act) (c : Nat) : a = .kick c ∨ a = .drop c → c < s.nconns → (s.conns c).phase = .play →
      (s.conns c).h = .idle →
      EnvStep cfg s a (spawnTask (closeConn s c)
        { pc := .err2 (s.conns c).server, orig := (s.conns c).server, dest := (s.conns c).server })
  | quit : EnvStep cfg s .quit (quitPlayer s)

theorem step_inv {cfg : Cfg} {s s' : St} {a : Act} (h : step cfg s a = some s') :
    (∃ i, a = .task i ∧ stepTask cfg s i = some s') ∨ (∃ c, a = .back c ∧ stepBack cfg s c = some s') ∨
      EnvStep cfg s a s' := by
  cases a with
  | task i => exact .inl ⟨i, rfl, h⟩
  | back c => exact .inr (.inl ⟨c, rfl, h⟩)
  | spawn _ _ _ | create _ _ => simp only [step] at h; cases h; exact .inr (.inr (.request _ _ rfl rfl (by simp)))
  | release c =>
    simp only [step] at h
    split at h <;> cases h
    rename_i hc
    simp only [Bool.and_eq_true, decide_eq_true_eq] at hc
    exact .inr (.inr (.release c hc.1 hc.2))
  | deadline c =>
    simp only [step] at h
    split at h <;> cases h
    exact .inr (.inr (.deadline c))
  | watch c =>
    simp only [step] at h
    split at h
    · split at h
      · rename_i hp
        cases h
        simp only [Bool.or_eq_true, Bool.and_eq_true, decide_eq_true_eq] at hp
        exact .inr (.inr (.watchClose c hp))
      · rename_i hp
        split at h <;> cases h
        rename_i hp2
        simp only [Bool.or_eq_true, Bool.and_eq_true, decide_eq_true_eq] at hp hp2
        refine .inr (.inr (.watchFail c ?_))
        cases hw : cfg.watcherCloses
        · rfl
        · exact absurd (.inr ⟨hp2.1, hw⟩) hp
    · cases h
  | kick c | drop c =>
    simp only [step] at h
    split at h <;> cases h
    rename_i hc
    simp only [Bool.and_eq_true, decide_eq_true_eq] at hc
    exact .inr (.inr (.lost _ c (by simp) hc.1.1 hc.1.2 hc.2))
  | quit => simp only [step] at h; cases h; exact .inr (.inr .quit)

theorem step_le {cfg : Cfg} {s s' : St} {a : Act} (hwc : cfg.watcherCloses = true) (h : step cfg s a = some s') :
    StLe s s' := by
  rcases step_inv h with ⟨i, _, h⟩ | ⟨c, _, h⟩ | he
  · exact stepTask_le h
  · exact stepBack_le h
  cases he with
  | release c _ _ => exact stLe_own (connLe_release _) rfl rfl rfl
  | watchClose c _ => exact stLe_closeConn s c
  | watchFail c hw => rw [hwc] at hw; cases hw
  | lost a c _ _ _ _ => exact (stLe_closeConn s c).congr rfl rfl rfl
  | quit => exact stLe_quitPlayer (stLe_refl s) rfl
  | _ => exact (stLe_refl s).congr rfl rfl rfl

theorem StLe.le {s s' : St} (h : StLe s s') : s.nconns ≤ s'.nconns := by
  rcases h.nconns with h | h <;> omega

theorem StLe.jp {s s' : St} (h : StLe s s') (hJP : JP s) : JP s' := by
  intro c hc
  by_cases hlt : c < s.nconns
  · exact (h.conn c hlt).jp (hJP c hlt)
  · rcases h.nconns with hn | ⟨hn, hp, hh, hr⟩
    · omega
    · have : c = s.nconns := by omega
      subst this
      simp [jpOK, hp, hh, hr]

/-- `attempting` never becomes true again for an existing connection -/
theorem StLe.mono {s s' : St} (h : StLe s s') (hJP : JP s) (c : Nat) (hc : c < s.nconns)
    (ha : attempting (s'.conns c) = true) : attempting (s.conns c) = true :=
  (h.conn c hc).att (hJP c hc) ha

end Gate.C16
