import GateModel.C16.Lemmas
import GateModel.Gen.C16
/-
C16 — Server switches keep exactly one live backend and consistent server player lists.

Model: GateModel.C16.Model (`step cfg s a` = one critical section of one goroutine; `Act` = which goroutine moves /
what the environment does).  All theorems quantify over EVERY interleaving (`Reach` = any schedule, any backend
behaviour script, any number of concurrent requests).  `Repaired cfg` = the code after the two fixes recorded in
findings/C16.json (atomic check+publish; no foreign reset); the `_fails` theorems are the kernel-checked witnesses
for the defective variants and for the remaining known finding (kick path vs. attempt in flight).
-/
namespace Gate.C16.Props
open Gate.C16

/-! ## 1. at most one attempt in flight -/

/-- For every schedule of the repaired code in which the kick path clears the in-flight slot only while no attempt is
    in flight (hypothesis `G1`; see `one_in_flight_fails_kick` for why it is needed): at most one connection attempt
    is in flight, and it owns the in-flight slot (so every other request is answered InProgress).
    PARTIAL: missing hypothesis-free statement = "kicks from the current server never overlap an attempt". -/
theorem one_in_flight_partial (cfg : Cfg) (hr : Repaired cfg) (s : St) (h : Reach cfg G1 s) :
    inFlightCount s ≤ 1 ∧ ∀ c, c < s.nconns → attempting (s.conns c) = true → s.inFlight = some c :=
  ⟨inv1_count s (reach1_inv1 hr h), (reach1_inv1 hr h).ownsSlot⟩

/-- the same for all runs that never enter the kick path while the player stays connected (concurrent requests,
    refusing / kicking / slow backends in login, config and transition) and in which no deadline watcher runs while
    its connection's read loop is inside a switch-over section (hypothesis `G2`) -/
theorem one_in_flight_kickfree (cfg : Cfg) (hr : Repaired cfg) (s : St) (h : Reach cfg G2 s) :
    inFlightCount s ≤ 1 :=
  inv1_count s (reach2_inv2 hr h).i1

/-- a second request that finds the slot taken is told so -/
theorem second_request_in_progress (s : St) (c d : Nat) (h : s.inFlight = some c) :
    checkServer s d = some .inprogress := by
  simp [checkServer, h]

def raceSchedule : List Act :=
  [.spawn .plain 1 .allow, .spawn .plain 2 .allow,
   .task 0, .task 0, .task 0, .task 1, .task 1, .task 1,   -- both pass checkServer twice
   .task 0, .task 1]                                       -- both publish their connection

/-- DEFECT (fixed, findings/C16.json `two-attempts-in-flight`): with `checkServer` and `setInFlightConnection` in
    separate critical sections two concurrent requests both pass the check — two attempts in flight. -/
theorem one_in_flight_fails_check_set_race :
    (run ⟨false, [], false, false, false, true⟩ {} raceSchedule).map inFlightCount = some 2 := by decide

/-- the same schedule on the repaired code: the second request is answered InProgress -/
theorem race_schedule_repaired :
    (run (repaired false []) {} raceSchedule).map (fun s => (inFlightCount s, (s.tasks 1).res)) =
      some (1, some .inprogress) := by decide

def foreignResetSchedule : List Act :=
  [.spawn .plain 1 .allow, .task 0, .task 0, .task 0, .task 0, .task 0,     -- A: … publish, dial (backend stalls)
   .spawn .plain 2 .allow, .task 1, .task 1,                                 -- B: InProgress, post-processing
   .spawn .plain 2 .allow, .task 2, .task 2, .task 2, .task 2]               -- C: passes the check, publishes

/-- DEFECT (fixed, findings/C16.json `inflight-not-reported`): `connect()` cleared the in-flight slot after ANY
    unsuccessful result — request B, merely answered InProgress, frees the slot of the stalled request A, and
    request C starts a second attempt. -/
theorem one_in_flight_fails_foreign_reset :
    (run ⟨false, [], true, true, false, true⟩ { scripts := fun _ => [(.accept, true)] } foreignResetSchedule).map
      (fun s => (inFlightCount s, (s.tasks 1).res)) = some (2, some .inprogress) := by decide

theorem foreign_reset_schedule_repaired :
    (run (repaired false []) { scripts := fun _ => [(.accept, true)] } (foreignResetSchedule.take 13)).map
      (fun s => (inFlightCount s, (s.tasks 2).res)) = some (1, some .inprogress) := by decide

def kickSchedule : List Act :=
  [.spawn .plain 1 .allow, .task 0, .task 0, .task 0, .task 0, .task 0,     -- join server 1 …
   .back 0, .back 0, .back 0, .back 0, .back 0, .task 0, .task 0, .task 0, .task 0,
   .spawn .plain 2 .allow, .task 1, .task 1, .task 1, .task 1, .task 1,     -- switch to 2 in flight (backend stalls)
   .kick 0,                                                                  -- server 1 kicks the player
   .task 2, .task 2, .task 2, .task 2, .task 2,                              -- kick path: … setInFlightConnection(nil) …
   .task 2, .task 2, .task 2, .task 2]                                       -- redirect to 3: check passes, publish

/-- KNOWN FINDING (findings/C16.json `kick-redirect-while-in-flight`): on the repaired code, a kick from the current
    server while a switch is in flight runs `handleKickEvent`, which clears the in-flight slot unconditionally and
    redirects — a second attempt in flight.  This is why `one_in_flight_partial` needs `G1`. -/
theorem one_in_flight_fails_kick :
    (run (repaired false [1, 2, 3]) { scripts := fun n => if n = 2 then [(.accept, true)] else [] } kickSchedule).map
      inFlightCount = some 2 := by decide

/-! ## 2. after a successful switch -/

/-- For every schedule of the repaired code that stays out of the kick path while the player is connected (`G2`):
    a request that returned Success owns a connection to its destination that reached play; as long as that
    connection lives it is the current server — unless a LATER switch has already taken over and is about to close
    it —, it is the only backend connection in play (the previous one is closed), and the player is in the player
    list of exactly that server.
    PARTIAL: the kick / fallback path is excluded (hypothesis `G2`). -/
theorem after_success_partial (cfg : Cfg) (hr : Repaired cfg) (s : St) (h : Reach cfg G2 s)
    (i : Nat) (hi : i < s.ntasks) (hres : (s.tasks i).res = some .ok) :
    ∃ c, (s.tasks i).conn = some c ∧ c < s.nconns ∧ (s.conns c).server = (s.tasks i).dest ∧
      ((s.conns c).phase = .play ∨ (s.conns c).phase = .closed) ∧
      ((s.conns c).phase = .play →
        (s.current = some c ∨
          ∃ d, d < s.nconns ∧ (s.conns d).jold = some c ∧ ((s.conns d).h = .j1b ∨ (s.conns d).h = .sw3)) ∧
        (∀ c', c' < s.nconns → (s.conns c').phase = .play → c' = c) ∧
        (∀ sv, sv ∈ s.players ↔ sv = (s.conns c).server)) := by
  have hI := reach2_inv2 hr h
  obtain ⟨c, hc1, hc2⟩ := (hI.t2 i hi).okFromConn hres
  have hlt := (hI.i1.t1 i hi).connInRange c hc1
  refine ⟨c, hc1, hlt, (hI.t2 i hi).connDest c hc1, (hI.i1.jp c hlt).ok hc2, ?_⟩
  intro hp
  refine ⟨?_, fun c' hc' hp' => hI.c2.onePlay c' c hc' hlt hp' hp, ?_⟩
  · rcases hI.c2.playAccounted c hlt hp with h1 | h1 | h1
    · exact Or.inl h1
    · have := (((hI.c2.sw c hlt).sectionPhase).2.1 h1).2.1; rw [this] at hc2; simp at hc2
    · exact Or.inr h1
  · intro sv
    rw [hI.c2.playersExact sv]
    constructor
    · rintro ⟨c', hc', hp', hs⟩
      rw [hI.c2.onePlay c' c hc' hlt hp' hp] at hs; exact hs.symm
    · intro hs; exact ⟨c, hlt, hp, hs.symm⟩

/-- number of backend connections in play -/
def playCount (s : St) : Nat := ((List.range s.nconns).filter fun c => (s.conns c).phase = .play).length

/-- a request object created while the player had NO server (snapshot `previousServer` = nil), kept, and connected
    only after the player joined server 1 -/
def staleSchedule (backSteps : Nat) : List Act :=
  [.create 2 1,                                                            -- CreateConnectionRequest(2): snapshot nil
   .spawn .plain 1 .allow, .task 1, .task 1, .task 1, .task 1, .task 1,    -- join server 1 …
   .back 0, .back 0, .back 0, .back 0, .back 0, .task 1, .task 1, .task 1, .task 1,
   .task 0, .task 0, .task 0, .task 0, .task 0, .task 0] ++                -- Connect() on the stale object … dial
  List.replicate backSteps (.back 1) ++ [.task 0, .task 0, .task 0, .task 0]

/-- `after_success_partial` quantifies over the CREATION point of the request: `Act.create` may occur anywhere in the
    schedule and the request may be connected at any later point.  Here: the stale request of `staleSchedule` on the
    repaired code (hypothesis G2 checked at every step by `run2`) — the switch closes server 1's connection although
    the request's own snapshot says "no previous server". -/
theorem stale_request_repaired :
    (run2 (repaired false [1, 2]) {} (staleSchedule 6)).map
      (fun s => ((s.tasks 0).res, (s.tasks 0).prev, s.current, s.players, (s.conns 0).phase, playCount s)) =
      some (some .ok, none, some 1, [2], .closed, 1) := by rfl

/-- SEEDED DEFECT (variant `joinBySnapshot`): if handleJoinGame looks up and closes the existing connection only when
    the request's SNAPSHOT is non-nil, the same stale request reports Success while server 1's connection stays in
    play: two live backends, the player in both lists. -/
theorem after_success_fails_stale_snapshot :
    (run ⟨false, [1, 2], true, false, true, true⟩ {} (staleSchedule 5)).map
      (fun s => ((s.tasks 0).res, s.current, s.players, (s.conns 0).phase, playCount s)) =
      some (some .ok, some 1, [2, 1], .play, 2) := by rfl

/-- no switch-over section of handleJoinGame / doSwitch is half done -/
def NoSection (s : St) : Prop :=
  ∀ d, d < s.nconns → (s.conns d).h ≠ .j1b ∧ (s.conns d).h ≠ .sw3 ∧ (s.conns d).h ≠ .j4

/-- Exactly one live backend and consistent lists, for every reachable state (same hypothesis): the player's lists
    are exactly the servers of the backend connections in play, there is at most one such connection, the current
    server is one; and whenever no switch-over section is half done, the connection in play IS the current server —
    the player appears in the list of exactly its current server. -/
theorem lists_exact_partial (cfg : Cfg) (hr : Repaired cfg) (s : St) (h : Reach cfg G2 s) :
    (∀ sv, sv ∈ s.players ↔ ∃ c, c < s.nconns ∧ (s.conns c).phase = .play ∧ (s.conns c).server = sv) ∧
    (∀ c c', c < s.nconns → c' < s.nconns → (s.conns c).phase = .play → (s.conns c').phase = .play → c = c') ∧
    (∀ c, s.current = some c → c < s.nconns ∧ (s.conns c).phase = .play) ∧
    (NoSection s → ∀ sv, sv ∈ s.players ↔ ∃ c, s.current = some c ∧ (s.conns c).server = sv) := by
  have hI := reach2_inv2 hr h
  refine ⟨hI.c2.playersExact, hI.c2.onePlay,
    fun c hc => ⟨(hI.c2.curInPlay c hc).1, (hI.c2.curInPlay c hc).2.1⟩, ?_⟩
  intro hns sv
  rw [hI.c2.playersExact sv]
  constructor
  · rintro ⟨c, hc, hp, hs⟩
    rcases hI.c2.playAccounted c hc hp with h1 | h1 | ⟨d, hd, _, hh⟩
    · exact ⟨c, h1, hs⟩
    · exact absurd h1 (hns c hc).2.2
    · rcases hh with hh | hh
      · exact absurd hh (hns d hd).1
      · exact absurd hh (hns d hd).2.1
  · rintro ⟨c, hc, hs⟩
    obtain ⟨h1, h2, _⟩ := hI.c2.curInPlay c hc
    exact ⟨c, h1, h2, hs⟩

/-! ## 3. failed attempts are safe -/

/-- the steps that can change the current server or a player list: the switch-over sections (they run only after
    the backend's login SUCCESS: doSwitch, and after its JoinGame), the kick path, and the environment's kick / drop /
    quit -/
def switchAct (s : St) : Act → Bool
  | .back c =>
    let C := s.conns c
    swA C.h || (C.h == .idle && C.phase == .transition && C.beh == .accept)
  | .task i => isKickPc (s.tasks i).pc || ((s.tasks i).pc == .cancel && (s.tasks i).mode == .redirect)
  | .spawn _ _ _ => false
  | .create _ _ => false
  | .release _ => false
  | .deadline _ => false
  | .watch _ => false
  | .kick _ => true
  | .drop _ => true
  | .quit => true

/-- Every other step — a refused dial, a Disconnect / EOF / EncryptionRequest during login, a Disconnect or EOF
    before JoinGame, a kick during configuration, all bookkeeping of the requests (check, publish, wait, deferred
    reset, post-processing), for ANY cfg variant — leaves the current server, the player lists and the client
    connection untouched: a failed attempt leaves the player where it was. -/
theorem failed_safe (cfg : Cfg) (s s' : St) (a : Act) (hJP : JP s) (h : step cfg s a = some s')
    (hns : switchAct s a = false) :
    s'.current = s.current ∧ s'.players = s.players ∧ s'.active = s.active := by
  rcases step_inv h with ⟨i, rfl, h⟩ | ⟨c, rfl, h⟩ | he
  · obtain ⟨hi, T', hb⟩ := stepTask_inv h
    simp only [switchAct, Bool.or_eq_false_iff] at hns
    obtain ⟨hnk, hcr⟩ := hns
    -- the cancelled context closes a connection in login / transition only: no player list changes
    have hcc : ∀ s1, CancelClose cfg s (s.tasks i) s1 → s1.players = s.players := fun s1 h1 => by
      rcases h1 with ⟨rfl, _⟩ | ⟨c, _, hc, rfl⟩
      · rfl
      · exact closeConn_players_not_play s c (by rcases hc with h | ⟨h, _⟩ <;> rw [h] <;> decide)
    cases hb with
    | post s1 _ hs1 => rcases hs1 with rfl | ⟨_, rfl⟩ <;> exact ⟨rfl, rfl, rfl⟩
    | cancelDone s1 _ h1 | cancelKick s1 _ h1 _ =>
      have hpl := hcc s1 h1
      obtain ⟨_, _, rfl⟩ := h1.frame
      exact ⟨rfl, hpl, rfl⟩
    | cancelQuit s1 hpc _ hm => simp [hpc, hm] at hcr
    | kick hk _ => rw [hnk] at hk; cases hk
    | _ => exact ⟨rfl, rfl, rfl⟩
  · obtain ⟨hd, hb⟩ := stepBack_inv h
    simp only [switchAct, Bool.or_eq_false_iff] at hns
    obtain ⟨hsw, hjoin⟩ := hns
    have hclose : (s.conns c).phase ≠ .play → ∀ h', (setH (closeConn s c) c h').current = s.current ∧
        (setH (closeConn s c) c h').players = s.players ∧ (setH (closeConn s c) c h').active = s.active :=
      fun hnp h' => ⟨by simp, by simp [closeConn_players_not_play s c hnp], by simp⟩
    cases hb with
    | closeSelf hh => exact hclose (by rcases (hJP c hd).closeSelf hh with h | h | h <;> rw [h] <;> decide) _
    | cfgKick hh _ hp => exact hclose (by rw [hp]; decide) _
    | eof hh _ hp =>
      exact ⟨by simp, closeConn_players_not_play s c (by rcases hp with h | h | h <;> rw [h] <;> decide), by simp⟩
    | joinNone hh _ hp hbeh _ | joinSome _ hh _ hp hbeh _ => simp [hh, hp, hbeh] at hjoin
    | sw1None hh _ | sw1 _ hh _ | sw2 hh | sw3 hh | j1b hh | j3 hh | j4 hh => rw [hh] at hsw; cases hsw
    | _ => exact ⟨rfl, rfl, rfl⟩
  cases he with
  | watchClose c hp =>
    exact ⟨by simp, closeConn_players_not_play s c (by rcases hp with h | ⟨h, _⟩ <;> rw [h] <;> decide), by simp⟩
  | lost a c ha _ _ _ => rcases ha with rfl | rfl <;> cases hns
  | quit => cases hns
  | _ => exact ⟨rfl, rfl, rfl⟩

/-- … and when the built-in handling recovers (kick path, kicked from / left without a current server), the server it
    redirects to is the next fallback: a server of the `try` list at or after `tryIndex` that is neither the server
    the player was kicked from, nor its current server, nor the server of the attempt in flight. -/
theorem failed_fallback_choice (cfg : Cfg) (s : St) (rs idx d : Nat) (h : nextToTry cfg s rs = some (idx, d)) :
    d ∈ cfg.try_ ∧ d ≠ rs ∧
    (∀ c, s.current = some c → (s.conns c).server ≠ d) ∧ (∀ c, s.inFlight = some c → (s.conns c).server ≠ d) := by
  unfold nextToTry at h
  obtain ⟨h1, h2⟩ := scanTry_sound _ _ _ _ _ h
  simp only [Bool.or_eq_false_iff] at h2
  refine ⟨List.mem_of_mem_drop h1, by simpa using h2.2, ?_, ?_⟩
  · intro c hc; have := h2.1.1; rw [hc] at this; simpa using this
  · intro c hc; have := h2.1.2; rw [hc] at this; simpa using this

/-- the kick path installs exactly that choice as the redirect target -/
theorem failed_fallback_redirects (cfg : Cfg) (s s' : St) (i rs : Nat) (hi : i < s.ntasks)
    (hpc : (s.tasks i).pc = .next rs) (h : step cfg s (.task i) = some s') :
    (s'.tasks i).pc = .kickReset true ((nextToTry cfg s rs).map (·.2)) := by
  simp only [step] at h
  unfold stepTask at h
  rw [if_neg (by omega)] at h
  simp only [hpc] at h
  split at h <;> (injection h with h; subst h) <;> simp_all [setPc_tasks]

/-- A request that has returned WITHOUT success — refused, kicked, EOF, online-mode backend, or timed out / cancelled
    at any point (`Act.deadline` may fire at any time; the handler's watcher then fails the request) — has no live
    connection left: its connection is closed, stays closed (`step_closed_stable`), and whatever that connection's
    read loop still does (a late JoinGame in particular) changes neither the current server nor the lists.
    Same hypothesis G2 as above (it also says that a deadline watcher does not run while its connection's read loop is
    inside a switch-over section — the two race in the real code). -/
theorem failed_request_no_live_connection_partial (cfg : Cfg) (hr : Repaired cfg) (s : St) (h : Reach cfg G2 s)
    (i : Nat) (hi : i < s.ntasks) (hd : (s.tasks i).pc = .done) (c : Nat) (r : Res)
    (hc : (s.tasks i).conn = some c) (hres : (s.tasks i).res = some r) (hne : r ≠ .ok) :
    (s.conns c).phase = .closed ∧
    (∀ a s', step cfg s a = some s' → (s'.conns c).phase = .closed) ∧
    (∀ s', step cfg s (.back c) = some s' → s'.current = s.current ∧ s'.players = s.players) := by
  have hI := reach2_inv2 hr h
  have hlt := (hI.i1.t1 i hi).connInRange c hc
  have hcl := (hI.t2 i hi).failedClosed hd c r hc hres hne
  refine ⟨hcl, fun a s' hs => step_closed_stable hr.2.2.2 hs c hlt hcl, ?_⟩
  intro s' hs
  have hns : switchAct s (.back c) = false := by
    -- a closed connection is in no switch-over section (`SwConn.sectionPhase`), and not before its JoinGame
    have hjt := (hI.c2.sw c hlt).sectionPhase
    simp only [switchAct, Bool.or_eq_false_iff]
    constructor
    · cases hh : (s.conns c).h <;> simp_all [swA]
    · simp [hcl]
  have := failed_safe cfg s s' (.back c) hI.i1.jp hs hns
  exact ⟨this.1, this.2.1⟩

/-- a closed connection whose read loop is idle never moves again: a late JoinGame is not handled -/
theorem late_join_ignored (cfg : Cfg) (s : St) (c : Nat) (hp : (s.conns c).phase = .closed)
    (hh : (s.conns c).h = .idle) : step cfg s (.back c) = none := by
  simp only [step]
  unfold stepBack
  split
  · rfl
  · simp [hh, hp]

/-- join server 1, then a request to server 2 whose backend logs in promptly and keeps silent before JoinGame; the
    request's deadline expires, the watcher runs, the request returns; then the backend is released -/
def timeoutSchedule (tail : List Act) : List Act :=
  [.spawn .plain 1 .allow, .task 0, .task 0, .task 0, .task 0, .task 0,
   .back 0, .back 0, .back 0, .back 0, .back 0, .task 0, .task 0, .task 0, .task 0,      -- on server 1
   .spawn .plain 2 .allow, .task 1, .task 1, .task 1, .task 1, .task 1,                   -- request to 2 … dial
   .back 1,                                                                               -- login success, then silence
   .deadline 1, .watch 1,                                                                 -- the deadline expires
   .task 1, .task 1, .task 1, .task 1,                                                    -- the request returns
   .release 1] ++ tail                                                                    -- the backend sends JoinGame

/-- repaired code: the timed-out request returns an error, its connection is closed, the late JoinGame finds no read
    loop (`step … (.back 1) = none`), the player stays on server 1 -/
theorem timeout_repaired :
    (run2 (repaired false [1, 2]) { scripts := fun n => if n = 2 then [(.lateJoin, false)] else [] } (timeoutSchedule [])).map
      (fun s => ((s.tasks 1).res, (s.tasks 1).pc, (s.conns 1).phase, s.current, s.players, playCount s,
        (step (repaired false [1, 2]) s (.back 1)).isNone)) =
      some (some .err, .done, .closed, some 0, [1], 1, true) := by rfl

/-- SEEDED DEFECT (variant `watcherCloses = false`): the transition handler's deadline watcher only fails the request.
    The request returns an error and frees the in-flight slot while its connection stays open; the late JoinGame then
    closes the player's real current backend and moves the player to the server whose request was reported failed. -/
theorem failed_request_fails_watcher_leaves_connection :
    (run ⟨false, [1, 2], true, false, false, false⟩ { scripts := fun n => if n = 2 then [(.lateJoin, false)] else [] }
        (timeoutSchedule [.back 1, .back 1, .back 1, .back 1, .back 1])).map
      (fun s => ((s.tasks 1).res, (s.tasks 1).pc, (s.conns 1).phase, s.current, s.players, (s.conns 0).phase)) =
      some (some .err, .done, .play, some 1, [2], .closed) := by rfl

/-! ## 4. requests to the current server / while one is in flight are reported without side effects -/

/-- what `checkServer` answers -/
theorem check_answers (s : St) (d : Nat) :
    (checkServer s d = some .inprogress ↔
      s.inFlight ≠ none ∨ ∃ c, s.current = some c ∧ (s.conns c).completedJoin = false) ∧
    (checkServer s d = some .already ↔
      s.inFlight = none ∧ ∃ c, s.current = some c ∧ (s.conns c).completedJoin = true ∧ (s.conns c).server = d) := by
  unfold checkServer
  cases hf : s.inFlight <;> cases hc : s.current <;> simp
  rename_i c
  cases hj : (s.conns c).completedJoin <;> simp

/-- shared state = everything but the tasks' own records -/
def sharedEq (s s' : St) : Prop :=
  s'.nconns = s.nconns ∧ s'.conns = s.conns ∧ s'.inFlight = s.inFlight ∧ s'.current = s.current ∧
  s'.players = s.players ∧ s'.active = s.active ∧ s'.clientPlay = s.clientPlay ∧ s'.tryIndex = s.tryIndex ∧
  s'.scripts = s.scripts

private theorem sharedEq_tasks (s : St) (t : Nat → Task) : sharedEq s { s with tasks := t } :=
  ⟨rfl, rfl, rfl, rfl, rfl, rfl, rfl, rfl, rfl⟩

/-- On the repaired code a request answered AlreadyConnected or InProgress (at either check, or at the atomic
    check-and-publish) goes through `check → post → cancel → done` and NONE of these steps touches shared state:
    no connection is created, the in-flight slot, the current server and the lists stay as they are. -/
theorem noop_results (cfg : Cfg) (hr : Repaired cfg) (s s' : St) (i : Nat) (hi : i < s.ntasks)
    (h : step cfg s (.task i) = some s') :
    (∀ r, ((s.tasks i).pc = .check1 ∨ (s.tasks i).pc = .check2 ∨ (s.tasks i).pc = .set) →
        checkServer s (s.tasks i).dest = some r →
        sharedEq s s' ∧ (s'.tasks i).res = some r ∧ (s'.tasks i).pc = .post ∧ (s'.tasks i).conn = (s.tasks i).conn) ∧
    ((s.tasks i).pc = .post → sharedEq s s' ∧ (s'.tasks i).pc = .cancel ∧ (s'.tasks i).res = (s.tasks i).res) ∧
    ((s.tasks i).pc = .cancel → (s.tasks i).conn = none → (s.tasks i).mode = .plain →
        sharedEq s s' ∧ (s'.tasks i).pc = .done ∧ (s'.tasks i).res = (s.tasks i).res) := by
  obtain ⟨hat, hfr, _, _⟩ := hr
  simp only [step] at h
  unfold stepTask at h
  rw [if_neg (by omega)] at h
  simp only [] at h
  refine ⟨?_, ?_, ?_⟩
  · intro r hpc hck
    rcases hpc with hpc | hpc | hpc <;> simp only [hpc, hck, hat, if_true] at h <;>
      (injection h with h; subst h) <;>
      exact ⟨sharedEq_tasks s _, by simp [finish_tasks], by simp [finish_tasks],
        by simp [finish_tasks]⟩
  · intro hpc
    simp only [hpc, hfr] at h
    injection h with h; subst h
    exact ⟨sharedEq_tasks s _, by simp [setPc_tasks], by simp [setPc_tasks]⟩
  · intro hpc hconn hmode
    simp only [hpc, hconn, hmode] at h
    injection h with h; subst h
    exact ⟨sharedEq_tasks s _, by simp [setPc_tasks], by simp [setPc_tasks]⟩

/-- A ServerPreConnectEvent subscriber that redirects a request changes only the request's own destination; the
    re-check and the atomic check-and-claim that follow (`noop_results`, pcs `check2` / `set`) validate THAT destination
    (`(s'.tasks i).dest = d`): a request redirected onto the player's current server is answered AlreadyConnected and
    never dials. -/
theorem redirect_is_rechecked (cfg : Cfg) (s s' : St) (i d : Nat) (hi : i < s.ntasks)
    (hpc : (s.tasks i).pc = .event) (hev : (s.tasks i).ev = .redirect d) (h : step cfg s (.task i) = some s') :
    sharedEq s s' ∧ (s'.tasks i).pc = .check2 ∧ (s'.tasks i).dest = d ∧ (s'.tasks i).conn = (s.tasks i).conn := by
  simp only [step] at h
  unfold stepTask at h
  rw [if_neg (by omega)] at h
  simp only [hpc, hev] at h
  injection h with h; subst h
  exact ⟨sharedEq_tasks s _, by simp, by simp, by simp⟩

/-- DEFECT (fixed): in the original code the post-processing of such a no-op request cleared the in-flight slot
    that belongs to ANOTHER request. -/
theorem noop_results_fails_foreign_reset :
    (run ⟨false, [], true, true, false, true⟩ { scripts := fun _ => [(.accept, true)] } (foreignResetSchedule.take 9)).map
      (fun s => (s.inFlight, (s.tasks 1).res, (s.tasks 0).pc)) = some (none, some .inprogress, .wait) := by decide

/-! ## 5. tie to the source (regenerated facts) -/
open Gate.Gen.C16 in
/-- which variant the source is: the second check publishes the connection in the same critical section
    (`checkServerAndSetInFlight`: Lock … defer Unlock, `checkServer0`), `internalConnect` no longer calls
    `setInFlightConnection`, and `connect()` no longer calls `resetInFlightConnection` -/
theorem src_is_repaired :
    ("c.checkServerAndSetInFlight" ∈ internalConnectCalls ∧ "c.player.setInFlightConnection" ∉ internalConnectCalls ∧
     checkAndSetCalls = ["p.mu.Lock", "defer:p.mu.Unlock", "p.checkServer0", "return"]) ∧
    "c.player.resetInFlightConnection" ∉ connectCalls := by decide +kernel

open Gate.Gen.C16 in
/-- the order of the request's critical sections in `internalConnect`: check, event, check, (type check), new
    connection, check-and-publish, deferred reset, connect -/
theorem src_internalConnect_order :
    internalConnectCalls.filter (fun c => c ∈ ["c.checkServer", "c.event().Fire", "newServerConnection",
        "c.checkServerAndSetInFlight", "defer:c.resetIfInFlightIs", "conn.connect"]) =
      ["c.checkServer", "c.event().Fire", "c.checkServer", "newServerConnection", "c.checkServerAndSetInFlight",
       "defer:c.resetIfInFlightIs", "conn.connect"] := by decide +kernel

open Gate.Gen.C16 in
/-- lock regions and section order of the other `player.mu` users the model splits into steps -/
theorem src_sections :
    checkServerCalls.take 3 = ["p.mu.RLock", "defer:p.mu.RUnlock", "p.checkServer0"] ∧
    resetIfInFlightIsCalls = ["c.player.mu.Lock", "defer:c.player.mu.Unlock"] ∧
    setConnectedServerCalls = ["p.mu.Lock", "p.mu.Unlock"] ∧
    -- handleJoinGame: lock section, then existingConn.disconnect, …, SetActiveSessionHandler, setConnectedServer, result
    handleJoinGameCalls.filter (fun c => c ∈ ["b.serverConn.player.mu.Lock", "existingConn.disconnect",
        "playHandler.handleBackendJoinGame", "smc.SetActiveSessionHandler", "b.serverConn.player.setConnectedServer"]) =
      ["b.serverConn.player.mu.Lock", "existingConn.disconnect", "playHandler.handleBackendJoinGame",
       "smc.SetActiveSessionHandler", "b.serverConn.player.setConnectedServer"] ∧
    handleJoinGameCalls.getLast? = some "b.requestCtx.result" ∧
    -- doSwitch: read, setConnectedServer(nil), disconnect
    doSwitchCalls.filter (fun c => c ∈ ["c.player.connectedServer", "c.player.setConnectedServer",
        "existingConn.disconnect", "c.player.switchToConfigState"]) =
      ["c.player.connectedServer", "c.player.setConnectedServer", "existingConn.disconnect",
       "c.player.switchToConfigState"] ∧
    -- handleKickEvent: fire, unconditional setInFlightConnection(nil), lock section, …
    handleKickEventCalls.take 5 = ["p.proxy.Event", "p.proxy.Event().Fire", "p.setInFlightConnection", "p.mu.Lock",
      "p.mu.Unlock"] ∧
    playActivatedCalls.head? = some "b.serverConn.server.players.add" ∧
    playDisconnectedCalls.head? = some "b.serverConn.server.players.remove" ∧
    loginHandleDisconnectCalls.drop 3 = ["b.requestCtx.result", "b.serverConn.disconnect"] ∧
    transitionHandleDisconnectCalls.drop 8 = ["b.requestCtx.result", "b.serverConn.disconnect"] := by decide +kernel

open Gate.Gen.C16 in
/-- `handleJoinGame` takes the player lock unconditionally and unlocks on both branches of `existingConn != nil`
    (the lookup of the connection to close is not guarded by anything the request carries) -/
theorem src_joingame_lookup_unconditional :
    handleJoinGameCalls.filter (fun c => c = "b.serverConn.player.mu.Lock" ∨ c = "b.serverConn.player.mu.Unlock") =
      ["b.serverConn.player.mu.Lock", "b.serverConn.player.mu.Unlock", "b.serverConn.player.mu.Unlock"] := by decide +kernel

open Gate.Gen.C16 in
/-- the deadline watchers of the login and of the transition handler fail the request AND close the connection -/
theorem src_deadline_watchers_disconnect :
    transitionActivatedCalls.filter (fun c => c = "b.requestCtx.result" ∨ c = "b.serverConn.disconnect") =
      ["b.requestCtx.result", "b.serverConn.disconnect"] ∧
    loginActivatedCalls.filter (fun c => c = "b.requestCtx.result" ∨ c = "b.serverConn.disconnect") =
      ["b.requestCtx.result", "b.serverConn.disconnect"] := by decide +kernel

/-! ## non-vacuity -/

def switchSchedule : List Act :=
  [.spawn .plain 1 .allow, .task 0, .task 0, .task 0, .task 0, .task 0,
   .back 0, .back 0, .back 0, .back 0, .back 0, .task 0, .task 0, .task 0, .task 0,      -- on server 1
   .spawn .plain 2 .allow, .spawn .plain 3 .allow,                                        -- two concurrent requests
   .task 1, .task 2, .task 1, .task 2, .task 1, .task 2, .task 1, .task 2, .task 1,
   .back 1, .back 1, .back 1, .back 1, .back 1, .back 1, .task 1, .task 1, .task 1, .task 1,
   .task 2, .task 2]

/-- the hypotheses of the theorems above are satisfiable by a run with a real switch and a concurrent request:
    the schedule is accepted by `run2` (hypothesis G2 checked at every step), ends with the player on server 2
    (second connection), list = [2], request 1 Success, request 2 InProgress -/
example : (run2 (repaired false [1, 2, 3]) {} switchSchedule).map
    (fun s => (s.current, s.players, (s.tasks 1).res, (s.tasks 2).res, (s.conns 0).phase, inFlightCount s)) =
    some (some 1, [2], some .ok, some .inprogress, .closed, 0) := by rfl

example : ∃ s, Reach (repaired false [1, 2, 3]) G2 s ∧ (s.tasks 1).res = some .ok := by
  cases hrun : run2 (repaired false [1, 2, 3]) {} switchSchedule with
  | none => exact absurd hrun (by decide)
  | some s =>
    refine ⟨s, run2_reach (Reach.init ⟨rfl, rfl, rfl, rfl, rfl, rfl⟩) _ _ hrun, ?_⟩
    have : (run2 (repaired false [1, 2, 3]) {} switchSchedule).map (fun s => (s.tasks 1).res) = some (some .ok) := by
      decide
    rw [hrun] at this; simpa using this

example : Repaired (repaired true [1]) := ⟨rfl, rfl, rfl, rfl⟩

end Gate.C16.Props
