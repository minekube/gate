import GateModel.C16.L1
/-
C16 — invariants, part 2: what the state knows of each request record (`Task1`), and the in-flight invariant
(one attempt at a time).
-/
namespace Gate.C16

/-- before the connection is published -/
def earlyPc (pc : PC) : Bool := match pc with | .created | .check1 | .event | .check2 | .set => true | _ => false
/-- the request has its result and `connect()` has not returned yet -/
def pastWait (pc : PC) : Bool := match pc with | .deferReset | .post | .cancel => true | _ => false

/-- what the state knows of request record `T`: its connection id is a real connection; before publishing, a request
    has no connection; once a request has its result (or the dial was refused) its connection is no attempt any more -/
structure Task1 (s : St) (T : Task) : Prop where
  connInRange : ∀ c, T.conn = some c → c < s.nconns
  earlyNoConn : earlyPc T.pc = true → T.conn = none
  pastNotAttempting : pastWait T.pc = true → ∀ c, T.conn = some c → attempting (s.conns c) = false

/-- a record that no step touches stays consistent: all of `Task1` is stable under `StLe` -/
theorem Task1.le {s s' : St} {T : Task} (h : Task1 s T) (hle : StLe s s') (hJP : JP s) : Task1 s' T := by
  refine ⟨fun c hc => Nat.lt_of_lt_of_le (h.connInRange c hc) hle.le, h.earlyNoConn, fun hp c hc => ?_⟩
  cases ha : attempting (s'.conns c) with
  | false => rfl
  | true => rw [← h.pastNotAttempting hp c hc]; exact (hle.mono hJP c (h.connInRange c hc) ha).symm

theorem stepTask_tasks {cfg : Cfg} {s s' : St} {i : Nat} (h : stepTask cfg s i = some s') :
    i < s.ntasks ∧ s'.ntasks = s.ntasks ∧ ∀ j, j ≠ i → s'.tasks j = s.tasks j := by
  obtain ⟨hi, T', hb⟩ := stepTask_inv h
  obtain ⟨hn, ht⟩ := hb.tasks
  exact ⟨hi, hn, fun j hj => by rw [ht, upd_other _ _ _ _ hj]⟩

/-- bookkeeping that moves the program counter (and result, destination) on an unchanged set of connections -/
theorem Task1.pc {s s1 : St} {T : Task} (h : Task1 s T) (pc' : PC) (r : Option Res) (d : Nat)
    (hn : s1.nconns = s.nconns) (hc : s1.conns = s.conns) (he : earlyPc pc' = false ∨ earlyPc T.pc = true)
    (hp : pastWait pc' = false ∨ pastWait T.pc = true ∨ T.conn = none) :
    Task1 s1 { T with pc := pc', res := r, dest := d } := by
  refine ⟨fun c hc' => hn ▸ h.connInRange c hc', fun hearly => h.earlyNoConn ?_, fun hpast c hc' => ?_⟩
  · rcases he with he | he
    · rw [he] at hearly; cases hearly
    · exact he
  · rcases hp with hp | hp | hp
    · rw [hp] at hpast; cases hpast
    · rw [hc]; exact h.pastNotAttempting hp c hc'
    · rw [hp] at hc'; cases hc'

/-- a program counter outside both regions asks nothing of the connections -/
theorem Task1.late {s : St} {T : Task} (h : Task1 s T) (s1 : St) (pc' : PC) (hn : s1.nconns = s.nconns)
    (hpc : isKickPc pc' = true ∨ pc' = .done) : Task1 s1 { T with pc := pc' } := by
  have : earlyPc pc' = false ∧ pastWait pc' = false := by
    rcases hpc with hk | rfl
    · cases pc' <;> first | exact ⟨rfl, rfl⟩ | cases hk
    · exact ⟨rfl, rfl⟩
  exact ⟨fun c hc' => hn ▸ h.connInRange c hc', fun he => (by rw [this.1] at he; cases he),
    fun hp => (by rw [this.2] at hp; cases hp)⟩

theorem stepTask_task1 {cfg : Cfg} {s s' : St} {i : Nat} (hJP : JP s) (hT : Task1 s (s.tasks i))
    (h : stepTask cfg s i = some s') : Task1 s' (s'.tasks i) := by
  obtain ⟨hi, T', hb⟩ := stepTask_inv h
  rw [hb.tasks.2, upd_same]
  have hnone : earlyPc (s.tasks i).pc = true → (s.tasks i).conn = none := hT.earlyNoConn
  cases hb with
  | created hpc => exact hT.pc .check1 _ _ rfl rfl (.inr (by rw [hpc]; rfl)) (.inl rfl)
  | answered r hpc _ =>
    exact hT.pc .post _ _ rfl rfl (.inl rfl) (.inr (.inr (hnone (by rcases hpc with h | h | h <;> rw [h] <;> rfl))))
  | checked pc' hpc _ =>
    rcases hpc with ⟨h1, rfl⟩ | ⟨h1, rfl⟩
    · exact hT.pc .event _ _ rfl rfl (.inr (by rw [h1]; rfl)) (.inl rfl)
    · exact hT.pc .set _ _ rfl rfl (.inr (by rw [h1]; rfl)) (.inl rfl)
  | allowed hpc => exact hT.pc .check2 _ _ rfl rfl (.inr (by rw [hpc]; rfl)) (.inl rfl)
  | denied hpc => exact hT.pc .post _ _ rfl rfl (.inl rfl) (.inr (.inr (hnone (by rw [hpc]; rfl))))
  | redirected d hpc => exact hT.pc .check2 _ _ rfl rfl (.inr (by rw [hpc]; rfl)) (.inl rfl)
  | published _ _ =>
    exact ⟨fun c hc => (by cases hc; exact Nat.lt_succ_self _), fun he => (by cases he), fun hp => (by cases hp)⟩
  | dialRefused c rest _ hconn hph =>
    -- the connection was dialing, so its read loop is idle, and it is closed now
    refine ⟨hT.connInRange, fun he => (by cases he), fun _ c' hc' => ?_⟩
    rw [hconn] at hc'; cases hc'
    have hidle := ((hJP c (hT.connInRange c hconn)).dialing hph).1
    show attempting (upd s.conns c _ c) = false
    rw [upd_same]; simp [attempting, hidle]
  | dialed c b st rest _ _ _ => exact ⟨hT.connInRange, fun he => (by cases he), fun hp => (by cases hp)⟩
  | waited c r _ hconn hr =>
    refine ⟨hT.connInRange, fun he => (by cases he), fun _ c' hc' => ?_⟩
    rw [hconn] at hc'; cases hc'
    simp [attempting, hr]
  | deferReset hpc => exact hT.pc .post _ _ rfl rfl (.inl rfl) (.inr (.inl (by rw [hpc]; rfl)))
  | post s1 hpc hs1 =>
    rcases hs1 with rfl | ⟨_, rfl⟩ <;> exact hT.pc .cancel _ _ rfl rfl (.inl rfl) (.inr (.inl (by rw [hpc]; rfl)))
  | cancelDone s1 _ hcc | cancelQuit s1 _ hcc _ =>
    obtain ⟨_, _, rfl⟩ := hcc.frame
    exact hT.late _ .done (by simp) (.inr rfl)
  | cancelKick s1 _ hcc _ =>
    obtain ⟨_, _, rfl⟩ := hcc.frame
    exact hT.late _ (.err2 _) rfl (.inl rfl)
  | kick _ hk =>
    cases hk with
    | pc pc' hpc' => exact hT.late _ pc' rfl hpc'
    | next idx pc' hpc' => exact hT.late _ pc' rfl (.inl hpc')
    | resetIf rs s1 _ hs1 => rcases hs1 with rfl | rfl <;> exact hT.late _ (.kickReset false none) rfl (.inl rfl)
    | reset kfc redir _ => exact hT.late _ (.kickClear kfc redir) rfl (.inl rfl)
    | clear cur pc' hpc' => exact hT.late _ pc' rfl (.inl hpc')
    | quit => exact hT.late _ .done (by simp) (.inr rfl)
    | redirect d p => exact ⟨fun c hc => (by cases hc), fun _ => rfl, fun _ c hc => (by cases hc)⟩

/-- steps of other goroutines leave existing tasks alone and may only append fresh tasks: no connection, no result -/
def TasksExt (s s' : St) : Prop :=
  s.ntasks ≤ s'.ntasks ∧ (∀ j, j < s.ntasks → s'.tasks j = s.tasks j) ∧
  (∀ j, s.ntasks ≤ j → j < s'.ntasks →
    (s'.tasks j).conn = none ∧ (s'.tasks j).res = none ∧ pastWait (s'.tasks j).pc = false)

theorem tasksExt_refl (s : St) : TasksExt s s := ⟨Nat.le_refl _, fun _ _ => rfl, fun j h1 h2 => by omega⟩

theorem tasksExt_spawn (s : St) {u : St} (t : Task) (hn : u.ntasks = s.ntasks) (hu : u.tasks = s.tasks)
    (h1 : t.conn = none) (h2 : t.res = none) (h3 : pastWait t.pc = false) : TasksExt s (spawnTask u t) := by
  refine ⟨by simp [hn], ?_, ?_⟩
  · intro j hj; rw [spawnTask_tasks, if_neg (by omega), hu]
  · intro j hj1 hj2
    simp at hj2
    have : j = u.ntasks := by omega
    subst this; simp [spawnTask_tasks, h1, h2, h3]

theorem TasksExt.congr {s t t' : St} (h : TasksExt s t) (h1 : t'.ntasks = t.ntasks) (h2 : t'.tasks = t.tasks) :
    TasksExt s t' := by
  unfold TasksExt; rw [h1, h2]; exact h

theorem stepBack_tasksExt {cfg : Cfg} {s s' : St} {c : Nat} (h : stepBack cfg s c = some s') : TasksExt s s' := by
  cases (stepBack_inv h).2 with
  | cfgKick2Spawn _ _ => exact tasksExt_spawn s _ rfl rfl rfl rfl rfl
  | _ => exact (tasksExt_refl s).congr (by simp) (by simp)

theorem step_tasksExt {cfg : Cfg} {s s' : St} {a : Act} (hna : ∀ i, a ≠ .task i) (h : step cfg s a = some s') :
    TasksExt s s' := by
  rcases step_inv h with ⟨i, rfl, _⟩ | ⟨c, _, h⟩ | he
  · exact absurd rfl (hna i)
  · exact stepBack_tasksExt h
  cases he with
  | request a t h1 h2 h3 => exact tasksExt_spawn s t rfl rfl h1 h2 (by rcases h3 with h | h <;> rw [h] <;> rfl)
  | lost a c _ _ _ _ => exact tasksExt_spawn s _ (by simp) (by simp) rfl rfl rfl
  | watchClose c _ => exact (tasksExt_refl s).congr (by simp) (by simp)
  | quit => exact (tasksExt_refl s).congr (by simp) (by simp)
  | _ => exact tasksExt_refl s

/-- a property of request records holds of every record after a step if it survives on the records the step does
    not touch, is kept by the stepping goroutine, and holds of a fresh record -/
theorem step_tasks {P : St → Task → Prop} {cfg : Cfg} {s s' : St} {a : Act} (h : step cfg s a = some s')
    (hkeep : ∀ j, j < s.ntasks → P s' (s.tasks j))
    (hstep : ∀ i, i < s.ntasks → stepTask cfg s i = some s' → P s' (s'.tasks i))
    (hnew : ∀ T : Task, T.conn = none → T.res = none → pastWait T.pc = false → P s' T) :
    ∀ j, j < s'.ntasks → P s' (s'.tasks j) := by
  intro j hj
  cases a with
  | task i =>
    obtain ⟨hi, hn, hoth⟩ := stepTask_tasks h
    by_cases hji : j = i
    · rw [hji]; exact hstep i hi h
    · rw [hoth j hji]; exact hkeep j (by omega)
  | _ =>
    obtain ⟨_, hold, hnew'⟩ := step_tasksExt (by intro i; simp) h
    by_cases hlt : j < s.ntasks
    · rw [hold j hlt]; exact hkeep j hlt
    · obtain ⟨h1, h2, h3⟩ := hnew' j (by omega) hj
      exact hnew _ h1 h2 h3

def AllTask1 (s : St) : Prop := ∀ i, i < s.ntasks → Task1 s (s.tasks i)

theorem step_allTask1 {cfg : Cfg} {s s' : St} {a : Act} (hwc : cfg.watcherCloses = true) (hJP : JP s) (hT : AllTask1 s)
    (h : step cfg s a = some s') : AllTask1 s' :=
  step_tasks h (fun j hj => (hT j hj).le (step_le hwc h) hJP) (fun i hi hs => stepTask_task1 hJP (hT i hi) hs)
    fun T h1 _ h3 => ⟨fun c hc => (by rw [h1] at hc; cases hc), fun _ => h1, fun hp => (by rw [h3] at hp; cases hp)⟩

/-- an attempt in flight owns the in-flight slot -/
def AttemptOwnsSlot (s : St) : Prop := ∀ c, c < s.nconns → attempting (s.conns c) = true → s.inFlight = some c

/-- the two sections of the kick path that clear the in-flight slot -/
def resetPc : PC → Bool
  | .resetIf _ => true
  | .kickReset _ _ => true
  | _ => false

/-- hypothesis on a step: the kick path clears the in-flight slot only while no attempt is in flight -/
def Guard1 (s : St) : Act → Prop
  | .task i => resetPc (s.tasks i).pc = true → ∀ c, c < s.nconns → attempting (s.conns c) = false
  | _ => True

theorem checkServer_none_inFlight (s : St) (d : Nat) (h : checkServer s d = none) : s.inFlight = none := by
  unfold checkServer at h
  split at h <;> simp_all

/-- a step that touches neither the connection count nor the in-flight slot -/
theorem attemptOwnsSlot_le {s s' : St} (hJP : JP s) (hA : AttemptOwnsSlot s) (hle : StLe s s')
    (hn : s'.nconns = s.nconns) (hf : s'.inFlight = s.inFlight) : AttemptOwnsSlot s' := by
  intro c hc ha
  rw [hn] at hc; rw [hf]
  exact hA c hc (hle.mono hJP c hc ha)

theorem stepTask_attemptOwnsSlot {cfg : Cfg} {s s' : St} {i : Nat} (hat : cfg.atomicSet = true)
    (hfr : cfg.foreignReset = false) (hJP : JP s) (hT : AllTask1 s) (hA : AttemptOwnsSlot s) (hG : Guard1 s (.task i))
    (h : stepTask cfg s i = some s') : AttemptOwnsSlot s' := by
  have hle := stepTask_le h
  obtain ⟨hi, T', hb⟩ := stepTask_inv h
  -- the kick path clears the slot only while nothing is attempting
  have hquiet : resetPc (s.tasks i).pc = true → s'.nconns = s.nconns → AttemptOwnsSlot s' := fun hr hn e he ha => by
    rw [hn] at he
    have := hle.mono hJP e he ha
    rw [hG hr e he] at this; cases this
  cases hb with
  | published _ hck =>
    -- the check and the publication are one section: the slot was free, so nothing was attempting
    have hfree := checkServer_none_inFlight s _ (hck hat)
    intro e he ha
    by_cases hlt : e < s.nconns
    · have := hA e hlt (hle.mono hJP e hlt ha)
      rw [hfree] at this; cases this
    · have : e = s.nconns := by have : e < s.nconns + 1 := he; omega
      subst this; rfl
  | deferReset hpc =>
    -- `resetIfInFlightIs(conn)`: the request's own connection is no attempt any more
    intro e he ha
    have hatt := hle.mono hJP e he ha
    have hin := hA e he hatt
    show (if s.inFlight = (s.tasks i).conn then none else s.inFlight) = some e
    rw [if_neg, hin]
    intro heq
    rw [hin] at heq
    rw [(hT i hi).pastNotAttempting (by rw [hpc]; rfl) e heq.symm] at hatt; cases hatt
  | post s1 _ hs1 =>
    rcases hs1 with rfl | ⟨hf, _⟩
    · exact attemptOwnsSlot_le hJP hA hle rfl rfl
    · rw [hfr] at hf; cases hf
  | cancelDone s1 _ hcc | cancelKick s1 _ hcc _ =>
    obtain ⟨_, _, rfl⟩ := hcc.frame
    exact attemptOwnsSlot_le hJP hA hle rfl rfl
  | cancelQuit s1 _ hcc _ =>
    obtain ⟨_, _, rfl⟩ := hcc.frame
    exact attemptOwnsSlot_le hJP hA hle (by simp) (by simp)
  | kick _ hk =>
    cases hk with
    | resetIf rs s1 hpc hs1 => rcases hs1 with rfl | rfl <;> exact hquiet (by rw [hpc]; rfl) rfl
    | reset kfc redir hpc => exact hquiet (by rw [hpc]; rfl) rfl
    | quit => exact attemptOwnsSlot_le hJP hA hle (by simp) (by simp)
    | _ => exact attemptOwnsSlot_le hJP hA hle rfl rfl
  | _ => exact attemptOwnsSlot_le hJP hA hle rfl rfl

theorem stepBack_attemptOwnsSlot {cfg : Cfg} {s s' : St} {c : Nat} (hJP : JP s) (hA : AttemptOwnsSlot s)
    (h : stepBack cfg s c = some s') : AttemptOwnsSlot s' := by
  have hle := stepBack_le h
  obtain ⟨hd, hb⟩ := stepBack_inv h
  cases hb with
  | j4 hh =>
    -- `setConnectedServer`: the connection gives up the in-flight slot, and is no attempt any more
    intro e he ha
    have hin := hA e he (hle.mono hJP e he ha)
    by_cases hec : e = c
    · subst hec
      have hp := (hJP e hd).installing (.inl hh)
      simp only [upd_same, attempting] at ha
      rcases hp with hp | hp <;> simp [hp] at ha
    · show (if s.inFlight = some c then none else s.inFlight) = some e
      rw [hin, if_neg (fun h => hec (Option.some.inj h))]
  | _ => exact attemptOwnsSlot_le hJP hA hle (by simp) (by simp)

theorem step_attemptOwnsSlot {cfg : Cfg} {s s' : St} {a : Act} (hat : cfg.atomicSet = true)
    (hfr : cfg.foreignReset = false) (hwc : cfg.watcherCloses = true) (hJP : JP s) (hT : AllTask1 s)
    (hA : AttemptOwnsSlot s) (hG : Guard1 s a)
    (h : step cfg s a = some s') : AttemptOwnsSlot s' := by
  have hle := step_le hwc h
  rcases step_inv h with ⟨i, rfl, h⟩ | ⟨c, rfl, h⟩ | he
  · exact stepTask_attemptOwnsSlot hat hfr hJP hT hA hG h
  · exact stepBack_attemptOwnsSlot hJP hA h
  · cases he <;> exact attemptOwnsSlot_le hJP hA hle (by simp) (by simp)

structure Inv1 (s : St) : Prop where
  jp : JP s
  t1 : AllTask1 s
  ownsSlot : AttemptOwnsSlot s

/-- the invariant is preserved by every step of the repaired code that respects `Guard1` -/
theorem inv1_step {cfg : Cfg} {s s' : St} {a : Act} (hat : cfg.atomicSet = true) (hfr : cfg.foreignReset = false)
    (hwc : cfg.watcherCloses = true) (hI : Inv1 s) (hG : Guard1 s a) (h : step cfg s a = some s') : Inv1 s' :=
  ⟨(step_le hwc h).jp hI.jp, step_allTask1 hwc hI.jp hI.t1 h,
    step_attemptOwnsSlot hat hfr hwc hI.jp hI.t1 hI.ownsSlot hG h⟩

theorem inv1_init (s : St) (h0 : s.nconns = 0) (h1 : s.ntasks = 0) : Inv1 s :=
  ⟨fun c hc => by omega, fun i hi => by omega, fun c hc => by omega⟩

theorem count_zero (s : St) (n : Nat) (h : ∀ c, c < n → attempting (s.conns c) = false) : countAttempting s n = 0 := by
  induction n with
  | zero => rfl
  | succ n ih =>
    simp only [countAttempting]
    rw [ih (fun c hc => h c (by omega)), h n (by omega)]; rfl

theorem count_le_one (s : St) (n : Nat)
    (h : ∀ c c', c < n → c' < n → attempting (s.conns c) = true → attempting (s.conns c') = true → c = c') :
    countAttempting s n ≤ 1 := by
  induction n with
  | zero => simp [countAttempting]
  | succ n ih =>
    simp only [countAttempting]
    by_cases hn : attempting (s.conns n) = true
    · have hz : countAttempting s n = 0 := by
        apply count_zero
        intro c hc
        cases hcc : attempting (s.conns c) with
        | false => rfl
        | true => have := h c n (by omega) (by omega) hcc hn; omega
      rw [hz, if_pos hn]; omega
    · rw [if_neg hn]
      have := ih (fun c c' hc hc' => h c c' (by omega) (by omega))
      omega

theorem inv1_count (s : St) (hI : Inv1 s) : inFlightCount s ≤ 1 := by
  apply count_le_one
  intro c c' hc hc' ha ha'
  have h1 := hI.ownsSlot c hc ha
  have h2 := hI.ownsSlot c' hc' ha'
  rw [h1] at h2; injection h2

end Gate.C16
