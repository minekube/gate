import GateModel.C16.L1
import GateModel.C16.L2
import GateModel.C16.L3
import GateModel.C16.L4
