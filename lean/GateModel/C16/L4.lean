import GateModel.C16.L3
/-
C16 — invariants, part 4: reachability under a hypothesis on the schedule, the request/connection bookkeeping
invariants, and the packaged results used by Props.
-/
namespace Gate.C16

/-- initial state: the player has just logged in to the proxy, nothing is connected yet (scripts, try index and the
    client's handler are arbitrary) -/
def Init (s : St) : Prop :=
  s.nconns = 0 ∧ s.ntasks = 0 ∧ s.inFlight = none ∧ s.current = none ∧ s.players = [] ∧ s.active = true

/-- states reachable under every interleaving whose steps satisfy the hypothesis `G` -/
inductive Reach (cfg : Cfg) (G : St → Act → St → Prop) : St → Prop
  | init {s : St} : Init s → Reach cfg G s
  | step {s s' : St} {a : Act} : Reach cfg G s → G s a s' → step cfg s a = some s' → Reach cfg G s'

/-- hypothesis 1: the kick path clears the in-flight slot only while no attempt is in flight -/
def G1 (s : St) (a : Act) (_ : St) : Prop := Guard1 s a
/-- hypothesis 2: the kick path is not entered, the player stays connected, and a deadline watcher does not run
    while its connection's read loop is inside a switch-over section -/
def G2 (s : St) (a : Act) (s' : St) : Prop :=
  NoKick s' ∧ s'.active = true ∧ ∀ c, a = .watch c → swA (s.conns c).h = false

def Repaired (cfg : Cfg) : Prop :=
  cfg.atomicSet = true ∧ cfg.foreignReset = false ∧ cfg.joinBySnapshot = false ∧ cfg.watcherCloses = true

theorem reach1_inv1 {cfg : Cfg} (hr : Repaired cfg) {s : St} (h : Reach cfg G1 s) : Inv1 s := by
  induction h with
  | init hi => exact inv1_init _ hi.1 hi.2.1
  | step _ hg hs ih => exact inv1_step hr.1 hr.2.1 hr.2.2.2 ih hg hs

theorem resetPc_isKickPc (pc : PC) (h : resetPc pc = true) : isKickPc pc = true := by
  cases pc <;> simp_all [resetPc, isKickPc]

theorem guard1_of_noKick {s : St} (hNK : NoKick s) (a : Act) (hen : ∀ i, a = .task i → i < s.ntasks) : Guard1 s a := by
  cases a with
  | task i =>
    intro hr
    have := hNK i (hen i rfl)
    rw [resetPc_isKickPc _ hr] at this; simp at this
  | _ => trivial

/-! ### executable reachability (for witnesses and non-vacuity examples) -/

def noKickB (s : St) : Bool := (List.range s.ntasks).all fun i => !isKickPc (s.tasks i).pc

theorem noKickB_iff (s : St) : noKickB s = true ↔ NoKick s := by
  unfold noKickB NoKick
  simp [List.all_eq_true]

def watchOK (s : St) : Act → Bool
  | .watch c => !swA (s.conns c).h
  | _ => true

/-- run a schedule, checking hypothesis 2 after every step -/
def run2 (cfg : Cfg) : St → List Act → Option St
  | s, [] => some s
  | s, a :: as =>
    match step cfg s a with
    | some s' => if noKickB s' && s'.active && watchOK s a then run2 cfg s' as else none
    | none => none

theorem run2_reach {cfg : Cfg} {s : St} (hs : Reach cfg G2 s) : ∀ (as : List Act) (s' : St),
    run2 cfg s as = some s' → Reach cfg G2 s' := by
  intro as
  induction as generalizing s with
  | nil => intro s' h; simp [run2] at h; subst h; exact hs
  | cons a as ih =>
    intro s' h
    simp only [run2] at h
    split at h
    · rename_i s1 hstep
      split at h
      · rename_i hg
        simp at hg
        refine ih (Reach.step hs ⟨(noKickB_iff s1).mp hg.1.1, hg.1.2, ?_⟩ hstep) s' h
        intro c hc; subst hc; simpa [watchOK] using hg.2
      · simp at h
    · simp at h

theorem checkServer_ne_ok (s : St) (d : Nat) : checkServer s d ≠ some .ok := by
  unfold checkServer
  split
  · simp
  · split
    · simp
    · split <;> simp
  · simp

/-- bookkeeping of request record `T`: its connection was dialled for the request's (post-event) destination; it
    reports success only if its own connection delivered the success; once past the wait its result is the
    connection's result (or the connection is closed: the dial was refused); a finished request that did not succeed
    has no live connection -/
structure Task2 (s : St) (T : Task) : Prop where
  connDest : ∀ c, T.conn = some c → (s.conns c).server = T.dest
  okFromConn : T.res = some .ok → ∃ c, T.conn = some c ∧ (s.conns c).result = some .ok
  resFromConn : (pastWait T.pc = true ∨ T.pc = .done) → ∀ c r, T.conn = some c → T.res = some r →
    (s.conns c).result = some r ∨ (s.conns c).phase = .closed
  failedClosed : T.pc = .done → ∀ c r, T.conn = some c → T.res = some r → r ≠ .ok → (s.conns c).phase = .closed

theorem Task2.le {s s' : St} {T : Task} (h : Task2 s T) (h1 : Task1 s T) (hle : StLe s s') : Task2 s' T := by
  refine ⟨fun c hc => ?_, fun hr => ?_, fun hp c r hc hr => ?_, fun hp c r hc hr hne => ?_⟩
  · rw [(hle.conn c (h1.connInRange c hc)).server]; exact h.connDest c hc
  · obtain ⟨c, hc, hr⟩ := h.okFromConn hr
    exact ⟨c, hc, (hle.conn c (h1.connInRange c hc)).result _ hr⟩
  · rcases h.resFromConn hp c r hc hr with h2 | h2
    · exact .inl ((hle.conn c (h1.connInRange c hc)).result _ h2)
    · exact .inr ((hle.conn c (h1.connInRange c hc)).closed h2)
  · exact (hle.conn c (h1.connInRange c hc)).closed (h.failedClosed hp c r hc hr hne)

/-- moving the program counter to one that is neither past the wait nor `done` -/
theorem Task2.quiet {s : St} {T : Task} (h : Task2 s T) (pc' : PC) (hp : pastWait pc' = false) (hd : pc' ≠ .done) :
    Task2 s { T with pc := pc' } :=
  ⟨h.connDest, h.okFromConn, fun hq => (by rcases hq with hq | hq; rw [hp] at hq; cases hq; exact absurd hq hd),
    fun hq => absurd hq hd⟩

/-- moving on within the region past the wait -/
theorem Task2.past {s : St} {T : Task} (h : Task2 s T) (pc' : PC) (hold : pastWait T.pc = true) (hd : pc' ≠ .done) :
    Task2 s { T with pc := pc' } :=
  ⟨h.connDest, h.okFromConn, fun _ => h.resFromConn (.inl hold), fun hq => absurd hq hd⟩

/-- a request without a connection: an answer other than success, or a new destination -/
theorem Task2.noConn {s : St} {T : Task} (h : Task2 s T) (hc : T.conn = none) (pc' : PC) (r : Option Res) (d : Nat)
    (hr : r = T.res ∨ r ≠ some .ok) : Task2 s { T with pc := pc', res := r, dest := d } := by
  refine ⟨fun c hc' => ?_, fun hr' => ?_, fun _ c r' hc' => ?_, fun _ c r' hc' => ?_⟩
  · rw [hc] at hc'; cases hc'
  · rcases hr with rfl | hr
    · obtain ⟨c, hc', _⟩ := h.okFromConn hr'; rw [hc] at hc'; cases hc'
    · exact absurd hr' hr
  · rw [hc] at hc'; cases hc'
  · rw [hc] at hc'; cases hc'

/-- after the caller's context is cancelled, the connection of a request that failed is closed: a login / transition
    handler still installed closes it; otherwise a result other than success means it is closed already -/
theorem cancel_closed {cfg : Cfg} {s s1 : St} {T : Task} {c : Nat} {r : Res} (hwc : cfg.watcherCloses = true)
    (hJ : jpOK (s.conns c)) (hcc : CancelClose cfg s T s1) (hc : T.conn = some c)
    (hrr : (s.conns c).result = some r ∨ (s.conns c).phase = .closed) (hne : r ≠ .ok) :
    (s1.conns c).phase = .closed := by
  rcases hcc with ⟨rfl, hkeep⟩ | ⟨c', hc', hcond, rfl⟩
  · rcases hrr with hr | hp
    · rcases hJ.failed r hr hne with hp | hp | hp
      · exact absurd (.inl hp) (hkeep c hc)
      · exact absurd (.inr ⟨hp, hwc⟩) (hkeep c hc)
      · exact hp
    · exact hp
  · rw [hc] at hc'; cases hc'
    exact closeConn_phase_self s c (by rcases hcond with h | ⟨h, _⟩ <;> rw [h] <;> decide)

theorem stepTask_task2 {cfg : Cfg} {s s' : St} {i : Nat} (hwc : cfg.watcherCloses = true) (hJP : JP s)
    (h1 : Task1 s (s.tasks i)) (h2 : Task2 s (s.tasks i)) (hNK : isKickPc (s.tasks i).pc = false)
    (h : stepTask cfg s i = some s') : Task2 s' (s'.tasks i) := by
  obtain ⟨hi, T', hb⟩ := stepTask_inv h
  rw [hb.tasks.2, upd_same]
  -- the old record is still consistent with the new state; what remains is the change of the record
  have h2' := h2.le h1 (stepTask_le h)
  have hnone : earlyPc (s.tasks i).pc = true → (s.tasks i).conn = none := h1.earlyNoConn
  cases hb with
  | created _ => exact h2'.quiet .check1 rfl (by decide)
  | answered r hpc hck =>
    refine h2'.noConn (hnone (by rcases hpc with h | h | h <;> rw [h] <;> rfl)) .post _ _ (.inr fun hr => ?_)
    cases hr; exact checkServer_ne_ok s _ hck
  | checked pc' hpc _ => rcases hpc with ⟨_, rfl⟩ | ⟨_, rfl⟩ <;> exact h2'.quiet _ rfl (by decide)
  | allowed _ => exact h2'.quiet .check2 rfl (by decide)
  | denied hpc => exact h2'.noConn (hnone (by rw [hpc]; rfl)) .post _ _ (.inr (by decide))
  | redirected d hpc => exact h2'.noConn (hnone (by rw [hpc]; rfl)) .check2 _ d (.inl rfl)
  | published hpc _ =>
    have hc := hnone (by rw [hpc]; rfl)
    refine ⟨fun c hc' => ?_, fun hr => ?_, fun hq => ?_, fun hq => (by cases hq)⟩
    · cases hc'; show (upd s.conns s.nconns _ s.nconns).server = _; rw [upd_same]
    · obtain ⟨c, hc', _⟩ := h2.okFromConn hr; rw [hc] at hc'; cases hc'
    · rcases hq with hq | hq <;> cases hq
  | dialRefused c rest _ hconn _ =>
    refine ⟨h2'.connDest, fun hr => (by cases hr), fun _ c' r hc' hr => ?_, fun hq => (by cases hq)⟩
    rw [hconn] at hc'; cases hc'
    right; show (upd s.conns c _ c).phase = _; rw [upd_same]
  | dialed c b st rest _ _ _ => exact h2'.quiet .wait rfl (by decide)
  | waited c r _ hconn hres =>
    refine ⟨h2'.connDest, fun hr => ⟨c, hconn, ?_⟩, fun _ c' r' hc' hr' => ?_, fun hq => (by cases hq)⟩
    · cases hr; exact hres
    · rw [hconn] at hc'; cases hc'; cases hr'; exact .inl hres
  | deferReset hpc => exact h2'.past .post (by rw [hpc]; rfl) (by decide)
  | post s1 hpc _ => exact h2'.past .cancel (by rw [hpc]; rfl) (by decide)
  | cancelKick s1 _ _ _ => exact h2'.quiet (.err2 _) rfl (by simp)
  | cancelDone s1 hpc hcc =>
    refine ⟨h2'.connDest, h2'.okFromConn, fun _ => h2'.resFromConn (.inl (by rw [hpc]; rfl)), fun _ c r hc hr hne => ?_⟩
    exact cancel_closed (s1 := s1) hwc (hJP c (h1.connInRange c hc)) hcc hc
      (h2.resFromConn (.inl (by rw [hpc]; rfl)) c r hc hr) hne
  | cancelQuit s1 hpc hcc _ =>
    refine ⟨h2'.connDest, h2'.okFromConn, fun _ => h2'.resFromConn (.inl (by rw [hpc]; rfl)), fun _ c r hc hr hne => ?_⟩
    exact (connLe_quitPlayer s1 c).closed
      (cancel_closed (s1 := s1) hwc (hJP c (h1.connInRange c hc)) hcc hc
        (h2.resFromConn (.inl (by rw [hpc]; rfl)) c r hc hr) hne)
  | kick hk _ => rw [hNK] at hk; cases hk

def AllTask2 (s : St) : Prop := ∀ i, i < s.ntasks → Task2 s (s.tasks i)

theorem step_allTask2 {cfg : Cfg} {s s' : St} {a : Act} (hwc : cfg.watcherCloses = true) (hJP : JP s) (hT1 : AllTask1 s)
    (hT2 : AllTask2 s) (hNK : NoKick s) (h : step cfg s a = some s') : AllTask2 s' :=
  step_tasks h (fun j hj => (hT2 j hj).le (hT1 j hj) (step_le hwc h))
    (fun i hi hs => stepTask_task2 hwc hJP (hT1 i hi) (hT2 i hi) (hNK i hi) hs)
    fun T h1 h2 _ => ⟨fun c hc => (by rw [h1] at hc; cases hc), fun hr => (by rw [h2] at hr; cases hr),
      fun _ c r hc => (by rw [h1] at hc; cases hc), fun _ c r hc => (by rw [h1] at hc; cases hc)⟩

/-- a closed connection stays closed -/
theorem step_closed_stable {cfg : Cfg} {s s' : St} {a : Act} (hwc : cfg.watcherCloses = true)
    (h : step cfg s a = some s') (c : Nat) (hc : c < s.nconns) (hp : (s.conns c).phase = .closed) :
    (s'.conns c).phase = .closed :=
  ((step_le hwc h).conn c hc).closed hp

/-- what holds along every schedule under `G2`; its part `Inv1` needs `G1` only -/
structure Inv2 (s : St) : Prop where
  i1 : Inv1 s
  c2 : Core2 s
  nk : NoKick s
  act : s.active = true
  t2 : AllTask2 s

theorem reach2_inv2 {cfg : Cfg} (hr : Repaired cfg) {s : St} (h : Reach cfg G2 s) : Inv2 s := by
  induction h with
  | init hi =>
    exact ⟨inv1_init _ hi.1 hi.2.1, core2_init _ hi.1 hi.2.2.2.1 hi.2.2.2.2.1, fun i hi' => by have := hi.2.1; omega,
      hi.2.2.2.2.2, fun i hi' => by have := hi.2.1; omega⟩
  | @step s s' a _ hg hs ih =>
    have hg1 : Guard1 s a := guard1_of_noKick ih.nk a (fun i hi => by subst hi; exact (stepTask_inv hs).1)
    exact ⟨inv1_step hr.1 hr.2.1 hr.2.2.2 ih.i1 hg1 hs,
      core2_step hr.2.2.1 hr.2.2.2 ih.i1 ih.c2 hg.2.1 ih.nk hg.1 hg.2.2 hs, hg.1, hg.2.1,
      step_allTask2 hr.2.2.2 ih.i1.jp ih.i1.t1 ih.t2 ih.nk hs⟩

theorem scanTry_sound (skip : Nat → Bool) : ∀ (l : List Nat) (i j x : Nat),
    scanTry skip l i = some (j, x) → x ∈ l ∧ skip x = false := by
  intro l
  induction l with
  | nil => intro i j x h; simp [scanTry] at h
  | cons y ys ih =>
    intro i j x h
    simp only [scanTry] at h
    split at h
    · obtain ⟨h1, h2⟩ := ih _ _ _ h; exact ⟨List.mem_cons_of_mem _ h1, h2⟩
    · rename_i hsk; simp at h; obtain ⟨_, rfl⟩ := h; exact ⟨List.mem_cons_self, by simpa using hsk⟩

end Gate.C16
