import GateModel.C16.L2
/-
C16 — invariants, part 3: the switch-over invariants `Core2` (current server, exactly one live backend, player lists),
for the repaired code, while the player stays connected and the kick path is not entered: steps outside the
switch-over sections by `core2_benign`, the sections themselves by `core2_section`.
-/
namespace Gate.C16

/-- the read loop is inside one of the switch-over sections of handleJoinGame / doSwitch -/
def swA : H → Bool
  | .j1b | .j3 | .j4 | .sw1 | .sw2 | .sw3 => true
  | _ => false

/-- … and one that carries switch-over structure (`jold`, a cleared current server) -/
def swH : H → Bool
  | .j1b | .j3 | .j4 | .sw2 | .sw3 => true
  | _ => false

theorem swA_of_swH {h : H} (hs : swH h = true) : swA h = true := by cases h <;> simp_all [swH, swA]

theorem swH_eq_false {h : H} (hs : swA h = false) : swH h = false :=
  Bool.eq_false_iff.mpr fun h1 => by rw [swA_of_swH h1] at hs; cases hs

theorem swA_eq_false {h : H} (h1 : ¬swH h = true) (h2 : h ≠ .sw1) : swA h = false := by
  cases h <;> simp_all [swH, swA]

/-- the kick path is not entered -/
def NoKick (s : St) : Prop := ∀ i, i < s.ntasks → isKickPc (s.tasks i).pc = false

/-- what the invariants ask of the record `C` of a connection inside a switch-over section -/
structure SwConn (s : St) (C : Conn) : Prop where
  sectionPhase : ((C.h = .j1b ∨ C.h = .j3) → C.phase = .transition ∧ C.result = none) ∧
    (C.h = .j4 → C.phase = .play ∧ C.result = none ∧ C.completedJoin = true) ∧
    ((C.h = .sw1 ∨ C.h = .sw2 ∨ C.h = .sw3) → C.phase = .config ∧ C.result = none)
  joldPlayOrClosed : (C.h = .j1b ∨ C.h = .sw2 ∨ C.h = .sw3) →
    ∀ o, C.jold = some o → o < s.nconns ∧ ((s.conns o).phase = .play ∨ (s.conns o).phase = .closed)
  sw2Current : C.h = .sw2 → s.current = none ∨ s.current = C.jold
  curCleared : (C.h = .j1b ∨ C.h = .j3 ∨ C.h = .j4 ∨ C.h = .sw3) → s.current = none

/-- it asks nothing of a record outside the switch-over sections -/
theorem swConn_outside {s : St} {C : Conn} (h : swA C.h = false) : SwConn s C := by
  constructor <;> cases hh : C.h <;> simp_all [swA]

/-- The switch-over invariants: at most one backend connection is in play (`onePlay`), the player lists name exactly
    the servers of the connections in play (`playersExact`), the current server is in play and has joined
    (`curInPlay`).  `playAccounted` is what makes them inductive: a connection in play that is not the current server
    is accounted for by the switch-over in progress, being either the one that is just installed (`j4`) or the
    previous connection `jold` that a read loop in `j1b` / `sw3` is about to close. -/
structure Core2 (s : St) : Prop where
  sw : ∀ d, d < s.nconns → SwConn s (s.conns d)
  onePlay : ∀ c c', c < s.nconns → c' < s.nconns →
    (s.conns c).phase = .play → (s.conns c').phase = .play → c = c'
  playersExact : ∀ sv, sv ∈ s.players ↔ ∃ c, c < s.nconns ∧ (s.conns c).phase = .play ∧ (s.conns c).server = sv
  curInPlay : ∀ c, s.current = some c → c < s.nconns ∧ (s.conns c).phase = .play ∧ (s.conns c).completedJoin = true
  playAccounted : ∀ c, c < s.nconns → (s.conns c).phase = .play →
    s.current = some c ∨ (s.conns c).h = .j4 ∨
    ∃ d, d < s.nconns ∧ (s.conns d).jold = some c ∧ ((s.conns d).h = .j1b ∨ (s.conns d).h = .sw3)

/-- a connection inside a switch-over section is an attempt in flight -/
theorem core2_sw_attempting {s : St} (hC : Core2 s) (d : Nat) (hd : d < s.nconns) (hs : swA (s.conns d).h = true) :
    attempting (s.conns d) = true := by
  have := (hC.sw d hd).sectionPhase
  cases hh : (s.conns d).h <;> simp_all [swA, attempting]

/-- `d` is the only connection that may be inside a switch-over section -/
def Sole (s : St) (d : Nat) : Prop := ∀ e, e < s.nconns → e ≠ d → swA (s.conns e).h = false

/-- an attempt in flight owns the in-flight slot, so it is the only one -/
theorem sole_of_attempting {s : St} (hC : Core2 s) (hA : AttemptOwnsSlot s) {d : Nat} (hd : d < s.nconns)
    (hatt : attempting (s.conns d) = true) : Sole s d := by
  intro e he hed
  cases hs : swA (s.conns e).h with
  | false => rfl
  | true =>
    have h1 := hA e he (core2_sw_attempting hC e he hs)
    rw [hA d hd hatt] at h1
    injection h1 with h1
    exact absurd h1.symm hed

theorem sole_of_sw {s : St} (hC : Core2 s) (hA : AttemptOwnsSlot s) {d : Nat} (hd : d < s.nconns)
    (hs : swA (s.conns d).h = true) : Sole s d :=
  sole_of_attempting hC hA hd (core2_sw_attempting hC d hd hs)

theorem Sole.eq {s : St} {d e : Nat} (h : Sole s d) (he : e < s.nconns) (hs : swA (s.conns e).h = true) : e = d :=
  Decidable.byContradiction fun hed => by rw [h e he hed] at hs; cases hs

/-- then a connection in play is the current server, or `d` itself being installed, or the one `d` is about to close -/
theorem Core2.playAccounted_sole {s : St} {d : Nat} (hC : Core2 s) (hs : Sole s d) (c : Nat) (hc : c < s.nconns)
    (hp : (s.conns c).phase = .play) :
    s.current = some c ∨ (c = d ∧ (s.conns d).h = .j4) ∨
      ((s.conns d).jold = some c ∧ ((s.conns d).h = .j1b ∨ (s.conns d).h = .sw3)) := by
  rcases hC.playAccounted c hc hp with h | h | ⟨e, he, hj, hh⟩
  · exact .inl h
  · have := hs.eq hc (by rw [h]; rfl)
    subst this; exact .inr (.inl ⟨rfl, h⟩)
  · have := hs.eq he (by rcases hh with h | h <;> rw [h] <;> rfl)
    subst this; exact .inr (.inr ⟨hj, hh⟩)

/-- unless `d` is in one of these three sections, every connection in play is the current server -/
theorem Core2.playAccounted_cur {s : St} {d : Nat} (hC : Core2 s) (hs : Sole s d)
    (hh : (s.conns d).h ≠ .j4 ∧ (s.conns d).h ≠ .j1b ∧ (s.conns d).h ≠ .sw3) (c : Nat) (hc : c < s.nconns)
    (hp : (s.conns c).phase = .play) : s.current = some c := by
  rcases hC.playAccounted_sole hs c hc hp with h | ⟨_, h⟩ | ⟨_, h | h⟩
  · exact h
  · exact absurd h hh.1
  · exact absurd h hh.2.1
  · exact absurd h hh.2.2

/-- a change of one connection record that does not concern the switch-over structure -/
structure BenignConn (C C' : Conn) : Prop where
  same : (swH C.h = true ∨ swH C'.h = true) → C' = C
  server : C'.server = C.server
  completedJoin : C'.completedJoin = C.completedJoin
  play : C'.phase = .play ↔ C.phase = .play
  closed : C.phase = .closed → C'.phase = .closed
  sw1 : C'.h = .sw1 → C' = C ∨ (C'.phase = .config ∧ C'.result = none)

theorem benignConn_refl (C : Conn) : BenignConn C C := ⟨fun _ => rfl, rfl, rfl, Iff.rfl, id, fun _ => Or.inl rfl⟩

/-- a record outside the switch-over sections that keeps server and `completedJoin` and neither enters nor leaves
    play -/
theorem benignConn_own {C C' : Conn} (h1 : swH C.h = false) (h2 : swH C'.h = false)
    (hsv : C'.server = C.server) (hcj : C'.completedJoin = C.completedJoin)
    (hp : C'.phase = C.phase ∨ (C.phase ≠ .play ∧ C.phase ≠ .closed ∧ C'.phase ≠ .play))
    (hsw1 : C'.h = .sw1 → C'.phase = .config ∧ C'.result = none) : BenignConn C C' := by
  refine ⟨fun hs => ?_, hsv, hcj, ?_, ?_, fun h => .inr (hsw1 h)⟩
  · rcases hs with hs | hs
    · rw [h1] at hs; cases hs
    · rw [h2] at hs; cases hs
  · rcases hp with hp | ⟨hp1, _, hp3⟩
    · rw [hp]
    · exact ⟨fun h => absurd h hp3, fun h => absurd h hp1⟩
  · rcases hp with hp | ⟨_, hp2, _⟩
    · rw [hp]; exact id
    · exact fun h => absurd h hp2

/-- a step that does not concern the switch-over structure -/
structure BenignStep (s s' : St) : Prop where
  cur : s'.current = s.current
  players : s'.players = s.players
  le : s.nconns ≤ s'.nconns
  old : ∀ c, c < s.nconns → BenignConn (s.conns c) (s'.conns c)
  new : ∀ c, s.nconns ≤ c → c < s'.nconns → (s'.conns c).phase = .dialing ∧ (s'.conns c).h = .idle

theorem core2_benign {s s' : St} (hC : Core2 s) (hB : BenignStep s s') : Core2 s' := by
  have hold := hB.old
  have hnew := hB.new
  have hle := hB.le
  -- facts about a connection of s'
  have hsw : ∀ d, d < s'.nconns → swH (s'.conns d).h = true → d < s.nconns ∧ s'.conns d = s.conns d := by
    intro d hd hs
    by_cases hlt : d < s.nconns
    · exact ⟨hlt, (hold d hlt).same (Or.inr hs)⟩
    · have := (hnew d (by omega) hd).2; rw [this] at hs; simp [swH] at hs
  have hplay : ∀ c, c < s'.nconns → (s'.conns c).phase = .play → c < s.nconns ∧ (s.conns c).phase = .play := by
    intro c hc hp
    by_cases hlt : c < s.nconns
    · exact ⟨hlt, (hold c hlt).play.mp hp⟩
    · have := (hnew c (by omega) hc).1; rw [this] at hp; simp at hp
  refine ⟨fun d hd => ?_, ?_, ?_, ?_, ?_⟩
  · by_cases hs : swH (s'.conns d).h = true
    · obtain ⟨hlt, he⟩ := hsw d hd hs
      have hsd := hC.sw d hlt
      rw [he]
      refine ⟨hsd.sectionPhase, fun hh o ho => ?_, fun hh => by rw [hB.cur]; exact hsd.sw2Current hh,
        fun hh => by rw [hB.cur]; exact hsd.curCleared hh⟩
      obtain ⟨ho1, ho2⟩ := hsd.joldPlayOrClosed hh o ho
      exact ⟨by omega, ho2.imp (hold o ho1).play.mpr (hold o ho1).closed⟩
    · by_cases h1 : (s'.conns d).h = .sw1
      · refine ⟨?_, by simp [h1], by simp [h1], by simp [h1]⟩
        by_cases hlt : d < s.nconns
        · rcases (hold d hlt).sw1 h1 with he | he
          · rw [he]; exact (hC.sw d hlt).sectionPhase
          · simp [h1, he]
        · have := (hnew d (by omega) hd).2; simp [this] at h1
      · exact swConn_outside (swA_eq_false hs h1)
  · intro c c' hc hc' hp hp'
    obtain ⟨h1, h2⟩ := hplay c hc hp
    obtain ⟨h1', h2'⟩ := hplay c' hc' hp'
    exact hC.onePlay c c' h1 h1' h2 h2'
  · intro sv
    rw [hB.players, hC.playersExact sv]
    constructor
    · rintro ⟨c, hc, hp, hsv⟩
      exact ⟨c, by omega, (hold c hc).play.mpr hp, by rw [(hold c hc).server]; exact hsv⟩
    · rintro ⟨c, hc, hp, hsv⟩
      obtain ⟨h1, h2⟩ := hplay c hc hp
      exact ⟨c, h1, h2, by rw [← (hold c h1).server]; exact hsv⟩
  · intro c hcur
    rw [hB.cur] at hcur
    obtain ⟨h1, h2, h3⟩ := hC.curInPlay c hcur
    exact ⟨by omega, (hold c h1).play.mpr h2, by rw [(hold c h1).completedJoin]; exact h3⟩
  · intro c hc hp
    obtain ⟨h1, h2⟩ := hplay c hc hp
    rcases hC.playAccounted c h1 h2 with h | h | ⟨d, hd, hj, hh⟩
    · left; rw [hB.cur]; exact h
    · right; left
      rw [(hold c h1).same (Or.inl (by rw [h]; rfl))]; exact h
    · right; right
      have he := (hold d hd).same (Or.inl (by rcases hh with h | h <;> rw [h] <;> rfl))
      exact ⟨d, by omega, by rw [he]; exact hj, by rw [he]; exact hh⟩

theorem closeConn_players_not_play (s : St) (o : Nat) (h : (s.conns o).phase ≠ .play) :
    (closeConn s o).players = s.players := by
  cases hp : (s.conns o).phase <;> simp_all [closeConn]

theorem closeConn_benign (s : St) (o c : Nat) (h1 : (s.conns o).phase ≠ .play) (h2 : swA (s.conns o).h = false) :
    BenignConn (s.conns c) ((closeConn s o).conns c) := by
  rcases closeConn_conns_cases s o c with ⟨_, h⟩ | ⟨hp, hco, h⟩ | ⟨hp, hco, h⟩
  · rw [h]; exact benignConn_refl _
  · subst hco; exact absurd hp h1
  · subst hco
    rw [h]
    have h3 := swH_eq_false h2
    exact benignConn_own h3 h3 rfl rfl
      (.inr ⟨h1, by rcases hp with hp | hp | hp <;> rw [hp] <;> decide, fun h => by cases h⟩)
      fun h => by rw [show (s.conns c).h = .sw1 from h] at h2; cases h2

theorem closeConn_benignStep (s : St) (o : Nat) (h1 : (s.conns o).phase ≠ .play) (h2 : swA (s.conns o).h = false) :
    BenignStep s (closeConn s o) :=
  ⟨by simp, closeConn_players_not_play s o h1, by simp, fun c _ => closeConn_benign s o c h1 h2,
   fun c h1 h2 => by simp at h2; omega⟩

theorem benignStep_refl (s : St) : BenignStep s s :=
  ⟨rfl, rfl, Nat.le_refl _, fun c _ => benignConn_refl _, fun c h1 h2 => by omega⟩

/-- task bookkeeping does not matter for `BenignStep` -/
theorem benignStep_of_eq {s s' t : St} (hB : BenignStep s t) (h1 : s'.current = t.current) (h2 : s'.players = t.players)
    (h3 : s'.nconns = t.nconns) (h4 : s'.conns = t.conns) : BenignStep s s' :=
  ⟨by rw [h1]; exact hB.cur, by rw [h2]; exact hB.players, by rw [h3]; exact hB.le,
   fun c hc => by rw [h4]; exact hB.old c hc, fun c hc hc' => by rw [h4]; rw [h3] at hc'; exact hB.new c hc hc'⟩

/-- a benign update of the record of `c` alone -/
theorem benignStep_own {s s' : St} {c : Nat} {C' : Conn} (hn : s'.nconns = s.nconns)
    (hc : s'.conns = upd s.conns c C') (hcur : s'.current = s.current) (hpl : s'.players = s.players)
    (h : BenignConn (s.conns c) C') : BenignStep s s' := by
  refine ⟨hcur, hpl, by omega, fun e _ => ?_, fun e h1 h2 => by omega⟩
  rw [hc, upd_apply]
  split
  · rename_i he; rw [he]; exact h
  · exact benignConn_refl _

theorem stepTask_benign {cfg : Cfg} {s s' : St} {i : Nat} (hJP : JP s) (hT : AllTask1 s) (hC : Core2 s)
    (hact' : s'.active = true) (hNK : NoKick s) (hNK' : NoKick s')
    (h : stepTask cfg s i = some s') : BenignStep s s' := by
  obtain ⟨hi, T', hb⟩ := stepTask_inv h
  -- a dialing connection: its read loop is idle, and it comes no nearer to play than login
  have hdial : ∀ (c : Nat) (p' : Phase) (b : Beh) (st : Bool), (s.tasks i).conn = some c → (s.conns c).phase = .dialing → p' ≠ .play →
      ∀ t : St, t.nconns = s.nconns → t.conns = upd s.conns c { s.conns c with phase := p', beh := b, stalled := st } →
      t.current = s.current → t.players = s.players → BenignStep s t := fun c p' b st hc hp hp' t h1 h2 h3 h4 => by
    have hidle := ((hJP c ((hT i hi).connInRange c hc)).dialing hp).1
    have hsw : swH (s.conns c).h = false := by rw [hidle]; rfl
    exact benignStep_own h1 h2 h3 h4 (benignConn_own hsw hsw rfl rfl
      (.inr ⟨by rw [hp]; decide, by rw [hp]; decide, hp'⟩) fun h => absurd (hidle.symm.trans h) (by decide))
  cases hb with
  | published _ _ =>
    refine ⟨rfl, rfl, Nat.le_succ _, fun c hc => ?_, fun c h1 h2 => ?_⟩
    · show BenignConn _ (upd s.conns s.nconns _ c)
      rw [upd_other _ _ _ _ (by omega)]; exact benignConn_refl _
    · have : c = s.nconns := by have : c < s.nconns + 1 := h2; omega
      rw [this]
      show (upd s.conns s.nconns _ s.nconns).phase = _ ∧ (upd s.conns s.nconns _ s.nconns).h = _
      rw [upd_same]; exact ⟨rfl, rfl⟩
  | dialRefused c rest _ hc hp => exact hdial c _ _ _ hc hp (by decide) _ rfl rfl rfl rfl
  | dialed c b st rest _ hc hp => exact hdial c _ _ _ hc hp (by decide) _ rfl rfl rfl rfl
  | post s1 _ hs1 => rcases hs1 with rfl | ⟨_, rfl⟩ <;> exact benignStep_of_eq (benignStep_refl _) rfl rfl rfl rfl
  | cancelDone s1 hpc hcc =>
    -- `cancel` closes a connection that is no attempt any more, so outside every switch-over section
    rcases hcc with ⟨rfl, _⟩ | ⟨c, hc, hcond, rfl⟩
    · exact benignStep_of_eq (benignStep_refl _) rfl rfl rfl rfl
    · have hsw : swA (s.conns c).h = false := by
        cases hs : swA (s.conns c).h with
        | false => rfl
        | true =>
          have := core2_sw_attempting hC c ((hT i hi).connInRange c hc) hs
          rw [(hT i hi).pastNotAttempting (by rw [hpc]; rfl) c hc] at this; cases this
      exact benignStep_of_eq (closeConn_benignStep s c (by rcases hcond with h | ⟨h, _⟩ <;> rw [h] <;> decide) hsw)
        rfl rfl rfl rfl
  | cancelKick s1 _ hcc _ =>
    obtain ⟨_, _, rfl⟩ := hcc.frame
    have := hNK' i hi
    simp [setPc_tasks, isKickPc] at this
  | cancelQuit s1 _ _ _ => rw [setPc_active, quitPlayer_active] at hact'; cases hact'
  | kick hk _ => rw [hNK i hi] at hk; cases hk
  | _ => exact benignStep_of_eq (benignStep_refl s) rfl rfl rfl rfl

/-- one section of the read loop of `d`, the only connection that may be inside a switch-over section: its record
    becomes `C'`, with phase, server and `completedJoin` as before, and the player lists stay.  What is left to show
    concerns `C'` and the new current server only. -/
theorem core2_section {s s' : St} {d : Nat} {C' : Conn} (hC : Core2 s) (hd : d < s.nconns) (hsole : Sole s d)
    (hn : s'.nconns = s.nconns) (hcs : ∀ e, s'.conns e = if e = d then C' else s.conns e)
    (hph : C'.phase = (s.conns d).phase) (hsv : C'.server = (s.conns d).server)
    (hcj : C'.completedJoin = (s.conns d).completedJoin) (hpl : s'.players = s.players)
    (hsw : SwConn { s with current := s'.current } C')
    (curInPlay : ∀ c, s'.current = some c →
      c < s.nconns ∧ (s.conns c).phase = .play ∧ (s.conns c).completedJoin = true)
    (playAccounted : ∀ c, c < s.nconns → (s.conns c).phase = .play →
      s'.current = some c ∨ (c = d ∧ C'.h = .j4) ∨ (C'.jold = some c ∧ (C'.h = .j1b ∨ C'.h = .sw3))) :
    Core2 s' := by
  -- phase, server and `completedJoin` are as before everywhere
  have ⟨hph', hsv', hcj'⟩ : (∀ e, (s'.conns e).phase = (s.conns e).phase) ∧
      (∀ e, (s'.conns e).server = (s.conns e).server) ∧
      ∀ e, (s'.conns e).completedJoin = (s.conns e).completedJoin := by
    refine ⟨fun e => ?_, fun e => ?_, fun e => ?_⟩ <;> rw [hcs e] <;> split <;>
      first | rfl | (rename_i h; subst h; assumption)
  have hdd : s'.conns d = C' := by rw [hcs d, if_pos rfl]
  refine ⟨fun e he => ?_, ?_, ?_, ?_, ?_⟩
  · rw [hn] at he
    by_cases hed : e = d
    · rw [hed, hdd]
      exact ⟨hsw.sectionPhase, fun hh o ho => by rw [hn, hph']; exact hsw.joldPlayOrClosed hh o ho, hsw.sw2Current,
        hsw.curCleared⟩
    · exact swConn_outside (by rw [hcs e, if_neg hed]; exact hsole e he hed)
  · intro c c' hc hc' hp hp'
    rw [hn] at hc hc'; rw [hph'] at hp hp'
    exact hC.onePlay c c' hc hc' hp hp'
  · intro sv
    rw [hpl, hC.playersExact sv, hn]; simp only [hph', hsv']
  · intro c hc
    rw [hn, hph', hcj']; exact curInPlay c hc
  · intro c hc hp
    rw [hn] at hc ⊢; rw [hph'] at hp
    rcases playAccounted c hc hp with h | ⟨h1, h2⟩ | ⟨h1, h2⟩
    · exact .inl h
    · right; left; rw [h1, hdd]; exact h2
    · right; right; exact ⟨d, hd, by rw [hdd]; exact h1, by rw [hdd]; exact h2⟩

/-- sw1 → sw2 : `existingConn := player.connectedServer()` found a current server -/
theorem core2_sw1 {s s' : St} {d o : Nat} (hC : Core2 s) (hA : AttemptOwnsSlot s) (hd : d < s.nconns)
    (hh : (s.conns d).h = .sw1) (hco : s.current = some o)
    (hn : s'.nconns = s.nconns)
    (hcs : ∀ e, s'.conns e = if e = d then { s.conns d with h := .sw2, jold := some o } else s.conns e)
    (hcur : s'.current = s.current) (hpl : s'.players = s.players) : Core2 s' := by
  have hsole := sole_of_sw hC hA hd (by rw [hh]; rfl)
  obtain ⟨ho, hpo, _⟩ := hC.curInPlay o hco
  refine core2_section hC hd hsole hn hcs rfl rfl rfl hpl ⟨?_, ?_, ?_, ?_⟩
    (fun c hc => hC.curInPlay c (hcur.symm.trans hc)) fun c hc hp => ?_
  · exact ⟨fun h => by simp at h, fun h => by simp at h, fun _ => (hC.sw d hd).sectionPhase.2.2 (.inl hh)⟩
  · intro _ o' ho'
    obtain rfl : o = o' := Option.some.inj ho'
    exact ⟨ho, .inl hpo⟩
  · intro _; right; rw [hcur]; exact hco
  · intro h; simp at h
  · left; rw [hcur]; exact hC.playAccounted_cur hsole (by rw [hh]; decide) c hc hp

/-- sw2 → sw3 : `player.setConnectedServer(nil)` in doSwitch -/
theorem core2_sw2 {s s' : St} {d : Nat} (hC : Core2 s) (hA : AttemptOwnsSlot s) (hd : d < s.nconns)
    (hh : (s.conns d).h = .sw2) (hn : s'.nconns = s.nconns)
    (hcs : ∀ e, s'.conns e = if e = d then { s.conns d with h := .sw3 } else s.conns e)
    (hcur : s'.current = none) (hpl : s'.players = s.players) : Core2 s' := by
  have hsole := sole_of_sw hC hA hd (by rw [hh]; rfl)
  have hsw := hC.sw d hd
  refine core2_section hC hd hsole hn hcs rfl rfl rfl hpl ⟨?_, ?_, fun h => by simp at h, fun _ => hcur⟩
    (fun c hc => by rw [hcur] at hc; cases hc) fun c hc hp => ?_
  · exact ⟨fun h => by simp at h, fun h => by simp at h, fun _ => hsw.sectionPhase.2.2 (.inr (.inl hh))⟩
  · exact fun _ => hsw.joldPlayOrClosed (.inr (.inl hh))
  · -- c is the current server: it is the connection doSwitch is about to close
    have h := hC.playAccounted_cur hsole (by rw [hh]; decide) c hc hp
    rcases hsw.sw2Current hh with h2 | h2
    · rw [h2] at h; cases h
    · exact .inr (.inr ⟨h2.symm.trans h, .inr rfl⟩)

/-- the JoinGame section 1: lock; existingConn := connectedServer_; connectedServer_ = nil; unlock -/
theorem core2_j1 {s s' : St} {d : Nat} (hC : Core2 s) (hA : AttemptOwnsSlot s) (hd : d < s.nconns)
    (hh : (s.conns d).h = .idle) (hpd : (s.conns d).phase = .transition) (hrd : (s.conns d).result = none)
    (hn : s'.nconns = s.nconns)
    (hcs : ∀ e, s'.conns e = if e = d then
      { s.conns d with h := (if s.current.isSome then .j1b else .j3), jold := s.current } else s.conns e)
    (hcur : s'.current = none) (hpl : s'.players = s.players) : Core2 s' := by
  have hsole := sole_of_attempting hC hA hd (by simp [attempting, hpd, hrd])
  refine core2_section hC hd hsole hn hcs rfl rfl rfl hpl ⟨?_, ?_, ?_, fun _ => hcur⟩
    (fun c hc => by rw [hcur] at hc; cases hc) fun c hc hp => ?_
  · cases hc : s.current <;> simp [hpd, hrd]
  · intro _ o ho
    obtain ⟨h1, h2, _⟩ := hC.curInPlay o ho
    exact ⟨h1, .inl h2⟩
  · intro h; cases hc : s.current <;> simp [hc] at h
  · have h := hC.playAccounted_cur hsole (by rw [hh]; decide) c hc hp
    exact .inr (.inr ⟨h, .inl (by simp [h])⟩)

/-- nothing in play, no current server, empty lists: only the records inside switch-over sections matter -/
theorem core2_noplay {s : St} (hsw : ∀ d, d < s.nconns → SwConn s (s.conns d))
    (hnp : ∀ c, c < s.nconns → (s.conns c).phase ≠ .play) (hpl : ∀ sv, sv ∉ s.players) (hcur : s.current = none) :
    Core2 s :=
  ⟨hsw, fun c _ hc _ hp _ => absurd hp (hnp c hc),
   fun sv => ⟨fun h => absurd h (hpl sv), fun ⟨c, hc, hp, _⟩ => absurd hp (hnp c hc)⟩,
   fun c hc => (by rw [hcur] at hc; cases hc), fun c hc hp => absurd hp (hnp c hc)⟩

/-- closing the previous connection (`existingConn.disconnect()`) while `d` is in j1b / sw3: afterwards no
    connection is in play -/
theorem core2_closeJold {s : St} {d : Nat} (hC : Core2 s) (hA : AttemptOwnsSlot s) (hd : d < s.nconns)
    (hh : (s.conns d).h = .j1b ∨ (s.conns d).h = .sw3) :
    Core2 (closeOpt s (s.conns d).jold) ∧
    ∀ c, c < s.nconns → ((closeOpt s (s.conns d).jold).conns c).phase ≠ .play := by
  have hsole := sole_of_sw hC hA hd (by rcases hh with h | h <;> rw [h] <;> rfl)
  have hcurn := (hC.sw d hd).curCleared (by rcases hh with h | h <;> simp [h])
  have hjtd := (hC.sw d hd).sectionPhase
  -- the only connection that can be in play is the one `d` is about to close
  have hplay : ∀ c, c < s.nconns → (s.conns c).phase = .play → (s.conns d).jold = some c := by
    intro c hc hp
    rcases hC.playAccounted_sole hsole c hc hp with h | ⟨_, h⟩ | ⟨h, _⟩
    · rw [hcurn] at h; cases h
    · rcases hh with h2 | h2 <;> (rw [h] at h2; cases h2)
    · exact h
  cases hj : (s.conns d).jold with
  | none =>
    refine ⟨by simpa [closeOpt] using hC, ?_⟩
    intro c hc hp
    simp only [closeOpt] at hp
    have := hplay c hc hp; rw [hj] at this; simp at this
  | some o =>
    simp only [closeOpt]
    obtain ⟨ho, hpo⟩ := (hC.sw d hd).joldPlayOrClosed (by rcases hh with h | h <;> simp [h]) o hj
    have hod : o ≠ d := by
      intro h; subst h
      have hpd : (s.conns o).phase = .transition ∨ (s.conns o).phase = .config := by
        rcases hh with h | h
        · exact .inl (hjtd.1 (.inl h)).1
        · exact .inr (hjtd.2.2 (.inr (.inr h))).1
      rcases hpd with h1 | h1 <;> rcases hpo with h2 | h2 <;> (rw [h1] at h2; cases h2)
    have hplayo : ∀ c, c < s.nconns → (s.conns c).phase = .play → c = o := by
      intro c hc hp
      have := hplay c hc hp; rw [hj] at this; injection this with this; exact this.symm
    have hoc := closeConn_phase_self s o (by rcases hpo with h | h <;> rw [h] <;> decide)
    have hclosed : ∀ c, c < s.nconns → ((closeConn s o).conns c).phase ≠ .play := by
      intro c hc hp
      by_cases hco : c = o
      · rw [hco, hoc] at hp; cases hp
      · rw [closeConn_conns_other s o c hco] at hp; exact hco (hplayo c hc hp)
    have hpl : ∀ sv, sv ∉ (closeConn s o).players := by
      intro sv hsv
      have hsv' : sv ∈ s.players ∧ ((s.conns o).phase = .play → sv ≠ (s.conns o).server) := by
        rcases hpo with hp | hp <;> simp [closeConn, hp] at hsv ⊢
        · exact hsv
        · exact hsv
      obtain ⟨c, hc, hp, hs⟩ := (hC.playersExact sv).mp hsv'.1
      have := hplayo c hc hp; subst this
      exact hsv'.2 hp hs.symm
    have hcurn' : (closeConn s o).current = none := by rw [closeConn_current]; exact hcurn
    refine ⟨core2_noplay (fun e he => ?_) (fun c hc => hclosed c (by simpa using hc)) hpl hcurn', hclosed⟩
    · simp only [closeConn_nconns] at he
      by_cases hed : e = d
      · -- the record of `d` is as before, and the connection it is about to close is closed now
        rw [hed, closeConn_conns_other s o d hod.symm]
        refine ⟨hjtd, fun _ o' ho' => ?_, fun _ => .inl hcurn', fun _ => hcurn'⟩
        rw [hj] at ho'; cases ho'
        exact ⟨by rw [closeConn_nconns]; exact ho, .inr hoc⟩
      · exact swConn_outside (by rw [closeConn_h]; exact hsole e he hed)

theorem attemptOwnsSlot_closeOpt {s : St} (hJP : JP s) (hA : AttemptOwnsSlot s) (o : Option Nat) :
    AttemptOwnsSlot (closeOpt s o) :=
  attemptOwnsSlot_le hJP hA (stLe_closeOpt s o) (by simp) (by simp)

/-- leaving j1b (→ j3) or sw3 (→ idle) after the previous connection has been closed -/
theorem core2_after_close {s s' : St} {d : Nat} {hNew : H} (hC : Core2 s) (hA : AttemptOwnsSlot s) (hd : d < s.nconns)
    (hh : ((s.conns d).h = .j1b ∧ hNew = .j3) ∨ ((s.conns d).h = .sw3 ∧ hNew = .idle))
    (hnoplay : ∀ c, c < s.nconns → (s.conns c).phase ≠ .play)
    (hn : s'.nconns = s.nconns)
    (hcs : ∀ e, s'.conns e = if e = d then { s.conns d with h := hNew } else s.conns e)
    (hcur : s'.current = s.current) (hpl : s'.players = s.players) : Core2 s' := by
  have hsole := sole_of_sw hC hA hd (by rcases hh with ⟨h, _⟩ | ⟨h, _⟩ <;> rw [h] <;> rfl)
  have hcurn : s'.current = none :=
    hcur.trans ((hC.sw d hd).curCleared (by rcases hh with ⟨h, _⟩ | ⟨h, _⟩ <;> simp [h]))
  refine core2_section hC hd hsole hn hcs rfl rfl rfl hpl ?_ (fun c hc => by rw [hcurn] at hc; cases hc)
    fun c hc hp => absurd hp (hnoplay c hc)
  rcases hh with ⟨h1, rfl⟩ | ⟨_, rfl⟩
  · exact ⟨⟨fun _ => (hC.sw d hd).sectionPhase.1 (.inl h1), fun h => by simp at h, fun h => by simp at h⟩,
      fun h => by simp at h, fun h => by simp at h, fun _ => hcurn⟩
  · exact swConn_outside rfl

/-- j3 → j4 : completeJoin; SetActiveSessionHandler(play) → Activated → players.add -/
theorem core2_j3 {s s' : St} {d : Nat} (hC : Core2 s) (hA : AttemptOwnsSlot s) (hd : d < s.nconns)
    (hh : (s.conns d).h = .j3) (hn : s'.nconns = s.nconns)
    (hcs : ∀ e, s'.conns e = if e = d then
      { s.conns d with h := .j4, completedJoin := true, phase := .play } else s.conns e)
    (hcur : s'.current = s.current) (hpl : s'.players = addPlayer s.players (s.conns d).server) : Core2 s' := by
  have hsole := sole_of_sw hC hA hd (by rw [hh]; rfl)
  have hcurn : s'.current = none := hcur.trans ((hC.sw d hd).curCleared (by simp [hh]))
  have hjt := (hC.sw d hd).sectionPhase.1 (.inr hh)
  -- while `d` is in j3 the current server is cleared and the previous connection closed: nothing is in play
  have hnoplay : ∀ c, c < s.nconns → (s.conns c).phase ≠ .play := by
    intro c hc hp
    have h := hC.playAccounted_cur hsole (by rw [hh]; decide) c hc hp
    rw [hcur.symm.trans hcurn] at h; cases h
  have hempty : ∀ sv, sv ∉ s.players := by
    intro sv hsv
    obtain ⟨c, hc, hp, _⟩ := (hC.playersExact sv).mp hsv
    exact hnoplay c hc hp
  have hdd : s'.conns d = { s.conns d with h := .j4, completedJoin := true, phase := .play } := by
    rw [hcs d, if_pos rfl]
  have hplay' : ∀ c, c < s.nconns → (s'.conns c).phase = .play → c = d := by
    intro c hc hp
    refine Decidable.byContradiction fun hcd => hnoplay c hc ?_
    rw [hcs c, if_neg hcd] at hp; exact hp
  refine ⟨fun e he => ?_, ?_, ?_, ?_, ?_⟩
  · rw [hn] at he
    by_cases hed : e = d
    · rw [hed, hdd]
      exact ⟨⟨fun h => by simp at h, fun _ => ⟨rfl, hjt.2, rfl⟩, fun h => by simp at h⟩,
        fun h => by simp at h, fun h => by simp at h, fun _ => hcurn⟩
    · exact swConn_outside (by rw [hcs e, if_neg hed]; exact hsole e he hed)
  · intro c c' hc hc' hp hp'; rw [hn] at hc hc'
    rw [hplay' c hc hp, hplay' c' hc' hp']
  · intro sv; rw [hpl, hn]
    have hmem : sv ∈ addPlayer s.players (s.conns d).server ↔ sv = (s.conns d).server := by
      unfold addPlayer
      split
      · rename_i h; simp at h; exact absurd h (hempty _)
      · simp [hempty sv]
    rw [hmem]
    constructor
    · intro h; exact ⟨d, hd, by rw [hdd], by rw [hdd]; exact h.symm⟩
    · rintro ⟨c, hc, hp, hs⟩
      rw [hplay' c hc hp, hdd] at hs; exact hs.symm
  · intro c hc; rw [hcurn] at hc; cases hc
  · intro c hc hp; rw [hn] at hc
    rw [hplay' c hc hp, hdd]; exact .inr (.inl rfl)

/-- j4 → j5 : `player.setConnectedServer(serverConn)` -/
theorem core2_j4 {s s' : St} {d : Nat} (hC : Core2 s) (hA : AttemptOwnsSlot s) (hd : d < s.nconns)
    (hh : (s.conns d).h = .j4) (hn : s'.nconns = s.nconns)
    (hcs : ∀ e, s'.conns e = if e = d then { s.conns d with h := .j5 } else s.conns e)
    (hcur : s'.current = some d) (hpl : s'.players = s.players) : Core2 s' := by
  have hjt := (hC.sw d hd).sectionPhase.2.1 hh
  refine core2_section hC hd (sole_of_sw hC hA hd (by rw [hh]; rfl)) hn hcs rfl rfl rfl hpl (swConn_outside rfl)
    (fun c hc => ?_) fun c hc hp => .inl ?_
  · rw [hcur] at hc; cases hc; exact ⟨hd, hjt.1, hjt.2.2⟩
  · rw [hcur, hC.onePlay c d hc hd hp hjt.1]

theorem benignConn_trans {C C' C'' : Conn} (h1 : BenignConn C C') (h2 : BenignConn C' C'') : BenignConn C C'' := by
  obtain ⟨a1, a2, a3, a4, a5, a6⟩ := h1
  obtain ⟨b1, b2, b3, b4, b5, b6⟩ := h2
  refine ⟨?_, by rw [b2, a2], by rw [b3, a3], b4.trans a4, fun h => b5 (a5 h), ?_⟩
  · intro hs
    rcases hs with hs | hs
    · have e1 := a1 (Or.inl hs); subst e1; exact b1 (Or.inl hs)
    · have e2 := b1 (Or.inr hs); subst e2; exact a1 (Or.inr hs)
  · intro hs
    rcases b6 hs with e | e
    · subst e; exact a6 hs
    · right; exact e

theorem benignStep_trans {s t u : St} (h1 : BenignStep s t) (h2 : BenignStep t u) (hn : t.nconns = s.nconns) :
    BenignStep s u :=
  ⟨by rw [h2.cur, h1.cur], by rw [h2.players, h1.players], by have := h2.le; omega,
   fun c hc => benignConn_trans (h1.old c hc) (h2.old c (by omega)),
   fun c hc hc' => h2.new c (by omega) hc'⟩

theorem benignStep_setH (s : St) (c : Nat) (h' : H) (h1 : swH (s.conns c).h = false) (h2 : swH h' = false)
    (h3 : h' ≠ .sw1) : BenignStep s (setH s c h') :=
  benignStep_own rfl rfl rfl rfl (benignConn_own h1 h2 rfl rfl (.inl rfl) fun h => absurd h h3)

theorem stepBack_core2 {cfg : Cfg} {s s' : St} {c : Nat} (hjs : cfg.joinBySnapshot = false) (hI : Inv1 s)
    (hC : Core2 s) (hNK' : NoKick s') (h : stepBack cfg s c = some s') : Core2 s' := by
  have hJP := hI.jp
  have hA := hI.ownsSlot
  obtain ⟨hd, hb⟩ := stepBack_inv h
  have hJ := hJP c hd
  -- closing one's own connection outside the switch-over sections, then moving the handler position
  have hclose : ∀ h', swA (s.conns c).h = false → (s.conns c).phase ≠ .play → swH h' = false → h' ≠ .sw1 →
      Core2 (setH (closeConn s c) c h') := fun h' hsw hnp h1 h2 =>
    core2_benign hC (benignStep_trans (closeConn_benignStep s c hnp hsw)
      (benignStep_setH _ c h' (by rw [closeConn_h]; exact swH_eq_false hsw) h1 h2) (by simp))
  cases hb with
  | closeSelf hh =>
    refine hclose _ (by rw [hh]; rfl) ?_ rfl (by decide)
    rcases hJ.closeSelf hh with h | h | h <;> rw [h] <;> decide
  | cfgKick2 hh _ => exact core2_benign hC (benignStep_setH s c .idle (by rw [hh]; rfl) rfl (by decide))
  | cfgKick2Spawn hh _ =>
    have := hNK' s.ntasks (by simp)
    simp [spawnTask_tasks, isKickPc] at this
  | sw1None hh _ =>
    exact core2_benign hC (benignStep_of_eq (benignStep_setH s c .idle (by rw [hh]; rfl) rfl (by decide)) rfl rfl rfl rfl)
  | sw1 o hh hco => exact core2_sw1 hC hA hd hh hco rfl (fun e => rfl) rfl rfl
  | sw2 hh => exact core2_sw2 hC hA hd hh rfl (fun e => rfl) rfl rfl
  | sw3 hh =>
    obtain ⟨h1, h2⟩ := core2_closeJold hC hA hd (.inr hh)
    exact core2_after_close (hNew := .idle) h1 (attemptOwnsSlot_closeOpt hJP hA _) (by simpa using hd)
      (.inr ⟨by simpa using hh, rfl⟩) (by simpa using h2) rfl (fun e => by rw [setH_conns]) rfl rfl
  | j1b hh =>
    obtain ⟨h1, h2⟩ := core2_closeJold hC hA hd (.inl hh)
    exact core2_after_close (hNew := .j3) h1 (attemptOwnsSlot_closeOpt hJP hA _) (by simpa using hd)
      (.inl ⟨by simpa using hh, rfl⟩) (by simpa using h2) rfl (fun e => by rw [setH_conns]) rfl rfl
  | j3 hh =>
    have hpt := ((hC.sw c hd).sectionPhase.1 (.inr hh)).1
    exact core2_j3 hC hA hd hh rfl (fun e => by simp [upd_apply, hpt]) rfl rfl
  | j4 hh => exact core2_j4 hC hA hd hh rfl (fun e => rfl) rfl rfl
  | j5 hh | kicked hh _ _ | enc hh _ _ =>
    exact core2_benign hC (benignStep_own rfl rfl rfl rfl
      (benignConn_own (by rw [hh]; rfl) rfl rfl rfl (.inl rfl) (by simp)))
  | eof hh _ hp =>
    refine core2_benign hC (closeConn_benignStep s c ?_ (by rw [hh]; rfl))
    rcases hp with h | h | h <;> rw [h] <;> decide
  | loginModern hh _ hp hbeh =>
    have hr := hJ.pending (.inl hp) hh hbeh
    refine core2_benign hC (benignStep_own rfl rfl rfl rfl
      (benignConn_own (by rw [hh]; rfl) ?_ rfl rfl (.inr ?_) (fun _ => ⟨rfl, hr⟩)))
    · dsimp only; split <;> rfl
    · rw [hp]; exact ⟨by decide, by decide, by simp⟩
  | loginLegacy hh _ hp _ | configDone hh _ hp _ =>
    refine core2_benign hC (benignStep_own rfl rfl rfl rfl
      (benignConn_own (by rw [hh]; rfl) rfl rfl rfl (.inr ?_) (by simp)))
    rw [hp]; exact ⟨by decide, by decide, by simp⟩
  | cfgKick hh _ hp => exact hclose _ (by rw [hh]; rfl) (by rw [hp]; decide) rfl (by decide)
  | joinNone hh _ hp hbeh hcur =>
    have hcur : s.current = none := hcur.resolve_left (by rw [hjs]; decide)
    exact core2_j1 hC hA hd hh hp (hJ.pending (.inr (.inr hp)) hh (by rw [hbeh]; decide)) rfl
      (fun e => by simp [upd_apply, hcur]) hcur rfl
  | joinSome o hh _ hp hbeh hcur =>
    exact core2_j1 hC hA hd hh hp (hJ.pending (.inr (.inr hp)) hh (by rw [hbeh]; decide)) rfl
      (fun e => by simp [upd_apply, hcur]) rfl rfl

/-- every step of the repaired code that stays out of the kick path and keeps the player connected preserves the
    switch-over invariants -/
theorem core2_step {cfg : Cfg} {s s' : St} {a : Act} (hjs : cfg.joinBySnapshot = false)
    (hwc : cfg.watcherCloses = true) (hI : Inv1 s) (hC : Core2 s)
    (hact' : s'.active = true) (hNK : NoKick s) (hNK' : NoKick s')
    (hgw : ∀ c, a = .watch c → swA (s.conns c).h = false) (h : step cfg s a = some s') : Core2 s' := by
  rcases step_inv h with ⟨i, rfl, h⟩ | ⟨c, rfl, h⟩ | he
  · exact core2_benign hC (stepTask_benign hI.jp hI.t1 hC hact' hNK hNK' h)
  · exact stepBack_core2 hjs hI hC hNK' h
  cases he with
  | release c hc hst =>
    have hidle : (s.conns c).h = .idle := (hI.jp c hc).stalled hst
    have hsw : swH (s.conns c).h = false := by rw [hidle]; rfl
    exact core2_benign hC (benignStep_own rfl rfl rfl rfl
      (benignConn_own hsw hsw rfl rfl (.inl rfl) fun h => absurd (hidle.symm.trans h) (by decide)))
  | watchClose c hp =>
    exact core2_benign hC
      (closeConn_benignStep s c (by rcases hp with h | ⟨h, _⟩ <;> rw [h] <;> decide) (hgw c rfl))
  | watchFail c hw => rw [hwc] at hw; cases hw
  | lost a c _ _ _ _ =>
    have := hNK' s.ntasks (by simp)
    simp [spawnTask_tasks, isKickPc] at this
  | quit => rw [quitPlayer_active] at hact'; cases hact'
  | _ => exact core2_benign hC (benignStep_of_eq (benignStep_refl s) rfl rfl rfl rfl)

theorem core2_init (s : St) (h0 : s.nconns = 0) (h1 : s.current = none) (h2 : s.players = []) : Core2 s :=
  core2_noplay (fun d hd => by omega) (fun c hc => by omega) (fun sv => by rw [h2]; simp) h1

end Gate.C16
