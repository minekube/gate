import GateModel.C43.Model
/-
C43 — `run_shape` lists the four traces a connection can produce; the counting theorems read their answer off
that list.  Registry invariants: one step, then every history.
-/
namespace Gate.C43
open Gate

def isResponse : Out → Bool
  | .response .. => true
  | _ => false
def isEcho : Out → Bool
  | .echo _ => true
  | _ => false

theorem step_closed (e : Env) (s : St) (h : s.closed = true) (f : Frame) : step e s f = (s, []) := by
  simp [step, h]

theorem run_closed (e : Env) (s : St) (h : s.closed = true) (fs : List Frame) : run e s fs = [] := by
  induction fs generalizing s with
  | nil => rfl
  | cons f fs ih => simp [run, step_closed e s h, ih s h]

theorem finalSt_closed (e : Env) (s : St) (h : s.closed = true) (fs : List Frame) :
    (finalSt e s fs).closed = true := by
  induction fs generalizing s with
  | nil => exact h
  | cons f fs ih => simp [finalSt, step_closed e s h, ih s h]

theorem run_cons_closing {e : Env} {s : St} {f : Frame} {out : List Out} (h : step e s f = (closeSt s, out))
    (fs : List Frame) : run e s (f :: fs) = out ∧ (finalSt e s (f :: fs)).closed = true :=
  ⟨by simp [run, h, run_closed e (closeSt s) rfl], by simp [finalSt, h, finalSt_closed e (closeSt s) rfl]⟩

/-- what a frame does to an open connection: nothing is sent and it stays open (an empty frame), it is closed
    silently, the first request is answered, or a ping is echoed and the connection closed -/
theorem step_cases (e : Env) (s : St) (f : Frame) (ho : s.closed = false) :
    (∃ s', step e s f = (s', []) ∧ s'.closed = false ∧ s'.receivedRequest = s.receivedRequest) ∨
    (step e s f = (closeSt s, [])) ∨
    (s.receivedRequest = false ∧
      step e s f = ({ s with receivedRequest := true, empties := 0 }, [.response (e.adv e.proto) e.online e.showMax])) ∨
    (∃ pl, step e s f = (closeSt s, [.echo pl])) := by
  cases f with
  | empty =>
    by_cases h : s.empties > 10
    · right; left; simp [step, ho, h]
    · left; exact ⟨{ s with empties := s.empties + 1 }, by simp [step, ho, h], ho, rfl⟩
  | malformed => right; left; simp [step, ho]
  | unknown => right; left; simp [step, ho]
  | request =>
    cases hr : s.receivedRequest
    · right; right; left; exact ⟨rfl, by simp [step, ho, hr]⟩
    · right; left; simp [step, ho, hr]
  | ping pl => right; right; right; exact ⟨pl, by simp [step, ho]⟩

theorem run_shape (e : Env) (fs : List Frame) (s : St) :
    run e s fs = [] ∨ (∃ pl, run e s fs = [.echo pl]) ∨
    (s.receivedRequest = false ∧ (run e s fs = [.response (e.adv e.proto) e.online e.showMax] ∨
      ∃ pl, run e s fs = [.response (e.adv e.proto) e.online e.showMax, .echo pl])) := by
  induction fs generalizing s with
  | nil => left; rfl
  | cons f fs ih =>
    cases hc : s.closed
    · rcases step_cases e s f hc with ⟨s', h1, _, h3⟩ | h1 | ⟨h0, h1⟩ | ⟨pl, h1⟩
      · simp only [run, h1, List.nil_append]
        rcases ih s' with h | h | ⟨hr, h⟩
        · left; exact h
        · right; left; exact h
        · right; right; exact ⟨h3 ▸ hr, h⟩
      · left; exact (run_cons_closing h1 fs).1
      · right; right; refine ⟨h0, ?_⟩
        simp only [run, h1, List.cons_append, List.nil_append]
        rcases ih { s with receivedRequest := true, empties := 0 } with h | ⟨pl, h⟩ | ⟨hr, _⟩
        · left; rw [h]
        · right; exact ⟨pl, by rw [h]⟩
        · cases hr
      · right; left; exact ⟨pl, (run_cons_closing h1 fs).1⟩
    · left; exact run_closed e s hc (f :: fs)

theorem no_response_after_request (e : Env) (fs : List Frame) (s : St) (hr : s.receivedRequest = true) :
    (run e s fs).countP isResponse = 0 := by
  rcases run_shape e fs s with h | ⟨pl, h⟩ | ⟨h0, _⟩
  · simp [h]
  · simp [h, isResponse]
  · rw [hr] at h0
    cases h0

theorem echoes_le_one (e : Env) (fs : List Frame) (s : St) : (run e s fs).countP isEcho ≤ 1 := by
  rcases run_shape e fs s with h | ⟨pl, h⟩ | ⟨_, h | ⟨pl, h⟩⟩ <;> simp [h, isEcho]

/-- nobody in `l` shares `c`'s key (UUID or name): filtering the key out removes nothing -/
theorem filter_ne_of_not_any {κ : Type} [BEq κ] (key : Nat → κ) {l : List Nat} {c : Nat}
    (h : l.any (fun d => key d == key c) = false) : l.filter (fun d => key d != key c) = l := by
  rw [List.filter_eq_self]
  intro d hd
  have := List.any_eq_false.mp h d hd
  simpa [bne] using this

/-- without kicking, a registration is refused or appends `c` to all three lists: nobody shares its name or
    UUID, so the two `put`s replace nothing -/
theorem register_nokick (a : Attrs) (r : Registry) (c : Nat) :
    register a false r c = r ∨
    register a false r c = { ids := r.ids ++ [c], names := r.names ++ [c], live := r.live ++ [c] } := by
  simp only [register, Bool.false_eq_true, if_false]
  split
  · exact .inl rfl
  · rename_i hc
    simp only [Bool.or_eq_true, not_or, Bool.not_eq_true] at hc
    right
    rw [filter_ne_of_not_any a.nameOf hc.1, filter_ne_of_not_any a.idOf hc.2]

theorem regStep_ids_live (a : Attrs) (kick : Bool) (r : Registry) (op : RegOp) (h : r.ids = r.live) :
    (regStep a kick r op).ids = (regStep a kick r op).live := by
  cases op with
  | unreg c => simp [regStep, unregister, h]
  | reg c =>
    cases kick
    · rcases register_nokick a r c with h1 | h1 <;> simp [regStep, h1, h]
    · simp only [regStep, register, if_true]
      split <;> simp [unregister, h]

theorem regRun_ids_live (a : Attrs) (kick : Bool) (ops : List RegOp) (r : Registry) (h : r.ids = r.live) :
    (regRun a kick r ops).ids = (regRun a kick r ops).live := by
  induction ops generalizing r with
  | nil => exact h
  | cons op ops ih => exact ih _ (regStep_ids_live a kick r op h)

theorem regStep_names_ids_nokick (a : Attrs) (r : Registry) (op : RegOp) (h : r.names = r.ids) :
    (regStep a false r op).names = (regStep a false r op).ids := by
  cases op with
  | unreg c => simp [regStep, unregister, h]
  | reg c => rcases register_nokick a r c with h1 | h1 <;> simp [regStep, h1, h]

theorem regRun_names_ids_nokick (a : Attrs) (ops : List RegOp) (r : Registry) (h : r.names = r.ids) :
    (regRun a false r ops).names = (regRun a false r ops).ids := by
  induction ops generalizing r with
  | nil => exact h
  | cons op ops ih => exact ih _ (regStep_names_ids_nokick a r op h)

end Gate.C43
