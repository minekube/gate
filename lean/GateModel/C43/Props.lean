import GateModel.C43.Lemmas
/-
C43 — Server list pings get one well-formed response and an exact echo.

`run e s fs` is the list of packets the proxy sends while the status-phase frames `fs`
arrive on a connection in state `s` (`{}` = fresh status handler), for a client whose handshake carried protocol
`e.proto`, while `e.online` players are online.  All theorems hold for every frame sequence, every protocol number
(any `Int`) and every player count; none is bounded.
-/
namespace Gate.C43.Props
open Gate Gate.C43 Gate.Gen.C43

/-- whatever the client sends, at most one status response is ever written -/
theorem one_response (e : Env) (s : St) (fs : List Frame) : (run e s fs).countP isResponse ≤ 1 := by
  rcases run_shape e fs s with h | ⟨pl, h⟩ | ⟨_, h | ⟨pl, h⟩⟩ <;> simp [h, List.countP_cons, isResponse]

/-- a status request arriving on an open connection that has not been answered yet is answered, with the
    advertised protocol and the current player count -/
theorem request_answered (e : Env) (s : St) (ho : s.closed = false) (hr : s.receivedRequest = false) :
    (step e s .request).2 = [.response (e.adv e.proto) e.online e.showMax] ∧ (step e s .request).1.closed = false := by
  simp [step, ho, hr]

/-- up to 11 empty frames before the request do not change that -/
theorem request_answered_after_empties (e : Env) (n : Nat) (hn : n ≤ 11) (rest : List Frame) :
    ∃ tail, run e {} (List.replicate n .empty ++ .request :: rest) =
      .response (e.adv e.proto) e.online e.showMax :: tail := by
  suffices h : ∀ k m, k + m ≤ 11 → ∃ tail, run e { empties := m } (List.replicate k .empty ++ .request :: rest) =
      .response (e.adv e.proto) e.online e.showMax :: tail from by simpa using h n 0 (by omega)
  intro k
  induction k with
  | zero => intro m _; exact ⟨run e { receivedRequest := true } rest, by simp [run, step]⟩
  | succ k ih =>
    intro m hm
    obtain ⟨tail, ht⟩ := ih (m + 1) (by omega)
    refine ⟨tail, ?_⟩
    have : ¬ m > 10 := by omega
    simp [List.replicate_succ, run, step, this, ht]

/-- the advertised protocol is the client's when the proxy supports it and the proxy's newest otherwise
    (unknown, legacy, negative numbers alike) -/
theorem advertised_protocol (p : Int) :
    (p ∈ supported → advertised p = p) ∧ (p ∉ supported → advertised p = maxVersion) := by
  constructor
  · intro h; simp [advertised, h]
  · intro h; simp [advertised, h]

theorem max_is_newest : maxVersion ∈ supported ∧ ∀ q ∈ supported, q ≤ maxVersion := by decide +kernel

/-- the count in the response is the online player count handed to the handler (`Proxy.PlayerCount()`) -/
theorem online_eq_player_count (e : Env) (s : St) (fs : List Frame) (o : Out) (ho : o ∈ run e s fs)
    (hr : isResponse o = true) : o = .response (e.adv e.proto) e.online e.showMax := by
  rcases run_shape e fs s with h | ⟨pl, h⟩ | ⟨_, h | ⟨pl, h⟩⟩ <;>
    simp only [h, List.mem_cons, List.not_mem_nil, or_false] at ho
  · subst ho
    cases hr
  · exact ho
  · rcases ho with rfl | rfl
    · rfl
    · cases hr

/-! ### `players.online` after every registry history

The `online` input of the status handler is `Proxy.PlayerCount()`, the size of the UUID index after the
register/unregister history so far.  For every history, in both registry modes, that is the number of players that
are online (registered and neither unregistered nor kicked since). -/

theorem online_eq_registered (a : Attrs) (kick : Bool) (ops : List RegOp) :
    playerCount (regRun a kick {} ops) = (regRun a kick {} ops).live.length := by
  unfold playerCount
  rw [regRun_ids_live a kick ops {} rfl]

/-- end to end in the model: after any registry history a first status request is answered with the number of
    online players -/
theorem status_online_follows_registry (a : Attrs) (kick : Bool) (ops : List RegOp) (p : Int) (m : Nat) :
    (step { proto := p, online := playerCount (regRun a kick {} ops), showMax := m } {} .request).2 =
      [.response (advertised p) (regRun a kick {} ops).live.length m] := by
  simp [step, online_eq_registered]

/-- outside kick mode the name index has the same size (so counting it is harmless there) … -/
theorem count_by_names_ok_without_kick (a : Attrs) (ops : List RegOp) :
    playerCountByNames (regRun a false {} ops) = (regRun a false {} ops).live.length := by
  unfold playerCountByNames
  rw [regRun_names_ids_nokick a ops {} rfl, regRun_ids_live a false ops {} rfl]

/-- … but in kick mode it is wrong: two online players with different UUIDs and the same lower-cased name are
    counted as 1, and as 0 after the later one left while 1 is still online -/
theorem count_by_names_fails :
    let a : Attrs := { nameOf := fun _ => "x", idOf := fun c => c }
    playerCountByNames (regRun a true {} [.reg 0, .reg 1]) = 1 ∧ (regRun a true {} [.reg 0, .reg 1]).live.length = 2 ∧
    playerCountByNames (regRun a true {} [.reg 0, .reg 1, .unreg 1]) = 0 ∧
      (regRun a true {} [.reg 0, .reg 1, .unreg 1]).live.length = 1 := by decide +kernel

/-- the ping is echoed byte for byte, then the connection is closed -/
theorem echo_identical_then_close (e : Env) (s : St) (ho : s.closed = false) (payload : Bytes) (fs : List Frame) :
    run e s (.ping payload :: fs) = [.echo payload] ∧ (finalSt e s (.ping payload :: fs)).closed = true :=
  run_cons_closing (by simp [step, ho]) fs

/-- the echoed payload is the whole payload of the client's frame: packet id byte and all data bytes -/
theorem ping_payload_is_frame_payload (data : Bytes) (h : 8 ≤ data.length) :
    classify (some 1) data = .ping (1 :: data) := by
  simp [classify, h]

/-- anything else, or a repeated request, closes the connection without an answer -/
theorem other_or_repeated_closes (e : Env) (s : St) (ho : s.closed = false) (f : Frame)
    (hf : f = .unknown ∨ f = .malformed ∨ (f = .request ∧ s.receivedRequest = true)) (fs : List Frame) :
    run e s (f :: fs) = [] ∧ (finalSt e s (f :: fs)).closed = true := by
  apply run_cons_closing
  rcases hf with rfl | rfl | ⟨rfl, hr⟩
  · simp [step, ho]
  · simp [step, ho]
  · simp [step, ho, hr]

theorem closed_silent (e : Env) (s : St) (h : s.closed = true) (fs : List Frame) : run e s fs = [] :=
  run_closed e s h fs

/-- a truncated ping and an unregistered packet id are what `classify` turns into `malformed` / `unknown` -/
theorem classify_other (id : Int) (data : Bytes) :
    (id = 1 → data.length < 8 → classify (some id) data = .malformed) ∧
    (id ≠ 0 → id ≠ 1 → classify (some id) data = .unknown) := by
  constructor
  · intro h1 h2; subst h1
    have : ¬ 8 ≤ data.length := by omega
    simp [classify, this]
  · intro h0 h1
    simp [classify, h0, h1]

/-- every connection's output is: at most one response, then at most one echo, nothing else -/
theorem trace_shape (e : Env) (fs : List Frame) :
    run e {} fs = [] ∨ (∃ pl, run e {} fs = [.echo pl]) ∨
    run e {} fs = [.response (e.adv e.proto) e.online e.showMax] ∨
    ∃ pl, run e {} fs = [.response (e.adv e.proto) e.online e.showMax, .echo pl] := by
  rcases run_shape e fs {} with h | h | ⟨_, h | h⟩
  · exact .inl h
  · exact .inr (.inl h)
  · exact .inr (.inr (.inl h))
  · exact .inr (.inr (.inr h))

theorem next_state (n : Int) :
    (n = 1 → nextState n = .status) ∧ (n = 2 ∨ n = 3 → nextState n = .login) ∧
    (n ≠ 1 → n ≠ 2 → n ≠ 3 → nextState n = .close) := by
  refine ⟨?_, ?_, ?_⟩
  · intro h; subst h; decide
  · intro h; rcases h with h | h <;> subst h <;> decide
  · intro h1 h2 h3
    have e1 : statusState = 1 := by decide
    have e2 : loginState = 2 := by decide
    simp [nextState, e1, e2, h1, h2, h3]

/-- the pre-fix code (kept as `advertisedDefective`) violates the clause -/
theorem advertised_protocol_fails :
    (9999 : Int) ∉ supported ∧ advertisedDefective 9999 = minVersion ∧ advertisedDefective 9999 ≠ maxVersion := by
  decide +kernel

/-! ### source shape (facts regenerated from the Go source) -/
theorem status_dispatch : statusCases = ["*packet.StatusRequest", "*packet.StatusPing", "default"] := by decide +kernel
theorem ping_handler_shape : pingCalls.take 2 = ["defer:h.conn.Close", "h.conn.Write"] := by decide +kernel
theorem initial_ping_shape :
    initialPingCalls.take 2 = ["version.Protocol", "version.Protocol().Version"] ∧
      initialPingCalls.contains "p.PlayerCount" = true := by decide +kernel

example : (764 : Int) ∈ supported ∧ (9999 : Int) ∉ supported ∧ (-1 : Int) ∉ supported ∧ (-2 : Int) ∉ supported := by
  decide +kernel
example : run { proto := 9999, online := 3, showMax := 1000 } {} [.request, .request, .ping [1, 2]] =
    [.response 776 3 1000] := by decide +kernel
example : run { proto := 47, online := 0, showMax := 5 } {} [.empty, .request, .ping [1, 9, 9, 9, 9, 9, 9, 9, 9]] =
    [.response 47 0 5, .echo [1, 9, 9, 9, 9, 9, 9, 9, 9]] := by decide +kernel

end Gate.C43.Props
