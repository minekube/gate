import GateModel.C24.Model
/-
C24 helper lemmas: the bounded queue, and the invariant of the CONFIG-phase world under every
interleaving of its atomic actions, and of the PRE-JOIN world under every op sequence.
-/
namespace Gate.C24

def sumLen (l : List Msg) : Nat := (l.map (·.len)).sum

structure QInv (q : Q) : Prop where
  count : q.queue.length ≤ maxMsgs
  bytesEq : q.bytes = sumLen q.queue
  bytesLe : q.bytes ≤ maxBytes
  latch : q.overflowed = true → q.queue = []

theorem qinv_nil (o : Bool) : QInv ⟨[], 0, o⟩ := ⟨Nat.zero_le _, rfl, Nat.zero_le _, fun _ => rfl⟩

theorem qinv_init : QInv {} := qinv_nil _

theorem QInv.bounded {q : Q} (h : QInv q) :
    q.queue.length ≤ maxMsgs ∧ q.bytes = sumLen q.queue ∧ sumLen q.queue ≤ maxBytes :=
  ⟨h.count, h.bytesEq, h.bytesEq ▸ h.bytesLe⟩

/-- what `enqueue` does, by outcome -/
theorem enqueue_cases (q : Q) (m : Msg) :
    (q.overflowed = true ∧ q.enqueue m = (q, .latched)) ∨
    (q.overflowed = false ∧ (q.bytes + m.len > maxBytes ∨ q.queue.length + 1 > maxMsgs) ∧
      q.enqueue m = ({ queue := [], bytes := 0, overflowed := true }, .overflow)) ∨
    (q.overflowed = false ∧ q.bytes + m.len ≤ maxBytes ∧ q.queue.length + 1 ≤ maxMsgs ∧
      q.enqueue m = ({ q with queue := q.queue ++ [m], bytes := q.bytes + m.len }, .queued)) := by
  unfold Q.enqueue
  by_cases ho : q.overflowed = true
  · rw [if_pos ho]; exact .inl ⟨ho, rfl⟩
  · rw [if_neg ho]
    have ho' : q.overflowed = false := by simpa using ho
    by_cases hc : q.bytes + m.len > maxBytes ∨ q.queue.length + 1 > maxMsgs
    · simp only; rw [if_pos hc]; exact .inr (.inl ⟨ho', hc, rfl⟩)
    · simp only; rw [if_neg hc]
      have : q.bytes + m.len ≤ maxBytes ∧ q.queue.length + 1 ≤ maxMsgs := by omega
      exact .inr (.inr ⟨ho', this.1, this.2, rfl⟩)

theorem qinv_enqueue {q q' : Q} {m : Msg} {r : EnqRes} (h : QInv q) (he : q.enqueue m = (q', r)) : QInv q' := by
  rcases enqueue_cases q m with ⟨_, e⟩ | ⟨_, _, e⟩ | ⟨ho, hb, hc, e⟩ <;> cases e.symm.trans he
  · exact h
  · exact qinv_nil _
  · refine ⟨by simpa using hc, ?_, hb, ?_⟩
    · show q.bytes + m.len = sumLen (q.queue ++ [m])
      simp [sumLen, h.bytesEq]
    · intro hh; rw [ho] at hh; cases hh

theorem qinv_drain (q : Q) : QInv q.drain.1 := qinv_nil _

theorem drained_idx (s : Nat) (ms : List Msg) :
    ((ms.map fun m => (s, m)).reverse.map (·.2.idx)) = (ms.map (·.idx)).reverse := by
  rw [List.map_reverse, List.map_map]; rfl

theorem mem_drained {s : Nat} {ms : List Msg} {d : Nat × Msg} (h : d ∈ (ms.map fun m => (s, m)).reverse) :
    d.1 = s ∧ d.2 ∈ ms := by
  rw [List.mem_reverse, List.mem_map] at h
  obtain ⟨m, hm, rfl⟩ := h
  exact ⟨rfl, hm⟩

/-- a drained queue handed to backend `s` goes, newest first, in front of what was delivered before; the
    per-backend order survives if everything queued is newer than what `s` already has -/
theorem pairwise_drained {s : Nat} {ms : List Msg} {deliv : List (Nat × Msg)}
    (hs : ms.Pairwise (fun a b => a.idx < b.idx))
    (hd : deliv.Pairwise (fun x y => x.1 = y.1 → y.2.idx < x.2.idx))
    (hn : ∀ m ∈ ms, ∀ d ∈ deliv, s = d.1 → d.2.idx < m.idx) :
    ((ms.map fun m => (s, m)).reverse ++ deliv).Pairwise (fun x y => x.1 = y.1 → y.2.idx < x.2.idx) := by
  refine List.pairwise_append.mpr ⟨?_, hd, fun x hx y hy e => ?_⟩
  · rw [List.pairwise_reverse, List.pairwise_map]
    exact hs.imp (S := fun a b : Msg => (s, b).1 = (s, a).1 → (s, a).2.idx < (s, b).2.idx) fun hab _ => hab
  · obtain ⟨h1, h2⟩ := mem_drained hx
    exact hn _ h2 y hy (h1 ▸ e)

theorem forall_mem_snoc {α : Type} {p : α → Prop} {l : List α} {a : α} (hl : ∀ x ∈ l, p x) (ha : p a) :
    ∀ x ∈ l ++ [a], p x :=
  List.forall_mem_append.2 ⟨hl, List.forall_mem_singleton.2 ha⟩

theorem sorted_snoc {l : List Msg} {m : Msg} (hs : l.Pairwise (fun a b => a.idx < b.idx))
    (hm : ∀ a ∈ l, a.idx < m.idx) : (l ++ [m]).Pairwise (fun a b => a.idx < b.idx) :=
  List.pairwise_append.mpr ⟨hs, List.pairwise_singleton _ _, fun a ha _ hb => List.mem_singleton.mp hb ▸ hm a ha⟩

/-- counts that say "every index below `n` once" survive a rearrangement … -/
theorem count_move {l l' : List Nat} {n : Nat} (h : ∀ i, l.count i = if i < n then 1 else 0)
    (h' : ∀ i, l'.count i = l.count i) (i : Nat) : l'.count i = if i < n then 1 else 0 := by
  rw [h', h]

/-- … and adding the index `n` moves the bound to `n + 1` -/
theorem count_fresh {l l' : List Nat} {n : Nat} (h : ∀ i, l.count i = if i < n then 1 else 0)
    (h' : ∀ i, l'.count i = l.count i + if n == i then 1 else 0) (i : Nat) :
    l'.count i = if i < n + 1 then 1 else 0 := by
  rw [h', h]
  simp only [beq_iff_eq]
  split <;> split <;> split <;> omega

def CPc.msgs : CPc → List Msg
  | .idle => []
  | .got m => [m]
  | .direct m _ => [m]

/-- every place a handled message can be -/
def Cfg.all (c : Cfg) : List Nat :=
  (c.deliv.map (·.2.idx)) ++ (c.q.queue.map (·.idx)) ++ (c.dropped.map (·.idx)) ++ (c.lost.map (·.idx)) ++
    (c.pc.msgs.map (·.idx))

/-- the send index from which on nothing has been queued or delivered yet -/
def Cfg.hi (c : Cfg) : Nat := match c.pc with
  | .idle => c.next
  | .got m => m.idx
  | .direct m _ => m.idx

/-- Per-backend order rests on three fields.  `qNewer`: whatever is queued is newer than everything delivered to a
    backend other than the ready one, so a flush to a new backend keeps that backend's order.  `pend`: a direct write
    is pending only while its target is still the ready backend or the queue is empty, so it owes `qNewer` nothing.
    `notForReady`: nothing queued is addressed to the ready backend. -/
structure CInv (c : Cfg) : Prop where
  q : QInv c.q
  once : ∀ i, c.all.count i = if i < c.next then 1 else 0
  pcIdx : ∀ m ∈ c.pc.msgs, m.idx + 1 = c.next
  qSorted : c.q.queue.Pairwise (fun a b => a.idx < b.idx)
  qHi : ∀ m ∈ c.q.queue, m.idx < c.hi
  dHi : ∀ d ∈ c.deliv, d.2.idx < c.hi
  dOrder : c.deliv.Pairwise (fun x y => x.1 = y.1 → y.2.idx < x.2.idx)
  qNewer : ∀ m ∈ c.q.queue, ∀ d ∈ c.deliv, some d.1 ≠ c.ready → d.2.idx < m.idx
  pend : ∀ m t, c.pc = .direct m t → c.ready = some t ∨ c.q.queue = []
  notForReady : ∀ m ∈ c.q.queue, m.tgt = none ∨ m.tgt ≠ c.ready
  ovf : c.q.overflowed = true → c.disconnected = true
  lostD : c.lost ≠ [] → c.disconnected = true

theorem cinv_init : CInv {} where
  q := qinv_init
  once i := by simp [Cfg.all, CPc.msgs]
  pcIdx := nofun
  qSorted := .nil
  qHi := nofun
  dHi := nofun
  dOrder := .nil
  qNewer := nofun
  pend := nofun
  notForReady := nofun
  ovf := nofun
  lostD h := absurd rfl h

theorem cinv_recv {c : Cfg} (len : Nat) (h : CInv c) : CInv (cstep c (.recv len)).1 := by
  unfold cstep
  cases hpc : c.pc with
  | got m => simpa [hpc] using h
  | direct m t => simpa [hpc] using h
  | idle =>
    have hhi : c.hi = c.next := by simp [Cfg.hi, hpc]
    refine ⟨h.q, count_fresh h.once fun i => ?_, ?_, h.qSorted, hhi ▸ h.qHi, hhi ▸ h.dHi, h.dOrder, h.qNewer,
      nofun, h.notForReady, h.ovf, h.lostD⟩
    · simp only [Cfg.all, hpc, CPc.msgs, List.map_nil, List.append_nil, List.map_cons, List.count_append,
        List.count_cons, List.count_nil, Nat.zero_add]
    · intro m hm; rw [List.mem_singleton.mp hm]

theorem cinv_enq {c : Cfg} (h : CInv c) : CInv (cstep c .enq).1 := by
  unfold cstep
  cases hpc : c.pc with
  | idle => simpa [hpc] using h
  | direct m t => simpa [hpc] using h
  | got m =>
    simp only
    have hm1 : m.idx + 1 = c.next := h.pcIdx m (by simp [hpc, CPc.msgs])
    have hhi : c.hi = m.idx := by simp [Cfg.hi, hpc]
    have hq_lt : ∀ q ∈ c.q.queue, q.idx < m.idx := fun q hq => hhi ▸ h.qHi q hq
    have hd_lt : ∀ d ∈ c.deliv, d.2.idx < m.idx := fun d hd => hhi ▸ h.dHi d hd
    by_cases hr : m.tgt.isSome ∧ c.ready = m.tgt
    · rw [if_pos hr]
      cases ht : m.tgt with
      | none => rw [ht] at hr; simp at hr
      | some t =>
        simp only
        refine ⟨h.q, count_move h.once fun i => ?_, ?_, h.qSorted, hq_lt, hd_lt, h.dOrder, h.qNewer, ?_,
          h.notForReady, h.ovf, h.lostD⟩
        · simp [Cfg.all, hpc, CPc.msgs]
        · intro m' hm'; rw [List.mem_singleton.mp hm']; exact hm1
        · intro m' t' he; injection he with e1 e2; subst e2; left; rw [hr.2, ht]
    · rw [if_neg hr]
      have hq_hi : ∀ q ∈ c.q.queue, q.idx < c.next := fun q hq => by have := hq_lt q hq; omega
      have hd_hi : ∀ d ∈ c.deliv, d.2.idx < c.next := fun d hd => by have := hd_lt d hd; omega
      rcases enqueue_cases c.q m with ⟨ho, he⟩ | ⟨ho, _, he⟩ | ⟨ho, _, _, he⟩ <;> rw [he] <;> simp only
      · refine ⟨h.q, count_move h.once fun i => ?_, nofun, h.qSorted, hq_hi, hd_hi, h.dOrder, h.qNewer, nofun,
          h.notForReady, h.ovf, h.lostD⟩
        simp only [Cfg.all, hpc, CPc.msgs, List.map_nil, List.append_nil, List.map_cons, List.count_append,
          List.count_cons, List.count_nil]; omega
      · refine ⟨qinv_nil _, count_move h.once fun i => ?_, nofun, .nil, nofun, hd_hi, h.dOrder,
          nofun, nofun, nofun, fun _ => rfl, fun _ => rfl⟩
        simp only [Cfg.all, hpc, CPc.msgs, List.map_nil, List.append_nil, List.map_cons, List.map_append,
          List.map_reverse, List.count_append, List.count_cons, List.count_nil, List.count_reverse]; omega
      · refine ⟨qinv_enqueue h.q he, count_move h.once fun i => ?_, nofun, ?_, ?_, hd_hi, h.dOrder, ?_, nofun, ?_,
          fun hh => absurd (ho ▸ hh) Bool.false_ne_true, h.lostD⟩
        · simp only [Cfg.all, hpc, CPc.msgs, List.map_nil, List.append_nil, List.map_cons, List.map_append,
            List.count_append, List.count_cons, List.count_nil]; omega
        · exact sorted_snoc h.qSorted hq_lt
        · exact forall_mem_snoc hq_hi (Nat.lt_of_lt_of_eq (Nat.lt_succ_self _) hm1)
        · exact forall_mem_snoc h.qNewer fun d hd _ => hd_lt d hd
        · refine forall_mem_snoc h.notForReady ?_
          cases ht : m.tgt with
          | none => exact .inl rfl
          | some t => exact .inr fun e => hr (by rw [ht]; exact ⟨rfl, by rw [← e]⟩)

theorem cinv_direct {c : Cfg} (h : CInv c) : CInv (cstep c .direct).1 := by
  unfold cstep
  cases hpc : c.pc with
  | idle => simpa [hpc] using h
  | got m => simpa [hpc] using h
  | direct m t =>
    simp only
    have hm1 : m.idx + 1 = c.next := h.pcIdx m (by simp [hpc, CPc.msgs])
    have hhi : c.hi = m.idx := by simp [Cfg.hi, hpc]
    have hd_lt : ∀ d ∈ c.deliv, d.2.idx < m.idx := fun d hd => hhi ▸ h.dHi d hd
    have hq_hi : ∀ q ∈ c.q.queue, q.idx < c.next := fun q hq => by have := h.qHi q hq; omega
    have hd_hi : ∀ d ∈ c.deliv, d.2.idx < c.next := fun d hd => by have := hd_lt d hd; omega
    have hall : ∀ i, ((m.idx :: c.deliv.map (·.2.idx)) ++ c.q.queue.map (·.idx) ++ c.dropped.map (·.idx) ++
        c.lost.map (·.idx)).count i = c.all.count i := fun i => by
      simp only [Cfg.all, hpc, CPc.msgs, List.map_nil, List.map_cons, List.count_append, List.count_cons,
        List.count_nil]; omega
    by_cases hc : c.hasConn t = true
    · rw [if_pos hc]; simp only
      refine ⟨h.q, count_move h.once fun i => ?_, nofun, h.qSorted, hq_hi, ?_,
        List.pairwise_cons.mpr ⟨fun y hy _ => hd_lt y hy, h.dOrder⟩, ?_, nofun, h.notForReady, h.ovf, h.lostD⟩
      · rw [← hall i]; simp [Cfg.all, CPc.msgs]
      · exact List.forall_mem_cons.2 ⟨Nat.lt_of_lt_of_eq (Nat.lt_succ_self _) hm1, hd_hi⟩
      · intro q hq d hd hne
        rcases List.mem_cons.mp hd with hd | hd
        · rcases h.pend m t hpc with hr | he
          · rw [hd] at hne; exact absurd hr.symm hne
          · rw [he] at hq; cases hq
        · exact h.qNewer q hq d hd hne
    · rw [if_neg hc]; simp only
      refine ⟨h.q, count_move h.once fun i => ?_, nofun, h.qSorted, hq_hi, hd_hi, h.dOrder, h.qNewer, nofun,
        h.notForReady, h.ovf, h.lostD⟩
      rw [← hall i]
      simp only [Cfg.all, CPc.msgs, List.map_nil, List.append_nil, List.map_cons, List.count_append,
        List.count_cons]; omega

theorem cinv_flushSec {c : Cfg} (s : Nat) (h : CInv c) : CInv (cstep c (.flushSec s)).1 := by
  unfold cstep
  simp only
  by_cases hr : c.ready = some s
  · rw [if_pos hr]; exact h
  · rw [if_neg hr]
    simp only [Q.drain]
    refine ⟨qinv_nil _, count_move h.once fun i => ?_, h.pcIdx, .nil, nofun, ?_,
      pairwise_drained h.qSorted h.dOrder fun m hm d hd e => h.qNewer m hm d hd fun e' => hr (e ▸ e'.symm),
      nofun, fun _ _ _ => .inr rfl, nofun, h.ovf, h.lostD⟩
    · simp only [Cfg.all, List.map_append, drained_idx, List.map_nil, List.count_append, List.count_nil,
        List.count_reverse]
      omega
    · exact List.forall_mem_append.2 ⟨fun d hd => h.qHi _ (mem_drained hd).2, h.dHi⟩

theorem cinv_step {c : Cfg} (a : CAct) (h : CInv c) : CInv (cstep c a).1 := by
  cases a with
  | recv len => exact cinv_recv len h
  | enq => exact cinv_enq h
  | direct => exact cinv_direct h
  | flushSec s => exact cinv_flushSec s h
  | setCur _ | setInfl _ | setConn _ _ =>
    exact ⟨h.q, h.once, h.pcIdx, h.qSorted, h.qHi, h.dHi, h.dOrder, h.qNewer, h.pend, h.notForReady, h.ovf, h.lostD⟩

theorem cexec_snoc (a : CAct) : ∀ (as : List CAct) (c : Cfg), cexec c (as ++ [a]) = (cstep (cexec c as) a).1
  | [], _ => rfl
  | _ :: as, _ => cexec_snoc a as _

theorem cinv_exec : ∀ (as : List CAct) {c : Cfg}, CInv c → CInv (cexec c as)
  | [], _, h => h
  | a :: as, _, h => cinv_exec as (cinv_step a h)

def Play.all (p : Play) : List Nat :=
  (p.deliv.map (·.2.idx)) ++ (p.q.queue.map (·.idx)) ++ (p.dropped.map (·.idx)) ++ (p.lost.map (·.idx))

structure PInv (p : Play) : Prop where
  q : QInv p.q
  once : ∀ i, p.all.count i = if i < p.next then 1 else 0
  qSorted : p.q.queue.Pairwise (fun a b => a.idx < b.idx)
  qHi : ∀ m ∈ p.q.queue, m.idx < p.next
  dHi : ∀ d ∈ p.deliv, d.2.idx < p.next
  ovf : p.q.overflowed = true → p.disconnected = true

/-- ordering part, maintained as long as no direct write happens while the queue is non-empty -/
structure POrd (p : Play) : Prop where
  dOrder : p.deliv.Pairwise (fun x y => x.1 = y.1 → y.2.idx < x.2.idx)
  qNewer : ∀ m ∈ p.q.queue, ∀ d ∈ p.deliv, d.2.idx < m.idx

theorem pinv_init : PInv {} := ⟨qinv_init, fun i => by simp [Play.all], .nil, nofun, nofun, nofun⟩

theorem pord_init : POrd {} := ⟨.nil, nofun⟩

theorem pinv_drainTo {p : Play} (b : Nat) (h : PInv p) : PInv (p.drainTo b).1 := by
  unfold Play.drainTo
  simp only [Q.drain]
  refine ⟨qinv_nil _, count_move h.once fun i => ?_, .nil, nofun, ?_, h.ovf⟩
  · simp only [Play.all, List.map_append, drained_idx, List.map_nil, List.count_append, List.count_nil,
      List.count_reverse]
    omega
  · exact List.forall_mem_append.2 ⟨fun d hd => h.qHi _ (mem_drained hd).2, h.dHi⟩

theorem pord_drainTo {p : Play} (b : Nat) (h : PInv p) (ho : POrd p) : POrd (p.drainTo b).1 :=
  ⟨pairwise_drained h.qSorted ho.dOrder fun m hm d hd _ => ho.qNewer m hm d hd, nofun⟩

theorem pinv_firstJoin {p : Play} (h : PInv p) : PInv p.firstJoin := by
  unfold Play.firstJoin; split
  · exact h
  · exact ⟨h.q, h.once, h.qSorted, h.qHi, h.dHi, h.ovf⟩
theorem pinv_completeJoin {p : Play} (d : Nat) (h : PInv p) : PInv (p.completeJoin d) := by
  unfold Play.completeJoin; split
  · exact h
  · exact ⟨h.q, h.once, h.qSorted, h.qHi, h.dHi, h.ovf⟩
theorem pord_firstJoin {p : Play} (h : POrd p) : POrd p.firstJoin := by
  unfold Play.firstJoin; split
  · exact h
  · exact ⟨h.dOrder, h.qNewer⟩
theorem pord_completeJoin {p : Play} (d : Nat) (h : POrd p) : POrd (p.completeJoin d) := by
  unfold Play.completeJoin; split
  · exact h
  · exact ⟨h.dOrder, h.qNewer⟩

/-- What the generic branch of `handlePluginMessage` does with the next message, as a case rule: it is
    dropped (no usable server, or the queue is latched), written directly, queued, or it overflows the queue. -/
theorem pstep_msg {P : Play → Prop} (p : Play) (len : Nat)
    (drop : P { p with next := p.next + 1, dropped := ⟨p.next, len, p.cur⟩ :: p.dropped })
    (direct : ∀ s, p.cur = some s → p.goesDirect = true →
      P { p with next := p.next + 1, deliv := (s, ⟨p.next, len, p.cur⟩) :: p.deliv })
    (queued : p.q.overflowed = false →
      p.q.enqueue ⟨p.next, len, p.cur⟩ =
        ({ p.q with queue := p.q.queue ++ [⟨p.next, len, p.cur⟩], bytes := p.q.bytes + len }, .queued) →
      P { p with next := p.next + 1,
                 q := { p.q with queue := p.q.queue ++ [⟨p.next, len, p.cur⟩], bytes := p.q.bytes + len } })
    (overflow : P { p with
      next := p.next + 1, q := ⟨[], 0, true⟩, lost := ⟨p.next, len, p.cur⟩ :: (p.q.queue.reverse ++ p.lost),
      disconnected := true }) :
    P (pstep p (.msg len)).1 := by
  unfold pstep
  simp only
  cases hc : p.cur with
  | none => rw [hc] at drop; exact drop
  | some s =>
    rw [hc] at drop direct queued overflow
    simp only
    split
    · exact drop
    split
    · exact drop
    split
    · exact drop
    split
    · rename_i h1 h2 h3 h4
      refine direct s rfl ?_
      simp only [Bool.not_eq_true', Bool.not_eq_false, Bool.and_eq_true] at h1 h2 h4
      simp [Play.goesDirect, hc, h1, h2, h3, h4]
    · rcases enqueue_cases p.q ⟨p.next, len, some s⟩ with ⟨_, he⟩ | ⟨_, _, he⟩ | ⟨ho, _, _, he⟩ <;> rw [he]
      · exact drop
      · exact overflow
      · exact queued ho he

theorem pinv_pstep {p : Play} (op : POp) (h : PInv p) : PInv (pstep p op).1 := by
  have hq' : ∀ q ∈ p.q.queue, q.idx < p.next + 1 := fun q hq => Nat.lt_succ_of_lt (h.qHi q hq)
  have hd' : ∀ d ∈ p.deliv, d.2.idx < p.next + 1 := fun d hd => Nat.lt_succ_of_lt (h.dHi d hd)
  cases op with
  | msg len =>
    refine pstep_msg p len ?_ (fun s _ _ => ?_) (fun ho he => ?_) ?_
    · refine ⟨h.q, count_fresh h.once fun i => ?_, h.qSorted, hq', hd', h.ovf⟩
      simp only [Play.all, List.map_cons, List.count_append, List.count_cons]; omega
    · refine ⟨h.q, count_fresh h.once fun i => ?_, h.qSorted, hq', ?_, h.ovf⟩
      · simp only [Play.all, List.map_cons, List.count_append, List.count_cons]; omega
      · exact List.forall_mem_cons.2 ⟨Nat.lt_succ_self _, hd'⟩
    · refine ⟨qinv_enqueue h.q he, count_fresh h.once fun i => ?_, ?_, ?_, hd',
        fun hh => absurd (ho ▸ hh) Bool.false_ne_true⟩
      · simp only [Play.all, List.map_nil, List.map_cons, List.map_append, List.count_append, List.count_cons,
          List.count_nil]; omega
      · exact sorted_snoc h.qSorted h.qHi
      · exact forall_mem_snoc hq' (Nat.lt_succ_self _)
    · refine ⟨qinv_nil _, count_fresh h.once fun i => ?_, .nil, nofun, hd', fun _ => rfl⟩
      simp only [Play.all, List.map_nil, List.map_cons, List.map_append, List.map_reverse, List.count_append,
        List.count_cons, List.count_nil, List.count_reverse]; omega
  | flushQueued =>
    unfold pstep; simp only
    cases p.cur with
    | none => exact h
    | some s =>
      simp only
      split
      · exact pinv_drainTo s h
      · exact h
  | join d =>
    unfold pstep; simp only
    split
    · exact pinv_completeJoin d (pinv_drainTo d (pinv_firstJoin h))
    · exact h
  | deactivated =>
    refine ⟨qinv_init, count_move h.once fun i => ?_, .nil, nofun, h.dHi, nofun⟩
    simp only [pstep, Play.all, List.map_nil, List.map_append, List.map_reverse, List.count_append,
      List.count_nil, List.count_reverse]
    omega
  | setCur _ | setInfl _ | setConn _ _ | setInPlay _ _ | setBPhase _ _ | setClientComplete _ =>
    exact ⟨h.q, h.once, h.qSorted, h.qHi, h.dHi, h.ovf⟩

theorem pinv_exec : ∀ (ops : List POp) {p : Play}, PInv p → PInv (pexec p ops)
  | [], _, h => h
  | a :: as, _, h => pinv_exec as (pinv_pstep a h)

theorem pord_pstep {p : Play} (op : POp) (h : PInv p) (ho : POrd p) (hok : p.opOK op = true) :
    POrd (pstep p op).1 := by
  cases op with
  | msg len =>
    refine pstep_msg p len ⟨ho.dOrder, ho.qNewer⟩ (fun s _ hg => ?_) (fun _ _ => ⟨ho.dOrder, forall_mem_snoc ho.qNewer h.dHi⟩)
      ⟨ho.dOrder, nofun⟩
    · -- the queue is empty by `opOK`
      have he : p.q.queue = [] := by simpa [Play.opOK, hg] using hok
      exact ⟨List.pairwise_cons.mpr ⟨fun y hy _ => h.dHi y hy, ho.dOrder⟩, fun q hq => by rw [he] at hq; cases hq⟩
  | flushQueued =>
    unfold pstep; simp only
    cases p.cur with
    | none => exact ho
    | some s =>
      simp only
      split
      · exact pord_drainTo s h ho
      · exact ho
  | join d =>
    unfold pstep; simp only
    split
    · exact pord_completeJoin d (pord_drainTo d (pinv_firstJoin h) (pord_firstJoin ho))
    · exact ho
  | deactivated => exact ⟨ho.dOrder, nofun⟩
  | setCur _ | setInfl _ | setConn _ _ | setInPlay _ _ | setBPhase _ _ | setClientComplete _ =>
    exact ⟨ho.dOrder, ho.qNewer⟩

theorem pord_exec : ∀ (ops : List POp) {p : Play}, PInv p → POrd p → pDisciplined p ops = true →
    POrd (pexec p ops)
  | [], _, _, ho, _ => ho
  | a :: as, p, h, ho, hd => by
    simp only [pDisciplined, Bool.and_eq_true] at hd
    exact pord_exec as (pinv_pstep a h) (pord_pstep a h ho hd.1) hd.2

end Gate.C24
