import GateModel.C24.Lemmas
/-
C24 — Early plugin messages are delivered once, in order, with bounded buffering.

Two worlds (see Model.lean):

CONFIG world (`Cfg`, `cexec c acts`): `acts` is an ARBITRARY list of atomic actions — the client read
loop's steps for each plugin message (`recv` target read, `enq` the `h.mu` section of
enqueuePluginMessage, `direct` the write outside the lock), the `h.mu` section of
flushQueuedPluginMessagesTo for any backend at any time, and server switches / connection losses.
Theorems over `acts` therefore hold for every interleaving of client messages with backend readiness
and server switches.  Each handled message has a send index; `c.all` lists where every index is:
delivered (`deliv`, newest first, with the backend), queued, dropped (no server / connection / after the
overflow latch), lost (queue cleared by the overflow that disconnects the player) or in the client
thread's hand.

PRE-JOIN world (`Play`, `pexec p ops`): every sequence of play-handler calls and environment changes.
-/
namespace Gate.C24.Props
open Gate Gate.C24

/-- Exactly once: in every reachable state each message handled so far is in exactly one place, so it
    is handed to at most one backend, at most once, and never both queued and delivered. -/
theorem config_exactly_once (acts : List CAct) (i : Nat) :
    (cexec {} acts).all.count i = if i < (cexec {} acts).next then 1 else 0 :=
  (cinv_exec acts cinv_init).once i

/-- … in particular no message is ever handed to backends twice. -/
theorem config_delivered_at_most_once (acts : List CAct) (i : Nat) :
    ((cexec {} acts).deliv.map (·.2.idx)).count i ≤ 1 := by
  have h := config_exactly_once acts i
  simp only [Cfg.all, List.count_append] at h
  split at h <;> omega

/-- In the order sent: for every backend, what it was handed is in send order (the list is newest
    first, so later entries have smaller send indices) — queued messages therefore reach a backend
    before every message sent after them that reaches the same backend, for all interleavings. -/
theorem config_in_send_order (acts : List CAct) :
    (cexec {} acts).deliv.Pairwise (fun x y => x.1 = y.1 → y.2.idx < x.2.idx) :=
  (cinv_exec acts cinv_init).dOrder

/-- The queue itself is FIFO: always sorted by send index … -/
theorem config_queue_fifo (acts : List CAct) :
    (cexec {} acts).q.queue.Pairwise (fun a b => a.idx < b.idx) :=
  (cinv_exec acts cinv_init).qSorted
/-- … and a flush hands it over front to back, followed by one Flush of the backend connection, inside the
    `h.mu` section. -/
theorem config_flush_hands_over_in_order (c : Cfg) (s : Nat) (h : c.ready ≠ some s) :
    (cstep c (.flushSec s)).2 =
      c.q.queue.map (fun m => Out.msg s .buffer m.idx) ++ (if c.q.queue.isEmpty then [] else [.flush s]) ∧
    (cstep c (.flushSec s)).1.q.queue = [] ∧ (cstep c (.flushSec s)).1.ready = some s := by
  simp [cstep, h, Q.drain]

/-- Once a backend is the ready one, nothing addressed to it waits in the queue (later messages for it
    go straight through, after everything that was queued). -/
theorem config_ready_backend_has_nothing_queued (acts : List CAct) (s : Nat)
    (h : (cexec {} acts).ready = some s) : ∀ m ∈ (cexec {} acts).q.queue, m.tgt ≠ some s := by
  intro m hm e
  rcases (cinv_exec acts cinv_init).notForReady m hm with hn | hn
  · rw [hn] at e; cases e
  · exact hn (e.trans h.symm)

/-- ≤ 1024 messages and ≤ 4 MiB (the byte counter is exact), always. -/
theorem config_bounded (acts : List CAct) :
    (cexec {} acts).q.queue.length ≤ maxMsgs ∧ (cexec {} acts).q.bytes = sumLen (cexec {} acts).q.queue ∧
    sumLen (cexec {} acts).q.queue ≤ maxBytes :=
  (cinv_exec acts cinv_init).q.bounded

/-- Exceeding either cap disconnects instead of buffering: once the latch is set the player has been
    disconnected and the queue is empty … -/
theorem config_overflow_disconnects (acts : List CAct) (h : (cexec {} acts).q.overflowed = true) :
    (cexec {} acts).disconnected = true ∧ (cexec {} acts).q.queue = [] :=
  ⟨(cinv_exec acts cinv_init).ovf h, (cinv_exec acts cinv_init).q.latch h⟩
/-- … and stays empty: a latched queue buffers nothing. -/
theorem latched_queue_buffers_nothing (q : Q) (m : Msg) (h : q.overflowed = true) : (q.enqueue m).1 = q := by
  unfold Q.enqueue; rw [if_pos h]
/-- the enqueue that would exceed a cap buffers nothing and latches -/
theorem enqueue_over_cap (q : Q) (m : Msg) (ho : q.overflowed = false)
    (h : q.bytes + m.len > maxBytes ∨ q.queue.length + 1 > maxMsgs) :
    q.enqueue m = ({ queue := [], bytes := 0, overflowed := true }, .overflow) := by
  rcases enqueue_cases q m with ⟨h1, _⟩ | ⟨_, _, he⟩ | ⟨_, h2, h3, _⟩
  · rw [ho] at h1; cases h1
  · exact he
  · omega
/-- messages are lost from the queue only by that overflow -/
theorem config_lost_only_by_overflow (acts : List CAct) (h : (cexec {} acts).lost ≠ []) :
    (cexec {} acts).disconnected = true := (cinv_exec acts cinv_init).lostD h

/-! ### CONFIG-phase queue: the switch case (genuine defect, recorded as a known finding)

Full-strength claim: "whenever a backend finishes configuration, no message addressed to it is still
queued".  `flushQueuedPluginMessagesTo` has a single call site (`handleServerLoginSuccess`, only when the
client's active handler is the config handler — `src_single_flush_site`).  On a 1.20.2+ server SWITCH the
login success arrives while the client is in PLAY, so no flush happens for the new backend while
`readyServer` still names the previous one: messages the client then sends during reconfiguration are
queued and never delivered to the new backend. -/

/-- some message addressed to backend `s` is still queued -/
def stranded (c : Cfg) (s : Nat) : Bool := c.q.queue.any (fun m => m.tgt == some s)

/-- the history: initial login to backend 0 (flushed, joined), switch to backend 1 whose login success
    arrives with the client in PLAY (no flush), client enters CONFIG and sends a plugin message -/
def switchHistory : List CAct :=
  [.setInfl (some 0), .flushSec 0, .setCur (some 0), .setCur none, .setInfl (some 1), .recv 3, .enq, .direct]

theorem config_delivery_on_switch_fails :
    ¬ (∀ acts s, (cexec {} acts).target = some s → stranded (cexec {} acts) s = false) := by
  intro h
  have := h switchHistory 1 (by decide)
  revert this; decide

/-- what does hold: after the flush section for `s` ran, nothing addressed to `s` is queued -/
theorem config_no_stranded_after_flush_partial (acts : List CAct) (s : Nat) :
    stranded (cexec {} (acts ++ [.flushSec s])) s = false := by
  have hr : (cexec {} (acts ++ [.flushSec s])).ready = some s := by
    rw [cexec_snoc]
    unfold cstep
    simp only
    split
    · assumption
    · rfl
  have := config_ready_backend_has_nothing_queued (acts ++ [.flushSec s]) s hr
  unfold stranded
  rw [List.any_eq_false]
  intro m hm
  simpa using this m hm

theorem play_exactly_once (ops : List POp) (i : Nat) :
    (pexec {} ops).all.count i = if i < (pexec {} ops).next then 1 else 0 :=
  (pinv_exec ops pinv_init).once i

theorem play_queue_fifo (ops : List POp) : (pexec {} ops).q.queue.Pairwise (fun a b => a.idx < b.idx) :=
  (pinv_exec ops pinv_init).qSorted

theorem play_bounded (ops : List POp) :
    (pexec {} ops).q.queue.length ≤ maxMsgs ∧ (pexec {} ops).q.bytes = sumLen (pexec {} ops).q.queue ∧
    sumLen (pexec {} ops).q.queue ≤ maxBytes :=
  (pinv_exec ops pinv_init).q.bounded

theorem play_overflow_disconnects (ops : List POp) (h : (pexec {} ops).q.overflowed = true) :
    (pexec {} ops).disconnected = true ∧ (pexec {} ops).q.queue = [] :=
  ⟨(pinv_exec ops pinv_init).ovf h, (pinv_exec ops pinv_init).q.latch h⟩

/-- Per-backend send order for the pre-join queue — PARTIAL: proved for histories in which no direct
    write happens while the queue is non-empty (`pDisciplined`).  Missing: the legacy-Forge phase
    machine (pkg/edition/java/proxy/phase), which decides when the phases become "complete" and calls
    FlushQueuedPluginMessages at that point, is not modelled; without that discipline the order can
    fail (`play_order_needs_discipline`). -/
theorem play_in_send_order_partial (ops : List POp) (hd : pDisciplined {} ops = true) :
    (pexec {} ops).deliv.Pairwise (fun x y => x.1 = y.1 → y.2.idx < x.2.idx) :=
  (pord_exec ops pinv_init pord_init hd).dOrder

/-- model-level witness that the hypothesis is needed: phases flip to complete without the flush,
    a later message is written directly, the queued one follows at the next flush -/
theorem play_order_needs_discipline :
    (pexec {} [.setCur (some 0), .setClientComplete false, .msg 1, .setClientComplete true, .msg 1, .flushQueued]).deliv
      = [(0, ⟨0, 1, some 0⟩), (0, ⟨1, 1, some 0⟩)] := by decide

/-- Full-strength claim "a plugin message sent in PLAY while the backend is not ready yet (no connected
    server but a backend in flight) is delivered once that backend is joined" FAILS: the handler returns
    early and the message is discarded, not queued (known finding; same in Velocity). -/
theorem play_message_before_join_is_discarded_fails :
    let p := pexec {} [.setInfl (some 0), .msg 1, .join 0, .setCur (some 0)]
    p.deliv = [] ∧ p.q.queue = [] ∧ p.dropped = [⟨0, 1, none⟩] := by decide

/-! ### tie to the source (regenerated by tools/gofacts on every run) -/

def before (a b : String) (cs : List String) : Bool := cs.idxOf a < cs.idxOf b && cs.idxOf b < cs.length
/-- some call in `cs` is a call of a method/function named `name` (the entry ends with it) -/
def mentions (name : String) (cs : List String) : Bool := cs.any fun c => name.toList.isSuffixOf c.toList

theorem src_caps : maxMsgs = 1024 ∧ maxBytes = 4 * 1024 * 1024 := by decide

open Gate.Gen.C24 in
/-- config enqueue: one lock acquisition, push under it, overflow clears before disconnecting;
    config flush: ensureConnected, then ONE `h.mu` section (Unlock only deferred) containing the pops,
    the BufferPacket writes and the Flush — the atomic `flushSec` of the model -/
theorem src_config_sections :
    cfgEnqueueCalls.head? = some "h.mu.Lock" ∧ cfgEnqueueCalls.count "h.mu.Lock" = 1 ∧
    "h.mu.pluginMessages.PushBack" ∈ cfgEnqueueCalls ∧
    before "h.mu.pluginMessages.Clear" "h.player.Disconnect" cfgEnqueueCalls ∧
    before "serverConn.ensureConnected" "h.mu.Lock" cfgFlushCalls ∧
    before "h.mu.Lock" "defer:h.mu.Unlock" cfgFlushCalls ∧
    before "defer:h.mu.Unlock" "h.mu.pluginMessages.PopFront" cfgFlushCalls ∧
    before "h.mu.pluginMessages.PopFront" "smc.BufferPacket" cfgFlushCalls ∧
    before "smc.BufferPacket" "smc.Flush" cfgFlushCalls ∧ !cfgFlushCalls.contains "h.mu.Unlock" ∧
    before "h.enqueuePluginMessage" "smc.WritePacket" cfgHandleCalls := by decide +kernel

open Gate.Gen.C24 in
/-- the only flush call is in handleServerLoginSuccess, before the play-handler branch (`doSwitch`);
    nothing on the switch path (doSwitch, the client's FinishedUpdate in PLAY, the backend's
    FinishedUpdate, handleBackendFinishUpdate) flushes the config queue -/
theorem src_single_flush_site :
    loginSuccessCalls.count "csh.flushQueuedPluginMessagesTo" = 1 ∧
    before "csh.flushQueuedPluginMessagesTo" "csh.doSwitch" loginSuccessCalls ∧
    !mentions "flushQueuedPluginMessagesTo" doSwitchCalls ∧
    !mentions "flushQueuedPluginMessagesTo" playFinishedUpdateCalls ∧
    !mentions "flushQueuedPluginMessagesTo" cfgBackendFinishCalls ∧
    !mentions "flushQueuedPluginMessagesTo" backendCfgFinishedUpdateCalls := by
  refine ⟨by decide +kernel, by decide +kernel, ?_⟩
  -- The kernel reads a string literal as `String.ofList` of its characters directly, whereas decoding the
  -- UTF-8 bytes (`String.toList`) of every entry is slow to check; `String.toList_ofList` (matched up to
  -- that reading, hence `index := false`) leaves suffix tests on character lists.
  simp (config := { index := false }) only [mentions, doSwitchCalls, playFinishedUpdateCalls,
    cfgBackendFinishCalls, backendCfgFinishedUpdateCalls, List.any_cons, List.any_nil,
    String.toList_ofList]
  decide +kernel

open Gate.Gen.C24 in
/-- pre-join queue: enqueue under `c.mu`, overflow clears before disconnecting; drain is one section;
    FlushQueuedPluginMessages and handleBackendJoinGame drain, buffer, then flush; Deactivated clears -/
theorem src_play_sections :
    playEnqueueCalls.head? = some "c.mu.Lock" ∧ "c.mu.loginPluginMessages.PushBack" ∈ playEnqueueCalls ∧
    before "c.mu.loginPluginMessages.Clear" "c.player.Disconnect" playEnqueueCalls ∧
    playDrainCalls.head? = some "c.mu.Lock" ∧ playDrainCalls[1]? = some "defer:c.mu.Unlock" ∧
    "c.mu.loginPluginMessages.PopFront" ∈ playDrainCalls ∧
    before "c.drainQueuedLoginPluginMessages" "serverMc.BufferPacket" playFlushQueuedCalls ∧
    before "serverMc.BufferPacket" "serverMc.Flush" playFlushQueuedCalls ∧
    before "c.drainQueuedLoginPluginMessages" "serverMc.Flush" playJoinGameCalls ∧
    before "serverMc.Flush" "destination.completeJoin" playJoinGameCalls ∧
    "c.mu.loginPluginMessages.Clear" ∈ playDeactivatedCalls := by decide +kernel

/-! ### non-vacuity -/

/-- queued before ready, flushed in order, the later message goes directly after them -/
example : (crun {} ([.setInfl (some 0)] ++ cmsgActs 5 ++ cmsgActs 6 ++ [.flushSec 0] ++ cmsgActs 7)).2 =
    [.msg 0 .buffer 0, .msg 0 .buffer 1, .flush 0, .msg 0 .write 2] := by decide
/-- the flush section running between the client's enqueue decision and its direct write keeps order -/
example : (cexec {} [.setInfl (some 0), .flushSec 0, .recv 1, .enq, .flushSec 1, .direct]).deliv.map (·.2.idx) = [0] := by
  decide
example : pDisciplined {} [.setCur (some 0), .setClientComplete false, .msg 1, .setClientComplete true, .flushQueued, .msg 1] = true := by
  decide
example : stranded (cexec {} switchHistory) 1 = true := by decide

end Gate.C24.Props
