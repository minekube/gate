import GateModel.C40.Lemmas
import GateModel.Gen.C40
/-
C40 — Bedrock players get valid, stable Java identities: every profile name `onGameProfile` builds is a
valid Java name, and the UUID is an RFC 4122 version-5 value that depends on the XUID alone.  That different
XUIDs give different UUIDs is proved only under a cryptographic hypothesis (`uuid_injective_partial`).
-/
namespace Gate.C40.Props
open Gate Gate.Hash Gate.Utf8 Gate.C40

/-- functional description: first 16 runes, each kept if allowed and replaced by `_` otherwise; `_` if none -/
theorem name_shape (s : Bytes) :
    javaCompatibleUsername s =
      (if ((decodeRunes s).take 16).map normRune = [] then [95] else ((decodeRunes s).take 16).map normRune) := by
  unfold javaCompatibleUsername
  rw [normLoop_eq _ [] (by simp)]
  simp

/-- for every input string the name is 1..16 bytes, all from A-Z a-z 0-9 `_` -/
theorem name_valid (s : Bytes) : validJavaName (javaCompatibleUsername s) := by
  rw [name_shape]
  split
  · exact ⟨by decide, by decide, by decide⟩
  · rename_i hne
    refine ⟨?_, ?_, ?_⟩
    · exact List.length_pos_iff.mpr hne
    · simp only [List.length_map, List.length_take]; omega
    · intro b hb
      obtain ⟨r, _, rfl⟩ := List.mem_map.mp hb
      exact normRune_allowed r

/-- the profile name built by `onGameProfile`, for EVERY username format and EVERY gamertag — whatever
    `fmt.Sprintf` returns for them (`sprintf` is universally quantified): 1..16 bytes from the allowed set -/
theorem profile_name_valid (sprintf : Bytes → Bytes → Bytes) (format gamertag : Bytes) :
    validJavaName (profileName sprintf format gamertag) := name_valid _

/-- for a format `prefix%ssuffix` the name is the first 16 runes of prefix ++ gamertag ++ suffix, normalised:
    literal characters of the format count against the 16 like the gamertag's do (no budget arithmetic) -/
theorem profile_name_affix (sprintf : Bytes → Bytes → Bytes) (pre suf tag : Bytes)
    (hs : sprintf (pre ++ [37, 115] ++ suf) tag = pre ++ tag ++ suf) :
    profileName sprintf (pre ++ [37, 115] ++ suf) tag = javaCompatibleUsername (pre ++ tag ++ suf) := by
  unfold profileName
  have : (pre ++ [37, 115] ++ suf).isEmpty = false := by
    cases pre <;> simp
  rw [this, hs]; rfl

/-- the same (format, gamertag) always yields the same name: no hidden state -/
theorem profile_name_deterministic (sprintf : Bytes → Bytes → Bytes) (f1 f2 t1 t2 : Bytes)
    (hf : f1 = f2) (ht : t1 = t2) : profileName sprintf f1 t1 = profileName sprintf f2 t2 := by rw [hf, ht]

/-- valid names pass through unchanged -/
theorem name_stable (s : Bytes) (h : validJavaName s) : javaCompatibleUsername s = s := by
  obtain ⟨h1, h2, h3⟩ := h
  rw [name_shape, decodeRunes_ascii s (fun b hb => allowed_ascii b (h3 b hb))]
  have hm : ((s.map (·.toNat)).take 16).map normRune = s := by
    rw [List.take_of_length_le (by simpa using h2), List.map_map]
    calc s.map (normRune ∘ fun b => b.toNat) = s.map id :=
          List.map_congr_left (fun b hb => normRune_toNat b (h3 b hb))
      _ = s := List.map_id s
  rw [hm, if_neg (by intro h0; rw [h0] at h1; simp at h1)]

theorem name_idempotent (s : Bytes) :
    javaCompatibleUsername (javaCompatibleUsername s) = javaCompatibleUsername s :=
  name_stable _ (name_valid s)

/-- RFC 4122 fields, for every XUID -/
theorem uuid_rfc4122 (xuid : Int) : isRfc4122 5 (javaUuid xuid) := by
  unfold javaUuid isRfc4122
  have hlen := sha1_length (xuidMessage xuid)
  generalize sha1 (xuidMessage xuid) = h at hlen
  have h6 : 6 < h.length := by omega
  have h8 : 8 < h.length := by omega
  unfold stampV5
  refine ⟨by rw [List.length_take, List.length_modify, List.length_modify, hlen]; rfl,
    ⟨_, ?_, version5_bits h[6]⟩, ⟨_, ?_, variant_bits h[8]⟩⟩
  · rw [List.getElem?_take_of_lt (by decide), List.getElem?_modify_ne _ _ (by decide), List.getElem?_modify_eq,
      List.getElem?_eq_getElem h6]
    rfl
  · rw [List.getElem?_take_of_lt (by decide), List.getElem?_modify_eq, List.getElem?_modify_ne _ _ (by decide),
      List.getElem?_eq_getElem h8]
    rfl

/-- hence never `uuid.Nil` (the `uid == uuid.Nil` disconnect in `onGameProfile` is dead for this reason) -/
theorem uuid_ne_nil (xuid : Int) : javaUuid xuid ≠ List.replicate 16 0 := by
  intro h
  obtain ⟨_, ⟨b, hb, hv⟩, _⟩ := uuid_rfc4122 xuid
  rw [h] at hb
  cases hb
  exact absurd hv (by decide)

/-- the same XUID always maps to the same UUID: `javaUuid` has no other input -/
theorem uuid_deterministic (x y : Int) (h : x = y) : javaUuid x = javaUuid y := by rw [h]

/-- `strconv.FormatInt(·, 10)` is injective (it has a left inverse) -/
theorem decimal_injective (x y : Int) (h : formatInt x = formatInt y) : x = y := formatInt_injective x y h

/-- two XUIDs share a UUID iff their hashes agree on the 122 retained bits -/
theorem uuid_eq_iff_free_bits (x y : Int) :
    javaUuid x = javaUuid y ↔ free122 (sha1 (xuidMessage x)) = free122 (sha1 (xuidMessage y)) := by
  constructor
  · intro h
    rw [← unstamp_stamp, ← unstamp_stamp]
    exact congrArg unstamp h
  · intro h
    unfold javaUuid
    rw [stampV5_free122, stampV5_free122, h]

/-- PARTIAL: different XUIDs map to different UUIDs, under the cryptographic hypothesis that SHA-1 restricted to
    the 122 retained bits is collision-free on the messages "FloodgateXUID:" ++ decimal.  Proved without it:
    decimal printing is injective and the stamp keeps exactly the 122 free bits (`uuid_eq_iff_free_bits`). -/
theorem uuid_injective_partial
    (noCollision : ∀ x y : Int, free122 (sha1 (xuidMessage x)) = free122 (sha1 (xuidMessage y)) →
      xuidMessage x = xuidMessage y)
    (x y : Int) (h : javaUuid x = javaUuid y) : x = y :=
  xuidMessage_injective x y (noCollision x y ((uuid_eq_iff_free_bits x y).mp h))

theorem source_shape_profile :
    (Gate.Gen.C40.onGameProfileCalls.filter
      (fun c => c == "bedrockData.JavaUuid" || c == "fmt.Sprintf" || c == "javaCompatibleUsername" || c == "e.SetGameProfile"))
      = ["bedrockData.JavaUuid", "fmt.Sprintf", "javaCompatibleUsername", "e.SetGameProfile"] := by decide +kernel

theorem source_shape_uuid :
    (Gate.Gen.C40.javaUuidCalls.filter
      (fun c => !(c == "[]byte" || c == "len" || c == "fmt.Errorf" || c == "return")))
      = ["sha1.New", "h.Write", "strconv.FormatInt", "h.Write", "h.Sum", "uuid.FromBytes"]
    ∧ xuidPrefix = (Gate.Gen.C40.javaUuidLits.headD "").toUTF8.toList := by
  constructor <;> decide +kernel

/-! ### non-vacuity: the repository's own table, and satisfiable hypotheses -/
example : javaCompatibleUsername ".LLG icedRyan".toUTF8.toList = "_LLG_icedRyan".toUTF8.toList := by decide +kernel
example : javaCompatibleUsername ".玩家 One".toUTF8.toList = "____One".toUTF8.toList := by decide +kernel
example : javaCompatibleUsername ".abcdefghijklmnop".toUTF8.toList = "_abcdefghijklmno".toUTF8.toList := by decide +kernel
example : javaCompatibleUsername [] = [95] := by decide +kernel
example : validJavaName "Bedrock_Player".toUTF8.toList := by decide +kernel
example : profileName (fun f t => (simpleSprintf f t).getD t) "[Bedrock-Player]%s_BE".toUTF8.toList "Steve".toUTF8.toList
    = "_Bedrock_Player_".toUTF8.toList := by decide +kernel
example : simpleSprintf "[BE]%s!".toUTF8.toList "x X".toUTF8.toList = some "[BE]x X!".toUTF8.toList := by decide +kernel
example : toHex (javaUuid 2535432196048835) = "875d5dd151455874a7d539177814b2ac" := by decide +kernel
example : javaUuid 1 ≠ javaUuid 2 := by decide +kernel

end Gate.C40.Props
