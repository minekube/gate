import GateModel.C40.Model
import GateModel.C40.Spec
/-
C40 helper lemmas: the normalising loop, decimal printing is injective, the UUID stamp keeps the
122 free bits.
-/
namespace Gate.C40
open Gate Gate.Hash Gate.Utf8

theorem ofNat_toNat_lt (r : Nat) (h : r < 256) : (UInt8.ofNat r).toNat = r := by
  simp [UInt8.toNat_ofNat']
  omega

theorem isNameRune_lt {r : Nat} (h : isNameRune r = true) : r < 128 := by
  simp only [isNameRune, Bool.or_eq_true, Bool.and_eq_true, decide_eq_true_eq, beq_iff_eq] at h
  omega

/-- the reference's test on a byte is the model's test on its value -/
theorem allowedByte_eq (b : UInt8) : allowedByte b = isNameRune b.toNat := by
  rw [Bool.eq_iff_iff]
  simp only [allowedByte, isNameRune, Bool.or_eq_true, Bool.and_eq_true, decide_eq_true_eq, beq_iff_eq]
  omega

theorem normRune_allowed (r : Nat) : allowedByte (normRune r) = true := by
  unfold normRune
  split
  · rename_i h
    have hr := isNameRune_lt h
    rw [allowedByte_eq, ofNat_toNat_lt r (by omega), h]
  · decide

theorem normRune_toNat (b : UInt8) (h : allowedByte b = true) : normRune b.toNat = b := by
  rw [normRune, ← allowedByte_eq, h, if_pos rfl, UInt8.ofNat_toNat]

theorem allowed_ascii (b : UInt8) (h : allowedByte b = true) : b.toNat < 128 :=
  isNameRune_lt (allowedByte_eq b ▸ h)

/-- closed form of the loop: append the images of the next `16 − len` runes -/
theorem normLoop_eq (rs : List Nat) (acc : Bytes) (h : acc.length ≤ 16) :
    normLoop rs acc = acc ++ (rs.take (16 - acc.length)).map normRune := by
  induction rs generalizing acc with
  | nil => simp [normLoop]
  | cons r t ih =>
    unfold normLoop
    split
    · rename_i h16
      simp [h16]
    · rename_i h16
      have hlt : acc.length < 16 := by omega
      rw [ih (acc ++ [normRune r]) (by simp; omega)]
      have : 16 - acc.length = (16 - (acc ++ [normRune r]).length) + 1 := by simp; omega
      rw [this, List.take_succ_cons]
      simp

/-- `strconv.ParseInt`-style reader used only as a left inverse -/
def ofDigitBytes (bs : Bytes) (init : Nat) : Nat := bs.foldl (fun a b => 10 * a + (b.toNat - 48)) init

def parseInt : Bytes → Int
  | 45 :: r => - (ofDigitBytes r 0 : Int)
  | r => (ofDigitBytes r 0 : Int)

theorem digit_toNat (c : Char) (h : c.isDigit = true) : 48 ≤ c.toNat ∧ c.toNat ≤ 57 := by
  simp only [Char.isDigit, Bool.and_eq_true, decide_eq_true_eq] at h
  have h1 : (48 : UInt32) ≤ c.val := h.1
  have h2 : c.val ≤ (57 : UInt32) := h.2
  rw [UInt32.le_iff_toNat_le] at h1 h2
  exact ⟨h1, h2⟩

theorem ofDigitBytes_ascii (cs : List Char) (init : Nat) (h : ∀ c ∈ cs, c.isDigit = true) :
    ofDigitBytes (asciiBytes cs) init = Nat.ofDigitChars 10 cs init := by
  induction cs generalizing init with
  | nil => simp [ofDigitBytes, asciiBytes]
  | cons c t ih =>
    have hc := digit_toNat c (h c (List.mem_cons_self ..))
    have ht : ∀ x ∈ t, x.isDigit = true := fun x hx => h x (List.mem_cons_of_mem _ hx)
    rw [Nat.ofDigitChars_cons, ← ih _ ht]
    simp only [ofDigitBytes, asciiBytes, List.map_cons, List.foldl_cons]
    rw [ofNat_toNat_lt c.toNat (by omega)]
    rfl

theorem digits_roundtrip (n : Nat) : ofDigitBytes (asciiBytes (Nat.toDigits 10 n)) 0 = n := by
  rw [ofDigitBytes_ascii _ _ (fun c hc => Nat.isDigit_of_mem_toDigits (by decide) (by decide) hc)]
  exact Nat.ofDigitChars_ten_toDigits

theorem digits_head_ne_minus (n : Nat) :
    ∃ d r, asciiBytes (Nat.toDigits 10 n) = d :: r ∧ d ≠ 45 := by
  have hne : Nat.toDigits 10 n ≠ [] := Nat.toDigits_ne_nil
  match hd : Nat.toDigits 10 n with
  | [] => exact absurd hd hne
  | c :: t =>
    have hc := digit_toNat c (Nat.isDigit_of_mem_toDigits (b := 10) (n := n) (by decide) (by decide)
      (by rw [hd]; exact List.mem_cons_self ..))
    refine ⟨UInt8.ofNat c.toNat, asciiBytes t, by simp [asciiBytes], ?_⟩
    intro h
    have := congrArg UInt8.toNat h
    rw [ofNat_toNat_lt c.toNat (by omega)] at this
    have h45 : (45 : UInt8).toNat = 45 := rfl
    omega

theorem parseInt_formatInt (x : Int) : parseInt (formatInt x) = x := by
  unfold formatInt
  split
  · rename_i hneg
    simp only [parseInt, digits_roundtrip]
    omega
  · rename_i hnn
    obtain ⟨d, r, hdr, hd⟩ := digits_head_ne_minus x.natAbs
    have hrt := digits_roundtrip x.natAbs
    rw [hdr] at hrt ⊢
    have : parseInt (d :: r) = (ofDigitBytes (d :: r) 0 : Int) := by
      unfold parseInt
      split
      · rename_i heq
        simp only [List.cons.injEq] at heq
        exact absurd heq.1 hd
      · rfl
    rw [this, hrt]
    omega

theorem formatInt_injective (x y : Int) (h : formatInt x = formatInt y) : x = y := by
  rw [← parseInt_formatInt x, ← parseInt_formatInt y, h]

theorem xuidMessage_injective (x y : Int) (h : xuidMessage x = xuidMessage y) : x = y :=
  formatInt_injective x y (List.append_cancel_left h)

/-- the 122 bits of a hash that survive in the UUID: first 16 bytes, version nibble and variant bits cleared -/
def free122 (h : Bytes) : Bytes := ((h.take 16).modify 6 (· &&& 0x0f)).modify 8 (· &&& 0x3f)

/-- clear version and variant fields of a UUID -/
def unstamp (u : Bytes) : Bytes := (u.modify 6 (· &&& 0x0f)).modify 8 (· &&& 0x3f)

theorem take_modify {α} (l : List α) (i n : Nat) (f : α → α) :
    (l.modify i f).take n = (l.take n).modify i f := by
  apply List.ext_getElem?
  intro j
  simp only [List.getElem?_take, List.getElem?_modify]
  by_cases hj : j < n <;> simp [hj]

/-- two rounds of byte updates at positions 6 and 8 are one round with the composed updates -/
theorem modify_6_8_twice (l : Bytes) (f6 f8 g6 g8 : UInt8 → UInt8) :
    (((l.modify 6 f6).modify 8 f8).modify 6 g6).modify 8 g8 = (l.modify 6 (g6 ∘ f6)).modify 8 (g8 ∘ f8) := by
  rw [List.modify_modify_ne f8 g6 _ (by decide), List.modify_modify_eq, List.modify_modify_eq]

theorem unstamp6 : ∀ b : UInt8, ((b &&& 0x0f) ||| ((5 : UInt8) <<< (4 : UInt8))) &&& 0x0f = b &&& 0x0f := by
  apply forall_uint8; decide +kernel

theorem unstamp8 : ∀ b : UInt8, ((b &&& 0x3f) ||| 0x80) &&& 0x3f = b &&& 0x3f := by
  apply forall_uint8; decide +kernel

/-- clearing the fields of a stamped hash leaves the free bits … -/
theorem unstamp_stamp (h : Bytes) : unstamp ((stampV5 h).take 16) = free122 h := by
  unfold unstamp stampV5 free122
  rw [take_modify, take_modify, modify_6_8_twice]
  simp only [Function.comp_def, unstamp6, unstamp8]

/-- … and the UUID is the free bits with the fixed version/variant fields set again (masking twice is
    masking once) -/
theorem stampV5_free122 (h : Bytes) : (stampV5 h).take 16 = stampV5 (free122 h) := by
  unfold stampV5 free122
  rw [take_modify, take_modify, modify_6_8_twice]
  simp only [Function.comp_def, UInt8.and_assoc, UInt8.and_self]

theorem version5_bits : ∀ b : UInt8, ((b &&& 0x0f) ||| ((5 : UInt8) <<< (4 : UInt8))) >>> 4 = 5 := by
  apply forall_uint8; decide +kernel

theorem variant_bits : ∀ b : UInt8, ((b &&& 0x3f) ||| 0x80) >>> 6 = 2 := by
  apply forall_uint8; decide +kernel

end Gate.C40
