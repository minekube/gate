import GateModel.C25.Model
namespace Gate.C25

theorem handle_known (edit : Bytes → Bytes) (i : In) (h : i.cls = .known) : handle edit i = eventPath edit i := by
  unfold handle; rw [h]

/-- off the event path only the client PLAY handler raises events, and the message is passed on as it came -/
theorem handle_not_known (edit : Bytes → Bytes) (i : In) (h : i.cls ≠ .known) :
    handle edit i =
      (if i.site = .cp ∧ i.cls = .register then (if i.writeOK then [.reg] else [])
       else if i.site = .cp ∧ i.cls = .unregister then [.unreg] else [],
       if i.site.toBackend then [.packet i.cls i.data] else [.raw i.raw]) := by
  obtain ⟨site, cls, data, raw, allow, ok⟩ := i
  cases site <;> cases cls <;> first | exact absurd rfl h | rfl

theorem handle_events_not_known (edit : Bytes → Bytes) (i : In) (h : i.cls ≠ .known) (d : Bytes) :
    Ev.pm d ∉ (handle edit i).1 := by
  rw [handle_not_known edit i h]
  dsimp only
  split
  · split <;> simp
  · split <;> simp

theorem allocFresh_eq : ∀ (bs : List Bytes) (st : Store), allocFresh st bs = st ++ bs
  | [], st => by simp [allocFresh]
  | b :: bs, st => by rw [allocFresh, allocFresh_eq bs]; simp

end Gate.C25
