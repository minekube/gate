import GateModel.C25.Lemmas
/-
C25 — Plugin channel events fire for forwarded messages with the real message body.

`handle edit i` is what the handler of site `i.site` does with ONE plugin
message, for every channel class, every body `i.data`, every raw payload `i.raw`, every in-place edit
`edit` a subscribed handler performs on `Data()`, every SetForward choice and either outcome of the write
(see Model.lean).  Everything is universally quantified; `handle_known` and `handle_not_known` (Lemmas.lean) say
what `handle` does on and off the event path, the byte strings and `edit` arbitrary.
-/
namespace Gate.C25.Props
open Gate Gate.C25

/-- A register message is always passed on unchanged, and it raises exactly one channel-register event
    if that forward succeeded and none if it did not. -/
theorem register_event_iff_forwarded (edit : Bytes → Bytes) (i : In) (hs : i.site = .cp) (hc : i.cls = .register) :
    (handle edit i).2 = [.packet .register i.data] ∧
    (handle edit i).1.count .reg = (if forwarded i (handle edit i) then 1 else 0) ∧
    (handle edit i).1.count .unreg = 0 := by
  obtain ⟨site, cls, data, raw, allow, ok⟩ := i
  simp only at hs hc; subst hs hc
  cases ok <;> simp [handle, forwarded]

/-- No other message class raises a register event at any site. -/
theorem only_register_raises_register_event (edit : Bytes → Bytes) (i : In) (h : i.cls ≠ .register) :
    Ev.reg ∉ (handle edit i).1 := by
  by_cases hk : i.cls = .known
  · rw [handle_known edit i hk]
    simp [eventPath]
  · rw [handle_not_known edit i hk]
    simp only [h, and_false, if_false]
    split <;> simp

/-- Unregister: exactly one unregister event, message passed on unchanged. -/
theorem unregister_event_once (edit : Bytes → Bytes) (i : In) (hs : i.site = .cp) (hc : i.cls = .unregister) :
    handle edit i = ([.unreg], [.packet .unregister i.data]) := by
  obtain ⟨site, cls, data, raw, allow, ok⟩ := i
  simp only at hs hc; subst hs hc; rfl

/-- Every plugin-message event, at every site (either direction, PLAY / CONFIG / initial connect),
    exposes exactly the plugin message's body. -/
theorem event_body_is_message_body (edit : Bytes → Bytes) (i : In) (d : Bytes)
    (h : Ev.pm d ∈ (handle edit i).1) : d = i.data := by
  by_cases hk : i.cls = .known
  · rw [handle_known edit i hk] at h
    cases List.mem_singleton.mp h
    rfl
  · exact absurd h (handle_events_not_known edit i hk d)

/-- A message on a channel known to the proxy raises exactly one plugin-message event; other
    classes raise none. -/
theorem one_event_per_known_message (edit : Bytes → Bytes) (i : In) :
    (handle edit i).1.count (.pm i.data) = (if i.cls = .known then 1 else 0) := by
  by_cases hk : i.cls = .known
  · rw [handle_known edit i hk, if_pos hk]
    exact List.count_singleton_self
  · rw [if_neg hk]
    exact List.count_eq_zero_of_not_mem (handle_events_not_known edit i hk _)

/-- The data a handler sees is the data forwarded: on the event path the only thing ever written is a
    plugin message on the same channel whose body is the event's data as the handlers left it. -/
theorem forwarded_is_event_data (edit : Bytes → Bytes) (i : In) (h : i.cls = .known) :
    (handle edit i).2 = [] ∨ (handle edit i).2 = [.packet .known (edit i.data)] := by
  rw [handle_known edit i h]; unfold eventPath
  split
  · exact .inr rfl
  · exact .inl rfl

/-- … and it is written exactly when the event allows forwarding (site default, or the handler's SetForward). -/
theorem forwarded_iff_allowed (edit : Bytes → Bytes) (i : In) (h : i.cls = .known) :
    (handle edit i).2 ≠ [] ↔ i.allow.result i.site.forwardDefault = true := by
  rw [handle_known edit i h]; unfold eventPath
  split <;> simp_all

/-- Messages that do not go through an event are passed on untouched (the decoded message towards the
    backend, the raw payload towards the client). -/
theorem non_event_messages_pass_unchanged (edit : Bytes → Bytes) (i : In) (h : i.cls ≠ .known) :
    (handle edit i).2 = (if i.site.toBackend then [.packet i.cls i.data] else [.raw i.raw]) := by
  rw [handle_not_known edit i h]

/-- Event `k` of any history exposes its own message body, also when its subscriber looks after all
    later messages were handled. -/
theorem event_keeps_its_own_body (bodies : List Bytes) (k : Nat) :
    lateView (allocFresh [] bodies) k = bodies[k]? := by
  rw [allocFresh_eq]; simp [lateView]

/-- Later messages never change what an earlier event exposes. -/
theorem later_messages_never_change_earlier_event (bodies more : List Bytes) (k : Nat) (hk : k < bodies.length) :
    lateView (allocFresh [] (bodies ++ more)) k = lateView (allocFresh [] bodies) k := by
  rw [allocFresh_eq, allocFresh_eq]
  simp only [lateView, List.nil_append]
  rw [List.getElem?_append_left hk]

/-- With one reused scratch buffer this fails: the first event ends up exposing the second body. -/
theorem shared_scratch_buffer_fails :
    lateViewScratch (allocScratch ([], []) [[65, 65, 65], [66, 66, 66]]) 0 = some [66, 66, 66] := by decide

/-! ### the defects repaired by fixes/C25-*.diff, as kernel-checked witnesses on the pre-fix variant -/

/-- pre-fix: a successfully forwarded registration raised NO event … -/
theorem register_event_fails_for_defective_variant :
    handleDefective id ⟨.cp, .register, [97, 58, 98], [], .dflt, true⟩ = ([], [.packet .register [97, 58, 98]]) := by
  rfl
/-- … and a registration whose forward failed raised one. -/
theorem register_event_on_failed_write_for_defective_variant :
    (handleDefective id ⟨.cp, .register, [97, 58, 98], [], .dflt, false⟩).1 = [.reg] := by rfl
/-- pre-fix: the backend CONFIG handler's event exposed the raw packet payload, and what was forwarded
    was the raw payload, not what the handler saw/edited -/
theorem event_body_fails_for_defective_variant :
    handleDefective (fun _ => [0]) ⟨.bc, .known, [1, 2], [238, 238], .yes, true⟩ = ([.pm [238, 238]], [.raw [238, 238]]) := by
  rfl

/-! ### what still fails on the repaired tree (known finding)

Full-strength claim "every channel registration a client sends that the proxy forwards raises exactly one
register event" holds only in PLAY: the CONFIG and initial-connect client handlers pass a
`minecraft:register` message on like any other channel and raise no event. -/
theorem register_event_config_fails :
    ¬ (∀ (edit : Bytes → Bytes) (i : In), i.site.toBackend = true → i.cls = .register →
        forwarded i (handle edit i) = true → (handle edit i).1.count .reg = 1) := by
  intro h
  have := h id ⟨.cc, .register, [97, 58, 98], [], .dflt, true⟩ rfl rfl rfl
  revert this; decide
theorem register_event_initial_connect_fails :
    (handle id ⟨.ci, .register, [97, 58, 98], [], .dflt, true⟩) = ([], [.packet .register [97, 58, 98]]) := by rfl
/-- the part that holds: in PLAY -/
theorem register_event_partial (edit : Bytes → Bytes) (i : In) (hs : i.site = .cp) (hc : i.cls = .register)
    (hf : forwarded i (handle edit i) = true) : (handle edit i).1.count .reg = 1 := by
  simpa [hf] using (register_event_iff_forwarded edit i hs hc).2.1

/-! ### tie to the source (regenerated by tools/gofacts on every run) -/

open Gate.Gen.C25 in
/-- which events each handler can construct: only the client PLAY handler knows register/unregister
    events; all five construct PluginMessageEvent and a fresh plugin.Message for the event path;
    the transition handler constructs none -/
theorem src_event_sites :
    "PlayerChannelRegisterEvent" ∈ clientPlayLits ∧ "PlayerChannelUnregisterEvent" ∈ clientPlayLits ∧
    "PlayerChannelRegisterEvent" ∉ clientConfigLits ∧ "PlayerChannelRegisterEvent" ∉ clientInitialLits ∧
    (∀ l ∈ [clientPlayLits, clientConfigLits, clientInitialLits, backendPlayLits, backendConfigLits],
      "PluginMessageEvent" ∈ l ∧ "plugin.Message" ∈ l) ∧
    backendTransitionLits = [] := by decide +kernel

open Gate.Gen.C25 in
/-- every handler dispatches `*plugin.Message`; in the client PLAY handler the register branch writes
    before it fires; the backend CONFIG handler copies the body (`make`/`copy`) before firing and reads
    `pme.Data()` before forwarding; its forwardToPlayer has the WritePacket and the raw Write paths -/
theorem src_dispatch_and_order :
    "*plugin.Message" ∈ clientPlayCases ∧ "*plugin.Message" ∈ clientConfigCases ∧
    "*plugin.Message" ∈ clientInitialCases ∧ "*plugin.Message" ∈ backendPlayCases ∧
    "*plugin.Message" ∈ backendConfigCases ∧
    clientPlayCalls.idxOf "backendConn.WritePacket" < clientPlayCalls.idxOf "c.proxy().event.Fire" ∧
    clientPlayCalls.idxOf "c.proxy().event.Fire" < clientPlayCalls.idxOf "plugin.IsUnregister" ∧
    backendConfigCalls.idxOf "copy" < backendConfigCalls.idxOf "event.FireParallel" ∧
    "copy" ∈ backendConfigCalls ∧
    (∀ l ∈ [clientPlayCalls, clientInitialCalls, backendPlayCalls, backendConfigCalls],
      l.idxOf "make" < l.idxOf "copy" ∧ l.idxOf "copy" < l.idxOf "event.FireParallel" ∧
      l.idxOf "event.FireParallel" < l.length ∧ !l.contains "append") ∧
    backendConfigCalls.idxOf "func:{" < backendConfigCalls.idxOf "pme.Data" ∧ "pme.Data" ∈ backendConfigCalls ∧
    backendConfigForwardCalls = ["b.serverConn.player.WritePacket", "return", "b.serverConn.player.Write"] := by
  decide +kernel

/-! ### non-vacuity -/
example : forwarded ⟨.cp, .register, [1], [], .dflt, true⟩ (handle id ⟨.cp, .register, [1], [], .dflt, true⟩) = true := rfl
example : handle (fun d => d.map (· + 1)) ⟨.bc, .known, [1, 2], [9], .yes, true⟩ = ([.pm [1, 2]], [.packet .known [2, 3]]) := rfl
example : handle id ⟨.cc, .known, [1, 2], [9], .dflt, true⟩ = ([.pm [1, 2]], []) := rfl

end Gate.C25.Props
