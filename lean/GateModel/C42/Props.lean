import GateModel.C42.Lemmas
import GateModel.Gen.C42
/-
C42 — Futures complete once and run every callback exactly once.

All theorems quantify over EVERY schedule (`sched : List Nat`, any interleaving of the threads'
atomic actions) and, unless a `Mode` is named, hold for both lock disciplines.  The system is any
number of threads, each any list of `ThenAccept` / `Complete` / `ThenCompose` calls whose callbacks
are arbitrary `Cb` programs (log, complete another future, register on another future — including
the future they run for —, sequence).

  * first completion wins, later completions change nothing;
  * conservation: each callback occurrence is, at every moment, in exactly one place — the log, a
    work stack, or the callback list of an uncompleted future; hence never invoked twice, and in a
    terminal state invoked exactly once with the future's value unless its future never completed;
  * the repaired code never blocks, every schedule is finite, every schedule extends to a terminal one
    (so "exactly once" is reached in every maximal interleaving);
  * chain order: a composed future completes only after its source and the future returned by the
    callback, and with the latter's value;
  * the code before the fix (`Mode.defective`, mutex held while callbacks run) deadlocks:
    `…_defective_fails` witnesses (self re-entrancy, and two goroutines completing two futures
    whose callbacks register on each other);
  * source-shape facts regenerated from future.go: callbacks are invoked outside the critical section.
-/
namespace Gate.C42.Props
open Gate.C42

theorem first_completion_wins (m : Mode) (s s' : Sys) (sched : List Nat) (h : exec m s sched = some s')
    (f : FId) (v : Val) (hv : s.value f = some v) : s'.value f = some v :=
  exec_value_mono h hv

/-- `Complete(v)` on a future that is not completed fixes its value to `v` -/
theorem complete_fixes_value (m : Mode) (s s' : Sys) (t : Nat) (f : FId) (v : Val) (rest : List Task)
    (hth : s.threads[t]? = some (.call (.complete f v) :: rest)) (hv : s.value f = none)
    (hs : step m s t = some s') : s'.value f = some v := by
  rw [step_of_head hth] at hs
  cases stepTask_cases hs with
  | rewrite hr => cases hr with | completeDone hw => rw [hv] at hw; cases hw
  | fire _ => simp [upd]

/-- `Complete` on a completed future changes neither the value, nor the log, nor any callback list -/
theorem later_completion_ignored (m : Mode) (s s' : Sys) (t : Nat) (f : FId) (v w : Val) (rest : List Task)
    (hth : s.threads[t]? = some (.call (.complete f v) :: rest)) (hv : s.value f = some w)
    (hs : step m s t = some s') : s'.value = s.value ∧ s'.log = s.log ∧ s'.waiting = s.waiting := by
  rw [step_of_head hth] at hs
  cases stepTask_cases hs with
  | rewrite _ => exact ⟨rfl, rfl, rfl⟩
  | fire hn => rw [hv] at hn; cases hn

/-- conservation law, at every reachable state of every schedule -/
theorem callback_conservation (m : Mode) (threads : List (List Call)) (sched : List Nat) (s' : Sys)
    (h : exec m (mkSys threads) sched = some s') (τ : Tag) (f : FId) :
    logCnt τ f s' + waitCnt τ f s' + pend τ f s' = initCnt τ f threads := by
  have := exec_total h τ f
  rw [total_mkSys] at this
  exact this

theorem callback_at_most_once (m : Mode) (threads : List (List Call)) (sched : List Nat) (s' : Sys)
    (h : exec m (mkSys threads) sched = some s') (τ : Tag) (f : FId) :
    logCnt τ f s' ≤ initCnt τ f threads := by
  have := callback_conservation m threads sched s' h τ f
  omega

/-- every invocation recorded in the log carried the value of the future it ran for (and by
    `first_completion_wins` that value is the first completion's, for ever) -/
theorem callback_gets_future_value (m : Mode) (threads : List (List Call)) (sched : List Nat) (s' : Sys)
    (h : exec m (mkSys threads) sched = some s') :
    ∀ e ∈ s'.log, s'.value e.2.1 = some e.2.2 :=
  (exec_valInv h (valInv_mkSys threads)).log

/-- terminal states (every goroutine returned): each callback occurrence was invoked exactly once, or is
    still parked — and parked callbacks sit only on futures that were never completed -/
theorem callback_exactly_once_with_value (m : Mode) (threads : List (List Call)) (sched : List Nat) (s' : Sys)
    (h : exec m (mkSys threads) sched = some s') (hterm : terminal s' = true) (τ : Tag) (f : FId) :
    logCnt τ f s' + waitCnt τ f s' = initCnt τ f threads
    ∧ (∀ e ∈ s'.log, s'.value e.2.1 = some e.2.2)
    ∧ (∀ p ∈ s'.waiting, s'.value p.1 = none) := by
  have c := callback_conservation m threads sched s' h τ f
  rw [pend_terminal hterm] at c
  have vi := exec_valInv h (valInv_mkSys threads)
  exact ⟨by omega, vi.log, vi.wait⟩

/-- if nothing is left parked (every future that holds callbacks got completed) every callback ran
    exactly as often as it occurs in the program: once per occurrence -/
theorem all_callbacks_ran_exactly_once (m : Mode) (threads : List (List Call)) (sched : List Nat) (s' : Sys)
    (h : exec m (mkSys threads) sched = some s') (hterm : terminal s' = true) (hw : s'.waiting = [])
    (τ : Tag) (f : FId) : logCnt τ f s' = initCnt τ f threads := by
  have := (callback_exactly_once_with_value m threads sched s' h hterm τ f).1
  simp [waitCnt, hw] at this
  exact this

theorem repaired_never_blocks (s : Sys) (t : Nat) (task : Task) (rest : List Task)
    (hth : s.threads[t]? = some (task :: rest)) : (step .repaired s t).isSome = true :=
  step_repaired_some hth

theorem schedules_are_bounded (m : Mode) (s s' : Sys) (sched : List Nat) (h : exec m s sched = some s') :
    sched.length + weight s' ≤ weight s :=
  exec_weight h

theorem repaired_always_reaches_terminal (s s' : Sys) (sched : List Nat)
    (_h : exec .repaired s sched = some s') :
    ∃ more s'', exec .repaired s' more = some s'' ∧ terminal s'' = true :=
  extend_to_terminal s'

/-- no deadlock: a reachable non-terminal state of the repaired code always has an enabled thread -/
theorem repaired_no_deadlock (s s' : Sys) (sched : List Nat) (_h : exec .repaired s sched = some s')
    (hnt : terminal s' = false) : ∃ t, (step .repaired s' t).isSome = true := by
  obtain ⟨t, task, rest, hth⟩ := exists_work hnt
  exact ⟨t, step_repaired_some hth⟩

/-- if every `complete out` in the program is guarded by registrations on the futures `P`
    (`protCall`), then in every reachable state `out` completed implies all of `P` completed -/
theorem chain_order (m : Mode) (P : List FId) (out : FId) (threads : List (List Call))
    (hinit : ∀ cs ∈ threads, ∀ c ∈ cs, protCall P out c = true)
    (sched : List Nat) (s' : Sys) (h : exec m (mkSys threads) sched = some s') :
    isDone s' out = true → ∀ p ∈ P, isDone s' p = true := by
  intro hd
  obtain ⟨v, hv⟩ := Option.isSome_iff_exists.1 hd
  exact List.all_eq_true.1
    (((prot_guard P out).after_exec h (valInv_mkSys threads) (guarded_mkSys threads hinit)).outv v hv)

/-- `ThenCompose(f, k)` with `k` returning `g` guards its `out` by `f` and `g` -/
theorem compose_protected (f g out : FId) (eff : Cb) (h : noComplete out eff = true) :
    protCall [f, g] out (compose f g out eff) = true := by
  simp only [protCall, protTask, compose, composeCb, protCb, Bool.and_eq_true]
  refine ⟨protCb_noComplete _ _ _ _ h, ?_⟩
  simp

/-- calls that never complete `out` are trivially guarded -/
theorem unrelated_call_protected (P : List FId) (out : FId) :
    (∀ f cb, noComplete out cb = true → protCall P out (.thenAccept f cb) = true)
    ∧ (∀ f v, f ≠ out → protCall P out (.complete f v) = true) := by
  refine ⟨fun f cb h => protCb_noComplete _ _ _ _ h, fun f v h => ?_⟩
  simp [protCall, protTask, h]

/-- a whole chain: for every link `(f, g, out)` guarded as above, `out` is completed only after `f`
    and `g` — so a chain `f₀ → out₁ → out₂ → …` completes in chain order, under every schedule -/
theorem chain_completes_in_order (m : Mode) (links : List (FId × FId × FId)) (threads : List (List Call))
    (hinit : ∀ l ∈ links, ∀ cs ∈ threads, ∀ c ∈ cs, protCall [l.1, l.2.1] l.2.2 c = true)
    (sched : List Nat) (s' : Sys) (h : exec m (mkSys threads) sched = some s') :
    ∀ l ∈ links, isDone s' l.2.2 = true → isDone s' l.1 = true ∧ isDone s' l.2.1 = true := by
  intro l hl hd
  have := chain_order m [l.1, l.2.1] l.2.2 threads (hinit l hl) sched s' h hd
  exact ⟨this _ (by simp), this _ (by simp)⟩

/-- the composed future takes the value of the future returned by the callback -/
theorem compose_value (m : Mode) (out g : FId) (threads : List (List Call))
    (hinit : ∀ cs ∈ threads, ∀ c ∈ cs, srcCall out g c = true)
    (sched : List Nat) (s' : Sys) (h : exec m (mkSys threads) sched = some s') (v : Val)
    (hv : s'.value out = some v) : s'.value g = some v :=
  ((src_guard out g).after_exec h (valInv_mkSys threads)
    (guarded_mkSys threads fun cs hcs c hc => srcTask_mkSys (hinit cs hcs c hc))).outv v hv

theorem compose_source (f g out : FId) (eff : Cb) (h : noComplete out eff = true) :
    srcCall out g (compose f g out eff) = true := by
  simp only [srcCall, compose, composeCb, srcCb, Bool.and_eq_true]
  exact ⟨srcCb_noComplete _ _ _ _ h, by simp⟩

/-! ### non-vacuity: a three-link chain completed by three other goroutines in the "wrong" order -/

def chainProg : List (List Call) :=
  [ [compose 0 1 4 (.log 1), compose 4 2 5 (.log 2), compose 5 3 6 .nop, .thenAccept 6 (.log 3)],
    [.complete 3 30], [.complete 2 20, .complete 0 10], [.complete 1 11, .complete 1 12] ]
def chainLinks : List (FId × FId × FId) := [(0, 1, 4), (4, 2, 5), (5, 3, 6)]

example : ∀ l ∈ chainLinks, ∀ cs ∈ chainProg, ∀ c ∈ cs, protCall [l.1, l.2.1] l.2.2 c = true := by decide +kernel
example : ∀ cs ∈ chainProg, ∀ c ∈ cs, srcCall 6 3 c = true := by decide +kernel
/-- one concrete schedule of it reaches a terminal state in which the last link is completed with
    `g₃`'s value and `log 3` ran once -/
example : (match exec .repaired (mkSys chainProg) (List.replicate 40 0 ++ [1, 2, 2, 3, 3] ++ List.replicate 40 3
      ++ List.replicate 40 2 ++ List.replicate 40 1) with
    | some _ => false | none => true) = true := by decide +kernel

/-! ### registration and completion are atomic with respect to each other

The theorems above are about the machine whose atomic steps are the critical sections of the source:
`ThenAccept` checks `completed` AND appends (or reads the value) in ONE section of an exclusive lock.  That
granularity is a regenerated fact (`thenAccept_check_and_append_one_exclusive_section` below).  A variant that
peeks `completed` in one section (say under a read lock) and appends in a later one is a different machine
(`stepSplit`): it parks callbacks on completed futures, where they never run. -/

/-- at EVERY reachable state of every schedule: a parked callback sits on a future that is not completed
    (so the completion that comes later will run it) -/
theorem never_parked_on_completed_future (m : Mode) (threads : List (List Call)) (sched : List Nat) (s' : Sys)
    (h : exec m (mkSys threads) sched = some s') : ∀ p ∈ s'.waiting, s'.value p.1 = none :=
  (exec_valInv h (valInv_mkSys threads)).wait

/-- one registrar, one completer -/
def raceProg : List (List Call) := [[.thenAccept 0 (.log 1)], [.complete 0 7]]

def lostAfterSplit (sched : List Nat) : Bool :=
  match execSplit (mkSys raceProg) sched with
  | some s => terminal s && s.value 0 == some 7 && logCnt 1 0 s == 0 && s.waiting.any (·.1 == 0)
  | none => false

/-- split check: peek (not completed) · Complete runs entirely · append ⇒ the callback ran 0 times and is
    parked for ever on a completed future -/
theorem split_check_defective_fails : lostAfterSplit [0, 1, 0] = true := by decide +kernel

/-- so the full-strength statement fails for that variant … -/
theorem never_parked_split_check_fails :
    ¬ (∀ (sched : List Nat) (s : Sys), execSplit (mkSys raceProg) sched = some s →
        ∀ p ∈ s.waiting, s.value p.1 = none) := by
  intro hall
  have hw := split_check_defective_fails
  unfold lostAfterSplit at hw
  split at hw
  · rename_i s hs
    simp only [Bool.and_eq_true, List.any_eq_true, beq_iff_eq] at hw
    obtain ⟨⟨⟨_, hv⟩, _⟩, p, hp, hp0⟩ := hw
    have := hall _ s hs p hp
    rw [hp0, hv] at this; cases this
  · cases hw

/-- exhaustive exploration of EVERY schedule of a (small) system under the source's granularity -/
def forallRuns : Nat → Sys → (Sys → Bool) → Bool
  | 0, _, _ => false
  | fuel + 1, s, P =>
    if terminal s then P s else
    (List.range s.threads.length).all fun t => match step .repaired s t with
      | none => true
      | some s' => forallRuns fuel s' P

/-- … while under the source's granularity every one of the schedules of the same program ends with the
    callback invoked exactly once and nothing parked (besides the general theorems above, which say so
    for every program) -/
example : forallRuns 8 (mkSys raceProg) (fun s => logCnt 1 0 s == 1 && s.waiting.isEmpty && s.value 0 == some 7) = true := by
  decide +kernel

/-! ### the code before the fix (`Mode.defective`): callbacks ran with the mutex held -/

/-- `f.ThenAccept(func(v){ f.ThenAccept(log 1) })` then `f.Complete(7)` on one goroutine -/
def reentrantProg : List (List Call) := [[.thenAccept 0 (.accept 0 (.log 1)), .complete 0 7]]

/-- two goroutines complete `f0`, `f1`; `f0`'s callback registers on `f1` and vice versa -/
def crossProg : List (List Call) :=
  [[.thenAccept 0 (.accept 1 (.log 1)), .thenAccept 1 (.accept 0 (.log 2)), .complete 0 5], [.complete 1 6]]

/-- after `sched` the system is stuck for ever: some thread has work, no thread is enabled -/
def stuckAfter (m : Mode) (prog : List (List Call)) (sched : List Nat) : Bool :=
  match exec m (mkSys prog) sched with
  | some s => !terminal s && (List.range s.threads.length).all (fun t => (step m s t).isNone)
  | none => false

theorem stuck_is_deadlock (m : Mode) (prog : List (List Call)) (sched : List Nat)
    (h : stuckAfter m prog sched = true) :
    ∃ s, exec m (mkSys prog) sched = some s ∧ terminal s = false ∧ ∀ t, step m s t = none := by
  unfold stuckAfter at h
  split at h
  · rename_i s hs
    simp only [Bool.and_eq_true, Bool.not_eq_true', List.all_eq_true, List.mem_range] at h
    refine ⟨s, hs, h.1, fun t => ?_⟩
    by_cases ht : t < s.threads.length
    · have := h.2 t ht
      simpa using this
    · exact step_none_of_ge m s t (Nat.le_of_not_lt ht)
  · cases h

/-- a deadlocked state is not terminal and no schedule leads on from it -/
private theorem stuck_never_terminal (m : Mode) (prog : List (List Call)) (sched : List Nat)
    (h : stuckAfter m prog sched = true) :
    ¬ (∀ sched s', exec m (mkSys prog) sched = some s' →
        ∃ more s'', exec m s' more = some s'' ∧ terminal s'' = true) := by
  intro hall
  obtain ⟨s, hs, hnt, hstuck⟩ := stuck_is_deadlock m prog sched h
  obtain ⟨more, s'', he, ht⟩ := hall _ _ hs
  cases more with
  | nil => cases Option.some.inj he; rw [hnt] at ht; cases ht
  | cons t ts => rw [(runs m).cons, hstuck t] at he; cases he

/-- the full-strength statement "every schedule extends to a terminal state" FAILS for the code
    before the fix: a callback that registers on its own future blocks its goroutine for ever, and
    the registered callback never runs -/
theorem self_reentrancy_defective_fails :
    ¬ (∀ sched s', exec .defective (mkSys reentrantProg) sched = some s' →
        ∃ more s'', exec .defective s' more = some s'' ∧ terminal s'' = true) :=
  stuck_never_terminal .defective reentrantProg [0, 0, 0] (by decide +kernel)

/-- same with no self re-entrancy at all: two goroutines, two futures, callbacks registering on the
    *other* future (lock-order inversion between `f0.mu` and `f1.mu`) -/
theorem cross_future_defective_fails :
    ¬ (∀ sched s', exec .defective (mkSys crossProg) sched = some s' →
        ∃ more s'', exec .defective s' more = some s'' ∧ terminal s'' = true) :=
  stuck_never_terminal .defective crossProg [0, 0, 0, 1, 0, 1] (by decide +kernel)

/-- What does hold for the defective code: safety (conservation, values, chain order — the theorems
    above are for every `Mode`); only termination fails.  On the repaired code the same two programs
    cannot block (`repaired_never_blocks`) and e.g. these schedules end with every callback invoked
    exactly once (every other schedule too, by `all_callbacks_ran_exactly_once`). -/
def endsWellAfter (prog : List (List Call)) (sched : List Nat) (expect : List (Tag × FId)) : Bool :=
  match exec .repaired (mkSys prog) sched with
  | some s => terminal s && s.waiting.isEmpty && expect.all (fun e => logCnt e.1 e.2 s == 1)
  | none => false

example : endsWellAfter reentrantProg [0, 0, 0, 0, 0] [(1, 0)] = true := by decide +kernel
example : endsWellAfter crossProg [0, 0, 0, 1, 0, 1, 0, 1, 0, 1] [(1, 1), (2, 0)] = true := by decide +kernel
example : endsWellAfter crossProg [0, 0, 1, 1, 1, 0, 0, 0, 0, 0] [(1, 1), (2, 0)] = true := by decide +kernel

/-! ### tie to the source: lock regions regenerated from future.go by tools/gofacts -/

/-- `ThenAccept` invokes the callback after releasing the mutex -/
theorem thenAccept_callback_outside_lock : heldAtCall Gate.Gen.C42.thenAcceptCalls "callback" = false := by decide +kernel
/-- `Complete` invokes the registered callbacks after releasing the mutex -/
theorem complete_callbacks_outside_lock : heldAtCall Gate.Gen.C42.completeCalls "fn" = false := by decide +kernel
/-- registration (`append`) happens inside the one critical section of `ThenAccept` -/
theorem thenAccept_single_critical_section :
    countOf Gate.Gen.C42.thenAcceptCalls "f.mu.Lock" = 1 ∧ heldAtCall Gate.Gen.C42.thenAcceptCalls "append" = true
    ∧ countOf Gate.Gen.C42.thenAcceptCalls "defer:f.mu.Unlock" = 0
    ∧ countOf Gate.Gen.C42.thenAcceptCalls "callback" = 1 := by decide +kernel
theorem complete_single_critical_section :
    countOf Gate.Gen.C42.completeCalls "f.mu.Lock" = 1 ∧ countOf Gate.Gen.C42.completeCalls "defer:f.mu.Unlock" = 0
    ∧ countOf Gate.Gen.C42.completeCalls "fn" = 1 := by decide +kernel
/-- check-and-append is ONE critical section of an EXCLUSIVE lock: `ThenAccept` starts by taking `f.mu.Lock`,
    never uses a read lock / TryLock, takes the lock once, appends inside it and invokes the callback only after
    the last `Unlock`; `Complete` likewise drains inside its single exclusive section -/
theorem thenAccept_check_and_append_one_exclusive_section :
    Gate.Gen.C42.thenAcceptCalls = ["f.mu.Lock", "append", "f.mu.Unlock", "return", "f.mu.Unlock", "callback", "return"] ∧
    Gate.Gen.C42.completeCalls = ["f.mu.Lock", "f.mu.Unlock", "return", "f.mu.Unlock", "fn", "return"] ∧
    countOf Gate.Gen.C42.thenAcceptCalls "f.mu.RLock" = 0 ∧ countOf Gate.Gen.C42.thenAcceptCalls "f.mu.RUnlock" = 0 ∧
    countOf Gate.Gen.C42.thenAcceptCalls "f.mu.TryLock" = 0 ∧ countOf Gate.Gen.C42.completeCalls "f.mu.RLock" = 0 ∧
    Gate.Gen.C42.thenAcceptCalls.head? = some "f.mu.Lock" ∧ Gate.Gen.C42.completeCalls.head? = some "f.mu.Lock" := by
  decide +kernel

/-- `ThenCompose` is exactly `out := New(); f.ThenAccept(func(v){ callback(v).ThenAccept(func(u){ out.Complete(u) }) })` -/
theorem thenCompose_shape : Gate.Gen.C42.thenComposeCalls =
    ["New[]", "func:{", "callback", "func:{", "out.Complete", "}", "callback().ThenAccept", "}", "f.ThenAccept", "return"] := by
  decide +kernel

end Gate.C42.Props
