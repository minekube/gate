import GateModel.C42.Model
import GateModel.Base.Sched
/-
C42 helper lemmas.  `step_cases` sorts the steps into four kinds: most only rewrite the head of a work stack
(`Rewrite`), the other three park a callback, fire the callbacks of a future, or log.  Each invariant (values never
change, values carried by invocations, conservation of callback occurrences, the termination weight) is a small fact
about `Rewrite` plus those three cases.  Chain order and value transfer are two instances of one invariant shape
(`Guard`): a property of tasks that a callback keeps from its registration to its invocation.
-/
namespace Gate.C42

theorem sum_filter_split {α} (h : α → Nat) (p : α → Bool) : ∀ l : List α,
    ((l.filter p).map h).sum + ((l.filter (fun a => !p a)).map h).sum = (l.map h).sum
  | [] => by simp
  | a :: l => by
      have := sum_filter_split h p l
      by_cases hp : p a <;> simp [List.filter, hp] <;> omega

theorem sum_map_le {α} (h1 h2 : α → Nat) (hh : ∀ a, h1 a ≤ h2 a) : ∀ l : List α, (l.map h1).sum ≤ (l.map h2).sum
  | [] => by simp
  | a :: l => by have := sum_map_le h1 h2 hh l; have := hh a; simp; omega

theorem runs (m : Mode) : Runs (step m) (exec m) := ⟨fun _ => rfl, fun _ _ _ => rfl⟩

theorem exec_append (m : Mode) : ∀ (a b : List Nat) (s : Sys),
    exec m s (a ++ b) = (exec m s a).bind (fun s' => exec m s' b) :=
  (runs m).append

/-! ### the four kinds of step -/

/-- `task` is replaced by `new` on top of its stack and nothing else happens -/
inductive Rewrite (m : Mode) (s : Sys) : Task → List Task → Prop
  | acceptDone {f cb v} : s.value f = some v → Rewrite m s (.call (.thenAccept f cb)) (.run f cb v :: lockTail m f)
  | completeDone {f v w} : s.value f = some w → Rewrite m s (.call (.complete f v)) []
  | nop {o v} : Rewrite m s (.run o .nop v) []
  | complete {o g v} : Rewrite m s (.run o (.complete g) v) [.call (.complete g v)]
  | accept {o g cb v} : Rewrite m s (.run o (.accept g cb) v) [.call (.thenAccept g cb)]
  | seq {o a b v} : Rewrite m s (.run o (.seq a b) v) [.run o a v, .run o b v]
  | unlock {f} : Rewrite m s (.unlock f) []
  | appendCb {f cb} : Rewrite m s (.appendCb f cb) [.call (.thenAccept f cb)]

/-- what thread `t` executing `task` in front of `rest` leads to (who holds a mutex matters to no invariant) -/
inductive StepTo (m : Mode) (s : Sys) (t : Nat) (rest : List Task) : Task → Sys → Prop
  | rewrite {task new hold} : Rewrite m s task new →
      StepTo m s t rest task { s with holder := hold, threads := s.threads.set t (new ++ rest) }
  | park {f cb} : s.value f = none →
      StepTo m s t rest (.call (.thenAccept f cb))
        { s with waiting := s.waiting ++ [(f, cb)], threads := s.threads.set t rest }
  | fire {f v} : s.value f = none →
      StepTo m s t rest (.call (.complete f v))
        { s with value := upd s.value f (some v), holder := hold m s f t,
                 waiting := s.waiting.filter (fun p => !(p.1 == f)),
                 threads := s.threads.set t (fired s f v ++ (lockTail m f ++ rest)) }
  | log {o tag v} :
      StepTo m s t rest (.run o (.log tag) v) { s with log := s.log ++ [(tag, o, v)], threads := s.threads.set t rest }

theorem stepTask_cases {m s t task rest s'} (h : stepTask m s t task rest = some s') :
    StepTo m s t rest task s' := by
  unfold stepTask at h
  repeat' split at h
  all_goals cases h
  · exact .rewrite (.acceptDone ‹_›)
  · exact .park ‹_›
  · exact .rewrite (new := []) (.completeDone ‹_›)
  · exact .fire ‹_›
  · exact .rewrite (new := []) .nop
  · exact .log
  · exact .rewrite .complete
  · exact .rewrite .accept
  · exact .rewrite .seq
  · exact .rewrite (new := []) .unlock
  · exact .rewrite .appendCb

theorem step_of_head {m s t task rest} (hth : s.threads[t]? = some (task :: rest)) :
    step m s t = stepTask m s t task rest := by
  unfold step; rw [hth]

theorem step_cases {m s t s'} (h : step m s t = some s') :
    ∃ task rest, s.threads[t]? = some (task :: rest) ∧ StepTo m s t rest task s' := by
  unfold step at h
  split at h
  · exact ⟨_, _, ‹_›, stepTask_cases h⟩
  · cases h

theorem step_none_of_ge (m : Mode) (s : Sys) (t : Nat) (h : s.threads.length ≤ t) : step m s t = none := by
  unfold step
  rw [List.getElem?_eq_none h]

theorem mem_lockTail {m : Mode} {f : FId} {x : Task} (h : x ∈ lockTail m f) : x = .unlock f := by
  cases m
  · cases h
  · exact List.mem_singleton.1 h

/-- A property of the tasks on the stacks survives a step if it survives the change of state and holds of what the
    step pushes: the rewritten head, or the fired callbacks and the deferred unlock, or nothing. -/
theorem tasks_after {Q : Sys → Task → Prop} {m s s' t task rest} (hth : s.threads[t]? = some (task :: rest))
    (h : StepTo m s t rest task s') (hmono : ∀ x, Q s x → Q s' x) (inv : ∀ th ∈ s.threads, ∀ x ∈ th, Q s x)
    (hrew : ∀ new, Rewrite m s task new → ∀ x ∈ new, Q s' x)
    (hfire : ∀ f v, s'.value f = some v → ∀ p ∈ s.waiting, p.1 = f → Q s' (.run f p.2 v))
    (hunlock : ∀ f, Q s' (.unlock f)) : ∀ th ∈ s'.threads, ∀ x ∈ th, Q s' x := by
  have push : ∀ new, s'.threads = s.threads.set t (new ++ rest) → (∀ x ∈ new, Q s' x) →
      ∀ th ∈ s'.threads, ∀ x ∈ th, Q s' x := by
    intro new hs' hnew th hth' x hx
    rw [hs'] at hth'
    rcases List.mem_or_eq_of_mem_set hth' with h' | rfl
    · exact hmono x (inv th h' x hx)
    · rcases List.mem_append.1 hx with hx | hx
      · exact hnew x hx
      · exact hmono x (inv _ (List.mem_of_getElem? hth) x (List.mem_cons_of_mem _ hx))
  cases h with
  | rewrite hr => exact push _ rfl (hrew _ hr)
  | park _ => exact push [] rfl nofun
  | log => exact push [] rfl nofun
  | @fire f v _ =>
    refine push (fired s f v ++ lockTail m f) (by simp) fun x hx => ?_
    rcases List.mem_append.1 hx with hx | hx
    · obtain ⟨p, hp, rfl⟩ := List.mem_map.1 hx
      have hp := List.mem_filter.1 hp
      exact hfire f v (by simp [upd]) p hp.1 (beq_iff_eq.1 hp.2)
    · rw [mem_lockTail hx]; exact hunlock f

theorem upd_keep {m : FId → Option Val} {f o : FId} {x : Option Val} {v : Val}
    (h : m o = some v) (hf : m f = none) : upd m f x o = some v := by
  unfold upd
  by_cases e : o = f
  · subst e; rw [hf] at h; cases h
  · rw [if_neg e]; exact h

/-! ### I1: the value of a future never changes once set -/

theorem stepTo_value_mono {m s t task rest s'} (h : StepTo m s t rest task s')
    {f : FId} {v : Val} (hv : s.value f = some v) : s'.value f = some v := by
  cases h with
  | fire hn => exact upd_keep hv hn
  | _ => exact hv

theorem step_value_mono {m s t s'} (h : step m s t = some s') {f v} (hv : s.value f = some v) :
    s'.value f = some v :=
  have ⟨_, _, _, h⟩ := step_cases h
  stepTo_value_mono h hv

theorem exec_value_mono {m sched s s'} (h : exec m s sched = some s') {f v} (hv : s.value f = some v) :
    s'.value f = some v :=
  (runs m).induct (fun s => s.value f = some v) (fun _ _ _ hp hs => step_value_mono hs hp) hv h

/-! ### I2: values carried by pending invocations, log entries and waiting callbacks -/

/-- an invocation on a work stack carries the value of the future it runs for -/
def runOK (s : Sys) : Task → Prop
  | .run o _ v => s.value o = some v
  | _ => True

structure ValInv (s : Sys) : Prop where
  run  : ∀ th ∈ s.threads, ∀ x ∈ th, runOK s x
  log  : ∀ e ∈ s.log, s.value e.2.1 = some e.2.2
  wait : ∀ p ∈ s.waiting, s.value p.1 = none

theorem valInv_mkSys (threads : List (List Call)) : ValInv (mkSys threads) := by
  refine ⟨fun th hth x hx => ?_, fun e he => (nomatch he), fun p hp => (nomatch hp)⟩
  obtain ⟨cs, _, rfl⟩ := List.mem_map.1 hth
  obtain ⟨c, _, rfl⟩ := List.mem_map.1 hx
  trivial

theorem runOK_mono {s s' : Sys} (hm : ∀ f v, s.value f = some v → s'.value f = some v) (x : Task)
    (h : runOK s x) : runOK s' x := by
  cases x with
  | run o cb v => exact hm o v h
  | _ => trivial

theorem rewrite_carries {m s task new} (hr : Rewrite m s task new) (hh : runOK s task) : ∀ x ∈ new, runOK s x := by
  intro x hx
  cases hr with
  | acceptDone hv =>
    rcases List.mem_cons.1 hx with rfl | hx
    · exact hv
    · rw [mem_lockTail hx]; trivial
  | seq =>
    simp only [List.mem_cons, List.not_mem_nil, or_false] at hx
    rcases hx with rfl | rfl <;> exact hh
  | _ =>
    first
    | (rw [List.mem_singleton.1 hx]; trivial)
    | cases hx

theorem step_valInv {m s t s'} (h : step m s t = some s') (inv : ValInv s) : ValInv s' := by
  obtain ⟨task, rest, hth, h⟩ := step_cases h
  have hmono : ∀ f v, s.value f = some v → s'.value f = some v := fun f v hv => stepTo_value_mono h hv
  have hhead : runOK s task := inv.run _ (List.mem_of_getElem? hth) task (List.mem_cons_self ..)
  have run := tasks_after hth h (runOK_mono hmono) inv.run
    (fun new hr x hx => runOK_mono hmono x (rewrite_carries hr hhead x hx)) (fun f v hv _ _ _ => hv) (fun _ => trivial)
  have hlog : ∀ e ∈ s.log, s'.value e.2.1 = some e.2.2 := fun e he => hmono _ _ (inv.log e he)
  cases h with
  | rewrite hr => exact ⟨run, inv.log, inv.wait⟩
  | park hv =>
    refine ⟨run, inv.log, fun p hp => ?_⟩
    rcases List.mem_append.1 hp with hp | hp
    · exact inv.wait p hp
    · rw [List.mem_singleton.1 hp]; exact hv
  | @fire f v hv =>
    refine ⟨run, hlog, fun p hp => ?_⟩
    have hp := List.mem_filter.1 hp
    have hne : p.1 ≠ f := by simpa using hp.2
    simp [upd, hne, inv.wait p hp.1]
  | log =>
    refine ⟨run, fun e he => ?_, inv.wait⟩
    rcases List.mem_append.1 he with he | he
    · exact inv.log e he
    · rw [List.mem_singleton.1 he]; exact hhead

theorem exec_valInv {m sched s s'} (h : exec m s sched = some s') (inv : ValInv s) : ValInv s' :=
  (runs m).induct ValInv (fun _ _ _ hp hs => step_valInv hs hp) inv h

/-! ### sums over the work stacks: the form shared by the occurrence count (I3) and the termination weight -/

def stackSum (h : Task → Nat) (th : List Task) : Nat := (th.map h).sum

theorem stackSum_append (h : Task → Nat) (a b : List Task) : stackSum h (a ++ b) = stackSum h a + stackSum h b := by
  simp [stackSum]

theorem stackSum_cons (h : Task → Nat) (a : Task) (b : List Task) : stackSum h (a :: b) = h a + stackSum h b := by
  simp [stackSum]

theorem stackSum_fired (h : Task → Nat) (s : Sys) (f : FId) (v : Val) :
    stackSum h (fired s f v) = ((s.waiting.filter (fun p => p.1 == f)).map (fun p => h (Task.run f p.2 v))).sum := by
  simp [stackSum, fired, List.map_map, Function.comp_def]

/-- the step replaces `task` by `new`: the sum over all stacks changes by the difference -/
theorem threads_set_sum (h : Task → Nat) {s : Sys} {t task rest} (hth : s.threads[t]? = some (task :: rest))
    (new : List Task) :
    ((s.threads.set t (new ++ rest)).map (stackSum h)).sum + h task
      = (s.threads.map (stackSum h)).sum + stackSum h new := by
  have := sum_map_set (stackSum h) s.threads t (task :: rest) (new ++ rest) hth
  rw [stackSum_cons, stackSum_append] at this
  omega

/-! ### I3: conservation of callback occurrences -/

theorem cntStack_eq (τ f) : cntStack τ f = stackSum (cntTask τ f) := rfl

theorem cnt_lockTail (τ f m g) : stackSum (cntTask τ f) (lockTail m g) = 0 := by
  cases m <;> rfl

theorem rewrite_cnt {m s task new} (hr : Rewrite m s task new) (τ : Tag) (f : FId) :
    stackSum (cntTask τ f) new = cntTask τ f task := by
  cases hr
  case acceptDone => rw [stackSum_cons, cnt_lockTail]; rfl
  all_goals simp [stackSum, cntTask, cntCb]

theorem filter_single_len (τ : Tag) (f : FId) (tag : Tag) (o : FId) (v : Val) :
    (List.filter (fun e : Tag × FId × Val => e.1 == τ && e.2.1 == f) [(tag, o, v)]).length
      = if tag = τ ∧ o = f then 1 else 0 := by
  rw [List.filter_cons]
  split <;> split <;> simp_all

theorem step_total {m s t s'} (h : step m s t = some s') (τ : Tag) (f : FId) : total τ f s' = total τ f s := by
  obtain ⟨task, rest, hth, h⟩ := step_cases h
  have key := threads_set_sum (cntTask τ f) hth
  cases h with
  | @rewrite _ new _ hr =>
    have := key new
    have := rewrite_cnt hr τ f
    simp only [total, logCnt, waitCnt, pend, cntStack_eq] at *
    omega
  | park _ =>
    have := key []
    simp only [total, logCnt, waitCnt, pend, cntStack_eq, cntTask, List.map_append, List.sum_append,
      List.map_cons, List.map_nil, List.sum_cons, List.sum_nil, List.nil_append, stackSum] at *
    omega
  | @fire g v _ =>
    -- the callbacks taken off `g`'s list are exactly the ones pushed as invocations
    have := key (fired s g v ++ lockTail m g)
    have hsplit := sum_filter_split (fun p : FId × Cb => cntCb τ f p.1 p.2) (fun p => p.1 == g) s.waiting
    have hfired : stackSum (cntTask τ f) (fired s g v)
        = ((s.waiting.filter (fun p => p.1 == g)).map (fun p => cntCb τ f p.1 p.2)).sum := by
      rw [stackSum_fired]
      congr 1
      exact List.map_congr_left fun p hp => by rw [← beq_iff_eq.1 (List.mem_filter.1 hp).2]; rfl
    simp only [total, logCnt, waitCnt, pend, cntStack_eq, stackSum_append, cnt_lockTail, cntTask,
      List.append_assoc] at *
    omega
  | log =>
    have := key []
    simp only [total, logCnt, waitCnt, pend, cntStack_eq, cntTask, cntCb, List.filter_append,
      List.length_append, filter_single_len, List.nil_append, stackSum, List.map_nil, List.sum_nil] at *
    omega

theorem exec_total {m sched s s'} (h : exec m s sched = some s') (τ f) : total τ f s' = total τ f s :=
  (runs m).induct (fun x => total τ f x = total τ f s) (fun _ _ _ hp hs => (step_total hs τ f).trans hp)
    rfl h

theorem total_mkSys (τ f) (threads : List (List Call)) : total τ f (mkSys threads) = initCnt τ f threads := by
  simp [total, logCnt, waitCnt, pend, mkSys, initCnt, cntStack, List.map_map, Function.comp_def]

theorem terminal_iff (s : Sys) : terminal s = true ↔ ∀ th ∈ s.threads, th = [] :=
  all_isEmpty_iff s.threads

theorem pend_terminal {s : Sys} (h : terminal s = true) (τ f) : pend τ f s = 0 :=
  List.sum_eq_zero_iff_forall_eq_nat.2 fun n hn => by
    obtain ⟨th, hth, rfl⟩ := List.mem_map.1 hn
    rw [(terminal_iff s).1 h th hth]
    rfl

/-! ### termination weight -/

theorem w_lockTail (m g) : stackSum wTask (lockTail m g) ≤ 1 := by
  cases m <;> simp [lockTail, stackSum, wTask]

theorem wCb_pos (cb : Cb) : 1 ≤ wCb cb := by cases cb <;> simp [wCb] <;> omega

theorem rewrite_weight {m s task new} (hr : Rewrite m s task new) : stackSum wTask new + 1 ≤ wTask task := by
  cases hr
  case acceptDone f _ _ _ =>
    have := w_lockTail m f
    simp only [stackSum_cons, wTask]
    omega
  all_goals simp [stackSum, wTask, wCb]
  all_goals omega

theorem step_weight {m s t s'} (h : step m s t = some s') : weight s' + 1 ≤ weight s := by
  obtain ⟨task, rest, hth, h⟩ := step_cases h
  have key := threads_set_sum wTask hth
  have wst : wStack = stackSum wTask := rfl
  cases h with
  | @rewrite _ new _ hr =>
    have := key new
    have := rewrite_weight hr
    simp only [weight, wst] at *
    omega
  | park _ =>
    have := key []
    simp only [weight, wst, wTask, List.map_append, List.sum_append, List.map_cons, List.map_nil, List.sum_cons,
      List.sum_nil, List.nil_append, stackSum] at *
    omega
  | @fire g v _ =>
    -- an invocation weighs less than the parked callback it comes from
    have := key (fired s g v ++ lockTail m g)
    have := w_lockTail m g
    have hsplit := sum_filter_split (fun p : FId × Cb => wCb p.2 + 1) (fun p => p.1 == g) s.waiting
    have hle := sum_map_le (fun p : FId × Cb => wTask (Task.run g p.2 v)) (fun p => wCb p.2 + 1)
      (by intro a; simp [wTask]) (s.waiting.filter (fun p => p.1 == g))
    simp only [weight, wst, stackSum_append, stackSum_fired, wTask, List.append_assoc] at *
    omega
  | log =>
    have := key []
    simp only [weight, wst, wTask, wCb, List.nil_append, stackSum, List.map_nil, List.sum_nil] at *
    omega

theorem exec_weight {m sched s s'} (h : exec m s sched = some s') : sched.length + weight s' ≤ weight s :=
  (runs m).length_le weight (fun _ _ _ => step_weight) h

/-! ### progress of the repaired code: a thread with work left is always enabled -/

theorem stepTask_repaired_some (s : Sys) (t : Nat) (task : Task) (rest : List Task) :
    (stepTask .repaired s t task rest).isSome = true := by
  -- the only `none` branches are those behind `blocked`, which is `false` for the repaired code
  unfold stepTask
  repeat' split
  all_goals first | rfl | (rename_i hb; cases hb)

theorem step_repaired_some {s : Sys} {t task rest} (hth : s.threads[t]? = some (task :: rest)) :
    (step .repaired s t).isSome = true := by
  rw [step_of_head hth]; exact stepTask_repaired_some s t task rest

theorem extend_to_terminal (s : Sys) : ∃ sched s', exec .repaired s sched = some s' ∧ terminal s' = true := by
  cases ht : terminal s with
  | true => exact ⟨[], s, rfl, ht⟩
  | false =>
    obtain ⟨t, task, rest, hth⟩ := exists_work ht
    obtain ⟨s1, hs1⟩ := Option.isSome_iff_exists.1 (step_repaired_some hth)
    have := step_weight hs1
    obtain ⟨sched, s', he, hterm⟩ := extend_to_terminal s1
    exact ⟨t :: sched, s', ((runs _).cons_some hs1).trans he, hterm⟩
termination_by weight s

/-! ### guards: the shape shared by the invariants behind chain order and value transfer -/

/-- `Q` is inherited along the life of a callback, from the registering call to the parked entry, to the invocation
    and to what the invocation pushes; of a `complete out v` about to run it yields `R v`.  Both depend on the state
    through the values of the futures only, monotonically. -/
structure Guard (Q : Sys → Task → Prop) (out : FId) (R : Sys → Val → Prop) : Prop where
  mono : ∀ {s s' : Sys}, (∀ f v, s.value f = some v → s'.value f = some v) →
    (∀ x, Q s x → Q s' x) ∧ ∀ v, R s v → R s' v
  unlock : ∀ s f, Q s (.unlock f)
  run : ∀ {s f cb} v, Q s (.call (.thenAccept f cb)) → Q s (.run f cb v)
  appendCb : ∀ {s f cb}, Q s (.appendCb f cb) → Q s (.call (.thenAccept f cb))
  seq : ∀ {s o a b v}, Q s (.run o (.seq a b) v) → Q s (.run o a v) ∧ Q s (.run o b v)
  accept : ∀ {s o g cb v}, s.value o = some v → Q s (.run o (.accept g cb) v) → Q s (.call (.thenAccept g cb))
  complete : ∀ {s o g v}, s.value o = some v → Q s (.run o (.complete g) v) → Q s (.call (.complete g v))
  out : ∀ {s v}, Q s (.call (.complete out v)) → R s v

/-- `Q` holds of every task on a stack and of the registration of every parked callback; `R` of `out`'s value -/
structure Guarded (Q : Sys → Task → Prop) (out : FId) (R : Sys → Val → Prop) (s : Sys) : Prop where
  tasks : ∀ th ∈ s.threads, ∀ x ∈ th, Q s x
  wait  : ∀ p ∈ s.waiting, Q s (.call (.thenAccept p.1 p.2))
  outv  : ∀ v, s.value out = some v → R s v

theorem guarded_mkSys {Q out R} (threads : List (List Call))
    (h : ∀ cs ∈ threads, ∀ c ∈ cs, Q (mkSys threads) (.call c)) : Guarded Q out R (mkSys threads) := by
  refine ⟨fun th hth task ht => ?_, fun p hp => (nomatch hp), fun v hv => (nomatch hv)⟩
  obtain ⟨cs, hcs, rfl⟩ := List.mem_map.1 hth
  obtain ⟨c, hc, rfl⟩ := List.mem_map.1 ht
  exact h cs hcs c hc

namespace Guard
variable {Q : Sys → Task → Prop} {out : FId} {R : Sys → Val → Prop} (G : Guard Q out R)
include G

theorem rewrite {m s task new} (hr : Rewrite m s task new) (hh : runOK s task) (hp : Q s task) :
    ∀ x ∈ new, Q s x := by
  intro x hx
  cases hr with
  | acceptDone hv =>
    rcases List.mem_cons.1 hx with rfl | hx
    · exact G.run _ hp
    · rw [mem_lockTail hx]; exact G.unlock s _
  | complete => rw [List.mem_singleton.1 hx]; exact G.complete hh hp
  | accept => rw [List.mem_singleton.1 hx]; exact G.accept hh hp
  | seq =>
    simp only [List.mem_cons, List.not_mem_nil, or_false] at hx
    rcases hx with rfl | rfl
    · exact (G.seq hp).1
    · exact (G.seq hp).2
  | appendCb => rw [List.mem_singleton.1 hx]; exact G.appendCb hp
  | _ => cases hx

theorem after_step {m s t s'} (h : step m s t = some s') (vi : ValInv s) (inv : Guarded Q out R s) :
    Guarded Q out R s' := by
  obtain ⟨task, rest, hth, h⟩ := step_cases h
  have hmem : (task :: rest) ∈ s.threads := List.mem_of_getElem? hth
  obtain ⟨hmono, rmono⟩ := G.mono (s := s) (s' := s') fun f v => stepTo_value_mono h
  have hhead : Q s task := inv.tasks _ hmem task (List.mem_cons_self ..)
  have hwait : ∀ p ∈ s.waiting, Q s' (.call (.thenAccept p.1 p.2)) := fun p hp => hmono _ (inv.wait p hp)
  -- a fired callback was guarded while parked
  have tasks := tasks_after hth h hmono inv.tasks
    (fun new hr x hx => hmono x (G.rewrite hr (vi.run _ hmem task (List.mem_cons_self ..)) hhead x hx))
    (fun f v _ p hp e => e ▸ G.run v (hwait p hp)) (G.unlock _)
  have houtv : ∀ v, s.value out = some v → R s' v := fun v hv => rmono v (inv.outv v hv)
  cases h with
  | rewrite _ => exact ⟨tasks, hwait, houtv⟩
  | park _ =>
    refine ⟨tasks, fun p hp => ?_, houtv⟩
    rcases List.mem_append.1 hp with hp | hp
    · exact hwait p hp
    · rw [List.mem_singleton.1 hp]; exact hmono _ hhead
  | @fire f v hv =>
    refine ⟨tasks, fun p hp => hwait p (List.mem_filter.1 hp).1, fun v' hv' => ?_⟩
    -- `out` completed by this very step: the head was `complete out v`; otherwise it was completed before
    by_cases e : f = out
    · subst e
      have : v = v' := by simpa [upd] using hv'
      exact this ▸ rmono v (G.out hhead)
    · exact houtv v' (by simpa [upd, Ne.symm e] using hv')
  | log => exact ⟨tasks, hwait, houtv⟩

theorem after_exec {m sched s s'} (h : exec m s sched = some s') (vi : ValInv s) (inv : Guarded Q out R s) :
    Guarded Q out R s' :=
  ((runs m).induct (fun x => ValInv x ∧ Guarded Q out R x)
    (fun _ _ _ hp hs => ⟨step_valInv hs hp.1, G.after_step hs hp.1 hp.2⟩) ⟨vi, inv⟩ h).2

end Guard

/-! ### chain order: every `complete out` is guarded by the futures in `P` -/

theorem all_mono {P : List FId} {ok ok' : FId → Bool} (h : ∀ x, ok x = true → ok' x = true)
    (hp : P.all ok = true) : P.all ok' = true := by
  rw [List.all_eq_true] at *
  exact fun x hx => h x (hp x hx)

theorem or_mono {ok ok' : FId → Bool} (h : ∀ x, ok x = true → ok' x = true) (g x : FId)
    (hx : (ok x || x == g) = true) : (ok' x || x == g) = true := by
  rw [Bool.or_eq_true] at *
  exact hx.imp_left (h x)

theorem protCb_mono (P : List FId) (out : FId) : ∀ (cb : Cb) (ok ok' : FId → Bool),
    (∀ x, ok x = true → ok' x = true) → protCb P out ok cb = true → protCb P out ok' cb = true
  | .nop, _, _, _, _ => rfl
  | .log _, _, _, _, _ => rfl
  | .complete o, ok, ok', h, hp => by
      simp only [protCb, Bool.or_eq_true] at *
      exact hp.imp_right (all_mono h)
  | .accept g cb, ok, ok', h, hp => protCb_mono P out cb _ _ (or_mono h g) hp
  | .seq a b, ok, ok', h, hp => by
      simp only [protCb, Bool.and_eq_true] at *
      exact ⟨protCb_mono P out a ok ok' h hp.1, protCb_mono P out b ok ok' h hp.2⟩

theorem protCb_noComplete (P : List FId) (out : FId) : ∀ (cb : Cb) (ok : FId → Bool),
    noComplete out cb = true → protCb P out ok cb = true
  | .nop, _, _ => rfl
  | .log _, _, _ => rfl
  | .complete o, ok, h => by simp only [noComplete, protCb, Bool.or_eq_true] at *; exact Or.inl h
  | .accept g cb, ok, h => protCb_noComplete P out cb _ h
  | .seq a b, ok, h => by
      simp only [noComplete, protCb, Bool.and_eq_true] at *
      exact ⟨protCb_noComplete P out a ok h.1, protCb_noComplete P out b ok h.2⟩

theorem protTask_mono (P : List FId) (out : FId) (d d' : FId → Bool)
    (h : ∀ x, d x = true → d' x = true) (task : Task) (hp : protTask P out d task = true) :
    protTask P out d' task = true := by
  cases task with
  | call c =>
    cases c with
    | thenAccept g cb => exact protCb_mono P out cb _ _ (or_mono h g) hp
    | complete o v =>
      simp only [protTask, Bool.or_eq_true] at *
      exact hp.imp_right (all_mono h)
  | run o cb v => exact protCb_mono P out cb _ _ (or_mono h o) hp
  | unlock g => rfl
  | appendCb g cb => exact protCb_mono P out cb _ _ (or_mono h g) hp

/-- the owner `o` of a running callback is completed, so a guard by `o` is met -/
theorem or_done {d : FId → Bool} {o : FId} (ho : d o = true) (x : FId) (hx : (d x || x == o) = true) :
    d x = true := by
  rw [Bool.or_eq_true] at hx
  rcases hx with hx | hx
  · exact hx
  · rw [beq_iff_eq.1 hx]; exact ho

theorem isDone_of {s : Sys} {x : FId} {v : Val} (h : s.value x = some v) : isDone s x = true := by
  rw [isDone, h]; rfl

theorem isDone_mono {s s' : Sys} (hv : ∀ f v, s.value f = some v → s'.value f = some v) (x : FId)
    (h : isDone s x = true) : isDone s' x = true :=
  have ⟨v, hx⟩ := Option.isSome_iff_exists.1 h
  isDone_of (hv x v hx)

/-- every `complete out` still to come is guarded by `P`, so `out` is completed only after all of `P` -/
theorem prot_guard (P : List FId) (out : FId) :
    Guard (fun s x => protTask P out (isDone s) x = true) out (fun s _ => P.all (isDone s) = true) where
  mono hv := ⟨protTask_mono P out _ _ (isDone_mono hv), fun _ => all_mono (isDone_mono hv)⟩
  unlock _ _ := rfl
  run _ h := h
  appendCb h := h
  seq h := by simpa only [protTask, protCb, Bool.and_eq_true] using h
  accept ho h := protCb_mono P out _ _ _ (fun x hx => or_mono (or_done (isDone_of ho)) _ x hx) h
  complete ho h := by
    simp only [protTask, protCb, Bool.or_eq_true] at h ⊢
    exact h.imp_right (all_mono (or_done (isDone_of ho)))
  out h := by simpa [protTask] using h

/-! ### value transfer: `out` is completed only with the value of `g` -/

def srcTask (out g : FId) (s : Sys) : Task → Prop
  | .call (.thenAccept h cb) => srcCb out g h cb = true
  | .call (.complete x v) => x = out → s.value g = some v
  | .run o cb _ => srcCb out g o cb = true
  | .unlock _ => True
  | .appendCb h cb => srcCb out g h cb = true

theorem srcTask_mono {out g : FId} {s s' : Sys} (hm : ∀ f v, s.value f = some v → s'.value f = some v)
    (task : Task) (h : srcTask out g s task) : srcTask out g s' task := by
  cases task with
  | call c =>
    cases c with
    | thenAccept h' cb => exact h
    | complete x v => exact fun e => hm _ _ (h e)
  | run o cb v => exact h
  | unlock f => trivial
  | appendCb h' cb => exact h

/-- every `complete out` still to come passes on the value of `g` -/
theorem src_guard (out g : FId) : Guard (srcTask out g) out (fun s v => s.value g = some v) where
  mono hv := ⟨srcTask_mono hv, fun v => hv g v⟩
  unlock _ _ := trivial
  run _ h := h
  appendCb h := h
  seq h := by simpa only [srcTask, srcCb, Bool.and_eq_true] using h
  accept _ h := h
  complete ho h := fun e => by
    -- `complete out` run on behalf of `o` passes on `o`'s value, and `o = g`
    subst e
    simp only [srcTask, srcCb, bne_self_eq_false, Bool.false_or, beq_iff_eq] at h
    exact h ▸ ho
  out h := h rfl

theorem srcTask_mkSys {out g : FId} {threads : List (List Call)} {c : Call} (h : srcCall out g c = true) :
    srcTask out g (mkSys threads) (.call c) := by
  cases c with
  | thenAccept h' cb => exact h
  | complete x v => intro e; simp [srcCall, e] at h

theorem srcCb_noComplete (out g : FId) : ∀ (cb : Cb) (o : FId), noComplete out cb = true → srcCb out g o cb = true
  | .nop, _, _ => rfl
  | .log _, _, _ => rfl
  | .complete x, o, h => by simp only [noComplete, srcCb, Bool.or_eq_true] at *; exact Or.inl h
  | .accept h' cb, o, h => srcCb_noComplete out g cb h' h
  | .seq a b, o, h => by
      simp only [noComplete, srcCb, Bool.and_eq_true] at *
      exact ⟨srcCb_noComplete out g a o h.1, srcCb_noComplete out g b o h.2⟩

end Gate.C42
