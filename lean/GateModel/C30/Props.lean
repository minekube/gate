import GateModel.C30.Lemmas
/-
C30 — Lite backend selection tries each backend once per attempt and counts fairly.

Parameters: `parse` (Go's address parsing), `choose` (the strategy's pick at each step — ANY function returning a
member of the remaining list, so all five strategies, every random source and every concurrent change of strategy
state between two picks are covered), `dialOk` (dial outcomes, may differ per step).  The counters are modelled
under all interleavings of the four atomic sections of each connection.
PARTIAL: interleaving semantics of critical sections is weaker than the Go memory model; the `math/rand`
data race is a memory-model fact — the model only records (src_rng_locked) that the generator is used under a mutex.
-/
namespace Gate.C30.Props
open Gate Gate.C30

/-! ### one connection attempt (repaired removal), for every selection function -/

/-- no two dialled addresses denote the same backend -/
theorem each_once (parse : ParseFn) (choose : Nat → List Addr → Addr) (hc : Chooses choose)
    (dialOk : Nat → Addr → Bool) (backends : List Addr) :
    noRepeat parse (attempt (removeSelected parse) choose dialOk backends).1 = true :=
  noRepeat_of_nodup parse _ (attemptF_dials parse choose dialOk hc _ _ _).2.1

theorem dials_are_configured (parse : ParseFn) (choose : Nat → List Addr → Addr) (hc : Chooses choose)
    (dialOk : Nat → Addr → Bool) (backends : List Addr) :
    ∀ d ∈ (attempt (removeSelected parse) choose dialOk backends).1, d ∈ backends :=
  (attemptF_dials parse choose dialOk hc _ _ _).1

/-- the attempt ends (also with unparseable addresses) after at most `len(backends)` dials -/
theorem attempt_ends (parse : ParseFn) (choose : Nat → List Addr → Addr) (hc : Chooses choose)
    (dialOk : Nat → Addr → Bool) (backends : List Addr) :
    (attempt (removeSelected parse) choose dialOk backends).2 ≠ .running ∧
    (attempt (removeSelected parse) choose dialOk backends).1.length ≤ backends.length :=
  have h := attemptF_dials parse choose dialOk hc (backends.length + 1) 0 backends
  ⟨h.2.2.2 (Nat.lt_succ_self _), h.2.2.1⟩

/-- failure is reported only after every configured backend was dialled, and every one of those dials failed -/
theorem fails_only_after_all (parse : ParseFn) (choose : Nat → List Addr → Addr)
    (dialOk : Nat → Addr → Bool) (backends : List Addr)
    (h : (attempt (removeSelected parse) choose dialOk backends).2 = .failed) :
    allTried parse backends (attempt (removeSelected parse) choose dialOk backends).1 = true ∧
    ∀ i d, (attempt (removeSelected parse) choose dialOk backends).1[i]? = some d → dialOk i d = false := by
  obtain ⟨h1, h2⟩ := attemptF_failed parse choose dialOk _ 0 backends h
  exact ⟨allTried_of parse _ _ h1, fun i d hi => by simpa using h2 i d hi⟩

/-- a connection is made to the last dialled address, the first whose dial succeeded -/
theorem connects_to_first_success (parse : ParseFn) (choose : Nat → List Addr → Addr)
    (dialOk : Nat → Addr → Bool) (backends : List Addr) (a : Addr)
    (h : (attempt (removeSelected parse) choose dialOk backends).2 = .connected a) :
    ∃ pre, (attempt (removeSelected parse) choose dialOk backends).1 = pre ++ [a] ∧
      dialOk pre.length a = true ∧ ∀ i d, pre[i]? = some d → dialOk i d = false := by
  obtain ⟨pre, h1, h2, h3⟩ := attemptF_connected parse choose dialOk _ 0 backends a h
  exact ⟨pre, h1, by simpa using h2, fun i d hi => by simpa using h3 i d hi⟩

/-- every strategy of `GetNextBackend`, in any state and with any value `rng.Intn(len)` can return, picks a member
    of the list it is given — so the theorems above apply to all of them, whatever other connections do to
    the strategy state between two picks -/
theorem strategies_choose_members (st : Strategy) (state : Nat → SState) (host : Bytes)
    (rnd : Nat → List Addr → Nat) (hr : ∀ t l, l ≠ [] → rnd t l < l.length) :
    Chooses (fun t l => (pick st (state t) host (rnd t l) l).1) :=
  fun t l hl => pick_mem st (state t) host (rnd t l) l hl (fun _ => hr t l hl)

example : Chooses (fun _ l => l.headD []) := fun _ l hl => headD_mem l hl
example : (attempt (removeSelected (fun a => some (a, 1))) (fun _ l => l.headD []) (fun _ _ => false) [[97], [97], [98]])
    = ([[97], [98]], .failed) := by decide +kernel

/-- sequential: the dialled addresses appear in configuration order -/
theorem sequential_config_order (parse : ParseFn) (dialOk : Nat → Addr → Bool) (backends : List Addr) :
    (attempt (removeSelected parse) (fun _ l => l.headD []) dialOk backends).1.Sublist backends := by
  unfold attempt
  generalize backends.length + 1 = f
  generalize (0 : Nat) = t
  fun_induction attemptF (removeSelected parse) (fun _ l => l.headD []) dialOk f t backends with
  | case1 | case2 => exact List.nil_sublist _
  | case3 f t l hne => exact List.singleton_sublist.mpr (headD_mem l (mt List.isEmpty_iff.mpr hne))
  | case4 f t l hne a _ r ih =>
    cases l with
    | nil => exact absurd rfl hne
    | cons b rest =>
      have h2 : (removeSelected parse b (b :: rest)).Sublist rest := by
        rw [removeSelected_cons, if_pos rfl]
        exact List.filter_sublist
      exact (ih.trans h2).cons_cons b

/-- sequential: the first dial is the first configured backend -/
theorem sequential_first (s : SState) (host : Bytes) (rnd : Nat) (l : List Addr) :
    (pick .sequential s host rnd l).1 = l.headD [] ∧ (pick .sequential s host rnd l).2.rr = s.rr := ⟨rfl, rfl⟩

/-- `k` consecutive round-robin picks on one route host -/
def rrPicks (s : SState) (host : Bytes) (l : List Addr) : Nat → List Addr × SState
  | 0 => ([], s)
  | k + 1 =>
    let r := rrPicks s host l k
    let p := pick .roundRobin r.2 host 0 l
    (r.1 ++ [p.1], p.2)

/-- round-robin rotates: the i-th pick is entry `(start + i) mod len`, and the index advances once per pick -/
theorem round_robin_rotation (s : SState) (host : Bytes) (l : List Addr) (k : Nat) :
    (rrPicks s host l k).1 = (List.range k).map (fun i => l.getD ((rrIndex s host + i) % l.length) []) ∧
    rrIndex (rrPicks s host l k).2 host = rrIndex s host + k := by
  induction k with
  | zero => exact ⟨rfl, rfl⟩
  | succ k ih =>
    obtain ⟨h1, h2⟩ := ih
    simp only [rrPicks, pick]
    refine ⟨?_, ?_⟩
    · rw [h1, h2, List.range_succ, List.map_append]; rfl
    · rw [rrIndex_setRR_same, h2]; omega

/-- other routes' indices are untouched -/
theorem round_robin_per_route (s : SState) (host host' : Bytes) (l : List Addr) (h : host' ≠ host) :
    rrIndex (pick .roundRobin s host 0 l).2 host' = rrIndex s host' := rrIndex_setRR_other s host host' _ h

/-- least-connections returns the first backend with the fewest counted connections -/
theorem least_connections_first_min (s : SState) (host : Bytes) (rnd : Nat) (l : List Addr) (h : l ≠ [])
    (hne : ∀ b ∈ l, b ≠ []) (hlt : ∀ b ∈ l, connCount s b < maxUint32) :
    ∃ pre post, l = pre ++ (pick .leastConnections s host rnd l).1 :: post ∧
      (∀ b ∈ l, connCount s (pick .leastConnections s host rnd l).1 ≤ connCount s b) ∧
      ∀ b ∈ pre, connCount s (pick .leastConnections s host rnd l).1 < connCount s b :=
  leastPick_first_min (connCount s) l h hne hlt

/-- lowest-latency returns the first backend without a measurement, if there is one -/
theorem lowest_latency_unmeasured_first (s : SState) (host : Bytes) (rnd : Nat) (l : List Addr) (b : Addr)
    (pre post : List Addr) (hl : l = pre ++ b :: post) (hb : latencyOf s b = none)
    (hpre : ∀ c ∈ pre, (latencyOf s c).isSome = true) :
    (pick .lowestLatency s host rnd l).1 = b := by
  have : firstUnmeasured (latencyOf s) l = some b := (firstUnmeasured_some _ l b).mpr ⟨pre, post, hl, hb, hpre⟩
  simp only [pick, latencyPick, this]

/-- … and otherwise the first backend with the lowest (positive) measured latency -/
theorem lowest_latency_first_min (s : SState) (host : Bytes) (rnd : Nat) (l : List Addr) (h : l ≠ [])
    (hne : ∀ b ∈ l, b ≠ []) (hm : ∀ b ∈ l, ∃ v, latencyOf s b = some v ∧ 0 < v) :
    ∃ pre post v, l = pre ++ (pick .lowestLatency s host rnd l).1 :: post ∧
      latencyOf s (pick .lowestLatency s host rnd l).1 = some v ∧
      (∀ b ∈ l, ∀ w, latencyOf s b = some w → v ≤ w) ∧
      ∀ b ∈ pre, ∀ w, latencyOf s b = some w → v < w :=
  latencyPick_first_min (latencyOf s) l h hne hm

theorem track_open (s : SState) (key : Bytes) (backend : Addr) :
    activeConnections (trackOpen s key backend) = activeConnections s + 1 ∧
    connCount (trackOpen s key backend) backend = connCount s backend + 1 := by
  simp [activeConnections, trackOpen, connCount]

theorem track_close (s : SState) (key : Bytes) (backend : Addr) (hk : key ∈ s.active) (hb : backend ∈ s.counters) :
    activeConnections (trackClose s key backend) + 1 = activeConnections s ∧
    connCount (trackClose s key backend) backend + 1 = connCount s backend :=
  ⟨(congrArg (· + 1) (List.length_erase_of_mem hk)).trans (Nat.sub_add_cancel (List.length_pos_of_mem hk)),
   (congrArg (· + 1) (List.count_erase_self (a := backend) (l := s.counters))).trans
     (Nat.sub_add_cancel (List.count_pos_iff.mpr hb))⟩

/-- For ANY number of connections and ANY interleaving of their atomic sections, at every moment
    `ActiveConnections()` equals the number of open connections, and each backend's least-connections counter
    equals the number of connections currently counted on it. -/
theorem counts_exact (conns : List Conn) (h0 : ∀ c ∈ conns, c.pc = 0) (sched : List Nat) :
    let y := sysRun { conns := conns } sched
    y.active.length = y.conns.countP Conn.isOpen ∧
    (∀ b, y.counters.count b = y.conns.countP (fun c => c.counted && c.backend == b)) ∧
    (∀ k, y.active.count k = y.conns.countP (fun c => c.isOpen && c.key == k)) := by
  have inv := sysRun_inv _ sched (sysInv_init conns h0)
  refine ⟨?_, fun b => inv.2 (· == b), fun k => inv.1 (· == k)⟩
  have := inv.1 (fun _ => true)
  simp only [List.countP_true, Bool.and_true] at this
  exact this

/-- … and when every connection has closed, both are empty again (the counts return to zero) -/
theorem counts_return_to_zero (conns : List Conn) (h0 : ∀ c ∈ conns, c.pc = 0) (sched : List Nat)
    (hdone : ∀ c ∈ (sysRun { conns := conns } sched).conns, c.pc = 4) :
    (sysRun { conns := conns } sched).active = [] ∧ (sysRun { conns := conns } sched).counters = [] := by
  have inv := sysRun_inv _ sched (sysInv_init conns h0)
  constructor <;> apply List.eq_nil_of_length_eq_zero <;> rw [← List.countP_true]
  · rw [inv.1, List.countP_eq_zero]; intro c hc; simp [Conn.isOpen, hdone c hc]
  · rw [inv.2, List.countP_eq_zero]; intro c hc; simp [Conn.counted, hdone c hc]

example : (sysRun { conns := [⟨[1], [7], 0⟩, ⟨[2], [7], 0⟩] } [0, 1, 1, 0, 0, 1, 1, 0]).active = [] := by decide +kernel

/-- At a barrier — no connection inside `TrackConnection` or its closure: each is either not started, fully open
    and counted (pc 2) or closed (pc 4) — every backend's least-connections counter equals the number of connections
    open to it, whatever interleaving led there.  This is the spec the driver evaluates on the counter-drift probe
    (`conc-ctr`): `count(backend) = number of currently open connections`. -/
theorem barrier_counts (conns : List Conn) (h0 : ∀ c ∈ conns, c.pc = 0) (sched : List Nat)
    (hb : ∀ c ∈ (sysRun { conns := conns } sched).conns, c.pc = 0 ∨ c.pc = 2 ∨ c.pc = 4) (b : Addr) :
    (sysRun { conns := conns } sched).counters.count b =
      (sysRun { conns := conns } sched).conns.countP (fun c => c.isOpen && c.backend == b) := by
  rw [(counts_exact conns h0 sched).2.1 b]
  apply List.countP_congr
  intro c hc
  rcases hb c hc with h | h | h <;> simp [Conn.counted, Conn.isOpen, h]

/-! ### one `Forward` call: every way it can end leaves the counters as it found them -/

/-- whatever the end of a `Forward` call — no route, every dial failed, the flush of the buffered bytes failed after a
    successful dial, or a forwarded connection that was eventually closed — after it has returned
    `ActiveConnections()` and every backend's counter are exactly what they were before the call. -/
theorem forward_restores_counts (s : SState) (key : Addr → Bytes) (e : FwdEnd) :
    (forwardAfter {} s key e).active = s.active ∧ (forwardAfter {} s key e).counters = s.counters := by
  -- only a piped connection is tracked, and its release erases the key and the backend just put in front
  cases e <;> simp [forwardAfter, trackClose, trackOpen]

/-- so after any history of completed calls, with any mix of outcomes, the counts are back where they started
    (zero from a fresh manager) -/
theorem forward_history_restores_counts (s : SState) (key : Addr → Bytes) (calls : List FwdEnd) :
    (calls.foldl (fun st e => forwardAfter {} st key e) s).active = s.active ∧
    (calls.foldl (fun st e => forwardAfter {} st key e) s).counters = s.counters := by
  induction calls generalizing s with
  | nil => exact ⟨rfl, rfl⟩
  | cons e t ih =>
    obtain ⟨h1, h2⟩ := forward_restores_counts s key e
    obtain ⟨i1, i2⟩ := ih (forwardAfter {} s key e)
    exact ⟨i1.trans h1, i2.trans h2⟩

/-- while a call is in progress it is counted iff it is a forwarded (piping) connection -/
theorem forward_counted_iff_piping (s : SState) (key : Addr → Bytes) (e : FwdEnd) :
    activeConnections (forwardDuring {} s key e) =
      activeConnections s + (match e with | .piped _ => 1 | _ => 0) := by
  cases e <;> simp [forwardDuring, activeConnections, trackOpen]

/-- the defective class (tracking before the flush, release deferred only after it): a connection whose flush fails
    stays counted for ever -/
theorem forward_leak_fails :
    ¬ (∀ (s : SState) (key : Addr → Bytes) (e : FwdEnd),
        (forwardAfter { trackBeforeFlush := true } s key e).active = s.active) := by
  intro h
  have := h {} (fun b => b) (.flushFailed [97])
  revert this; decide +kernel

/-- … and is correct for every other ending -/
theorem forward_leak_partial (s : SState) (key : Addr → Bytes) (e : FwdEnd) (h : ∀ b, e ≠ .flushFailed b) :
    forwardAfter { trackBeforeFlush := true } s key e = forwardAfter {} s key e := by
  cases e with
  | flushFailed b => exact absurd rfl (h b)
  | _ => rfl

/-- picks as single atomic sections, in any order: (thread, index handed out) list and the final index -/
def rrRunAtomic (idx : Nat) : List Nat → List (Nat × Nat) × Nat
  | [] => ([], idx)
  | th :: rest =>
    let p := rrPickAtomic idx
    let r := rrRunAtomic p.2 rest
    ((th, p.1) :: r.1, r.2)

/-- with the read-increment-write in one critical section, whatever the order in which the threads get the
    mutex, the indices handed out are `idx, idx+1, …` — each exactly once — and the index ends at `idx + n` -/
theorem rr_atomic_all_interleavings (idx : Nat) (sched : List Nat) :
    (rrRunAtomic idx sched).1.map (·.2) = List.range' idx sched.length ∧
    (rrRunAtomic idx sched).2 = idx + sched.length := by
  induction sched generalizing idx with
  | nil => exact ⟨rfl, rfl⟩
  | cons th rest ih =>
    obtain ⟨h1, h2⟩ := ih (idx + 1)
    simp only [rrRunAtomic, rrPickAtomic, List.map_cons, List.length_cons, List.range'_succ]
    exact ⟨by rw [h1], by rw [h2]; omega⟩

/-- before the fix (read and store as two sections): two connections read the same index and it advances once -/
theorem rr_lost_update_fails :
    ∃ sched : List Nat,
      sched.foldl rrStepDefective { idx := 0, threads := [{}, {}] } =
        { idx := 1, threads := [{ read := some 0, done := true }, { read := some 0, done := true }] } :=
  ⟨[0, 1, 0, 1], by decide +kernel⟩

/-! ### the defects in the per-attempt removal, kept as kernel-checked witnesses -/

/-- before the fix a backend listed twice was dialled twice -/
theorem each_once_fails :
    ¬ (∀ (parse : ParseFn) (backends : List Addr),
        noRepeat parse (attempt (removeSelectedDefective parse) (fun _ l => l.headD []) (fun _ _ => false) backends).1 = true) := by
  intro h
  have := h (fun a => some (a, 1)) [[97], [97]]
  revert this; decide +kernel

/-- before the fix an address that does not parse was selected and dialled for ever: for every number of steps
    the loop is still running and has dialled that address every time -/
theorem attempt_never_ends_fails (bad : Addr) (n : Nat) :
    attemptF (removeSelectedDefective (fun _ => none)) (fun _ l => l.headD []) (fun _ _ => false) n 0 [bad]
      = (List.replicate n bad, .running) := by
  generalize (0 : Nat) = t
  induction n generalizing t with
  | zero => rfl
  | succ n ih =>
    simp only [attemptF, List.isEmpty_cons, Bool.false_eq_true, if_false, List.headD_cons, removeSelectedDefective,
      normalize, Option.map_none, List.replicate_succ]
    rw [ih (t + 1)]

/-- … and agreed with the repaired removal when every address parses and no two entries denote the same backend -/
theorem removeDefective_partial (parse : ParseFn) (sel : Addr) (l : List Addr)
    (hp : ∀ b ∈ l, (parse b).isSome = true) (hsel : sel ∈ l) (hn : (l.map (normOrSelf parse)).Nodup) :
    removeSelectedDefective parse sel l = removeSelected parse sel l := by
  have key : ∀ b, (parse b).isSome = true → normalize parse b = some (normOrSelf parse b) := by
    intro b hb
    unfold normOrSelf normalize
    cases h : parse b with
    | none => rw [h] at hb; cases hb
    | some v => rfl
  induction l with
  | nil => rfl
  | cons b t ih =>
    rw [List.map_cons, List.nodup_cons] at hn
    unfold removeSelectedDefective
    rw [key b (hp b List.mem_cons_self), key sel (hp sel hsel), removeSelected_cons]
    by_cases hk : normOrSelf parse b = normOrSelf parse sel
    · -- no other entry has the selected normal form, so the filter too removes only `b`
      simp only [hk, if_true]
      exact (List.filter_eq_self.mpr fun c hc => (not_sameBackend_iff parse sel c).mpr fun e =>
        hn.1 (List.mem_map.mpr ⟨c, hc, e.trans hk.symm⟩)).symm
    · simp only [hk, if_false]
      have hsel' : sel ∈ t := (List.mem_cons.mp hsel).resolve_left fun e => hk (e ▸ rfl)
      rw [ih (fun c hc => hp c (List.mem_cons_of_mem _ hc)) hsel' hn.2]

/-! ### tie to the source: facts regenerated by `tools/gofacts` -/

def before (a b : String) (cs : List String) : Bool := cs.idxOf a < cs.idxOf b && cs.idxOf b < cs.length

open Gate.Gen.C30 in
/-- lock regions of the counters: each map update sits in its own Lock … Unlock region, in the order the model's
    four atomic sections assume -/
theorem src_counter_lock_regions :
    trackConnectionCalls = ["canonicalConnectionKey", "sm.activeConnectionsMu.Lock", "sm.activeConnectionsMu.Unlock",
      "sm.IncrementConnection", "func:{", "decrementStrategyCounter", "sm.activeConnectionsMu.Lock", "delete",
      "sm.activeConnectionsMu.Unlock", "}", "return"] ∧
    incrementConnectionCalls = ["sm.strategyCountersMu.Lock", "sm.getOrCreateCounter", "sm.strategyCountersMu.Unlock",
      "func:{", "}", "return", "counter.Add", "sm.strategyCountersMu.Unlock", "func:{", "sm.strategyCountersMu.Lock",
      "defer:sm.strategyCountersMu.Unlock", "counter.Load", "return", "uint32", "counter.Add", "counter.Load",
      "sm.connectionCounters.CompareAndDelete", "}", "return"] ∧
    activeConnectionsCalls = ["sm.activeConnectionsMu.RLock", "defer:sm.activeConnectionsMu.RUnlock", "return"] ∧
    before "strategyManager.TrackConnection" "defer:decrementConnection" forwardCalls ∧
    before "defer:decrementConnection" "pipe" forwardCalls ∧
    -- the release is deferred immediately after the connection is counted: no return can lie between them
    forwardCalls.idxOf "defer:decrementConnection" = forwardCalls.idxOf "strategyManager.TrackConnection" + 1 :=
  ⟨rfl, rfl, rfl, by decide +kernel⟩

open Gate.Gen.C30 in
/-- the shared random source is only used between `rngMu.Lock` and `rngMu.Unlock` -/
theorem src_rng_locked :
    randomCalls = ["len", "return", "sm.rngMu.Lock", "len", "sm.rng.Intn", "sm.rngMu.Unlock", "return"] := rfl

open Gate.Gen.C30 in
/-- the round-robin index is read and written inside one `roundRobinMu` region -/
theorem src_rr_locked :
    roundRobinCalls = ["len", "return", "sm.roundRobinMu.Lock", "sm.roundRobinIndexes.LoadOrStore",
      "sm.roundRobinIndexes.Store", "sm.roundRobinMu.Unlock", "len", "return"] := rfl

open Gate.Gen.C30 in
theorem src_strategy_switch :
    strategyCases = ["config.StrategySequential", "config.StrategyRandom", "config.StrategyRoundRobin",
      "config.StrategyLeastConnections", "config.StrategyLowestLatency", "\"\"", "default"] ∧
    getNextBackendCalls = ["len", "return", "sm.sequentialNextBackend", "return", "sm.randomNextBackend", "return",
      "sm.roundRobinNextBackend", "return", "sm.leastConnectionsNextBackend", "return",
      "sm.lowestLatencyNextBackend", "return", "sm.sequentialNextBackend", "return", "sm.sequentialNextBackend",
      "return"] := ⟨rfl, rfl⟩

open Gate.Gen.C30 in
theorem src_try_loop :
    tryBackendsCalls = ["next", "return", "try", "errs.V", "errs.V().Info", "return"] := rfl

open Gate.Gen.C30 in
/-- the closure asks the strategy, then filters the list with `normalizeBackendAddr` (no early `break`) -/
theorem src_closure_removal :
    before "strategyManager.GetNextBackend" "normalizeBackendAddr" findRouteCalls ∧
    before "normalizeBackendAddr" "append" findRouteCalls ∧
    normalizeCalls = ["netutil.Parse", "return", "netutil.HostPort", "parsed.String", "net.JoinHostPort", "return",
      "parsed.String", "return"] ∧
    normalizeLits = ["25565"] ∧ defaultPort = [50, 53, 53, 54, 53] :=
  ⟨by decide +kernel, by decide +kernel, rfl, rfl, rfl⟩

end Gate.C30.Props
