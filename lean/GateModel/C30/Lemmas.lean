import GateModel.C30.Model
import GateModel.C30.Spec
/-
C30 helper lemmas, in this order: one connection attempt with the repaired removal; the spec's executable
predicates; the strategies' scans; the counters as multisets mirroring the connections' phases under every
interleaving.
-/
namespace Gate.C30
open Gate

theorem sameBackend_iff (parse : ParseFn) (sel b : Addr) :
    sameBackend parse sel b = true ↔ normOrSelf parse b = normOrSelf parse sel := by
  unfold sameBackend
  rw [Bool.or_eq_true, beq_iff_eq, beq_iff_eq]
  exact ⟨fun h => h.elim (fun e => e ▸ rfl) id, Or.inr⟩

theorem sameBackend_refl (parse : ParseFn) (a : Addr) : sameBackend parse a a = true := by simp [sameBackend]

theorem not_sameBackend_iff (parse : ParseFn) (sel b : Addr) :
    (!sameBackend parse sel b) = true ↔ normOrSelf parse b ≠ normOrSelf parse sel := by
  rw [Bool.not_eq_true', ← Bool.not_eq_true, sameBackend_iff]

theorem mem_removeSelected (parse : ParseFn) (sel b : Addr) (l : List Addr) :
    b ∈ removeSelected parse sel l ↔ b ∈ l ∧ normOrSelf parse b ≠ normOrSelf parse sel := by
  unfold removeSelected
  rw [List.mem_filter, not_sameBackend_iff]

theorem removeSelected_cons (parse : ParseFn) (sel b : Addr) (t : List Addr) :
    removeSelected parse sel (b :: t) =
      if normOrSelf parse b = normOrSelf parse sel then removeSelected parse sel t
      else b :: removeSelected parse sel t := by
  simp only [removeSelected, List.filter_cons, not_sameBackend_iff, ne_eq, ite_not]

theorem length_removeSelected_lt (parse : ParseFn) (sel : Addr) (l : List Addr) (h : sel ∈ l) :
    (removeSelected parse sel l).length < l.length :=
  List.length_filter_lt_length_iff_exists.mpr ⟨sel, h, by rw [sameBackend_refl]; exact Bool.false_ne_true⟩

/-- selection functions that return a member of every non-empty list: all that the attempt theorems need -/
def Chooses (choose : Nat → List Addr → Addr) : Prop := ∀ t l, l ≠ [] → choose t l ∈ l

section attempt
variable (parse : ParseFn) (choose : Nat → List Addr → Addr) (dialOk : Nat → Addr → Bool)

/- The lemmas on `attemptF` go by induction along its recursion.  Its cases: no fuel left; the list is exhausted;
   the dial of the selected address succeeds; it fails, the address is removed and the loop goes on. -/

/-- the dials of an attempt are entries of the list, no two with the same normal form, and no more than there are
    entries; with more fuel than entries the loop has ended -/
theorem attemptF_dials (hc : Chooses choose) (f t : Nat) (l : List Addr) :
    (∀ d ∈ (attemptF (removeSelected parse) choose dialOk f t l).1, d ∈ l) ∧
    ((attemptF (removeSelected parse) choose dialOk f t l).1.map (normOrSelf parse)).Nodup ∧
    (attemptF (removeSelected parse) choose dialOk f t l).1.length ≤ l.length ∧
    (l.length < f → (attemptF (removeSelected parse) choose dialOk f t l).2 ≠ .running) := by
  fun_induction attemptF (removeSelected parse) choose dialOk f t l with
  | case1 => exact ⟨nofun, List.nodup_nil, Nat.zero_le _, fun h => absurd h (Nat.not_lt_zero _)⟩
  | case2 => exact ⟨nofun, List.nodup_nil, Nat.zero_le _, fun _ => Outcome.noConfusion⟩
  | case3 f t l hne a =>
    have ha : a ∈ l := hc t l (mt List.isEmpty_iff.mpr hne)
    exact ⟨fun d hd => List.mem_singleton.mp hd ▸ ha, List.nodup_cons.mpr ⟨List.not_mem_nil, List.nodup_nil⟩,
      List.length_pos_of_mem ha, fun _ => Outcome.noConfusion⟩
  | case4 f t l hne a _ r ih =>
    have ha : a ∈ l := hc t l (mt List.isEmpty_iff.mpr hne)
    have hlt := length_removeSelected_lt parse a l ha
    obtain ⟨ih1, ih2, ih3, ih4⟩ := ih
    refine ⟨?_, List.nodup_cons.mpr ⟨fun hmem => ?_, ih2⟩, Nat.lt_of_le_of_lt ih3 hlt, fun hf => ih4 (by omega)⟩
    · intro d hd
      rcases List.mem_cons.mp hd with rfl | hd'
      · exact ha
      · exact ((mem_removeSelected parse _ d l).mp (ih1 d hd')).1
    · obtain ⟨d, hd1, hd2⟩ := List.mem_map.mp hmem
      exact ((mem_removeSelected parse _ d l).mp (ih1 d hd1)).2 hd2

/-- the dials listed after the first happen one step later -/
theorem dial_shift {ds : List Addr} {t : Nat} {a : Addr} (h0 : dialOk t a = false)
    (h : ∀ i d, ds[i]? = some d → dialOk (t + 1 + i) d = false) :
    ∀ i d, (a :: ds)[i]? = some d → dialOk (t + i) d = false := by
  intro i d hi
  cases i with
  | zero => cases hi; exact h0
  | succ i => rw [show t + (i + 1) = t + 1 + i by omega]; exact h i d hi

/-- failure is reported only after every entry's backend was dialled, and every dial failed -/
theorem attemptF_failed (f t : Nat) (l : List Addr)
    (h : (attemptF (removeSelected parse) choose dialOk f t l).2 = .failed) :
    (∀ b ∈ l, ∃ d ∈ (attemptF (removeSelected parse) choose dialOk f t l).1,
        normOrSelf parse d = normOrSelf parse b) ∧
    (∀ i d, (attemptF (removeSelected parse) choose dialOk f t l).1[i]? = some d → dialOk (t + i) d = false) := by
  fun_induction attemptF (removeSelected parse) choose dialOk f t l with
  | case1 t l =>
    cases l with
    | nil => exact ⟨nofun, nofun⟩
    | cons b l => cases h
  | case2 f t l he => rw [List.isEmpty_iff.mp he]; exact ⟨nofun, nofun⟩
  | case3 => cases h
  | case4 f t l _ a hd r ih =>
    obtain ⟨ih1, ih2⟩ := ih h
    refine ⟨fun b hb => ?_, dial_shift dialOk (Bool.eq_false_iff.mpr hd) ih2⟩
    by_cases hk : normOrSelf parse b = normOrSelf parse a
    · exact ⟨a, List.mem_cons_self, hk.symm⟩
    · obtain ⟨d, hd1, hd2⟩ := ih1 b ((mem_removeSelected parse _ b l).mpr ⟨hb, hk⟩)
      exact ⟨d, List.mem_cons_of_mem _ hd1, hd2⟩

/-- a connection is reported for the last dialled address, whose dial succeeded, all earlier ones having failed -/
theorem attemptF_connected (f t : Nat) (l : List Addr) (a : Addr)
    (h : (attemptF (removeSelected parse) choose dialOk f t l).2 = .connected a) :
    ∃ pre, (attemptF (removeSelected parse) choose dialOk f t l).1 = pre ++ [a] ∧
      dialOk (t + pre.length) a = true ∧
      ∀ i d, pre[i]? = some d → dialOk (t + i) d = false := by
  fun_induction attemptF (removeSelected parse) choose dialOk f t l with
  | case1 => split at h <;> cases h
  | case2 => cases h
  | case3 f t l _ b hd => exact Outcome.connected.inj h ▸ ⟨[], rfl, hd, nofun⟩
  | case4 f t l _ b hd r ih =>
    obtain ⟨pre, h1, h2, h3⟩ := ih h
    refine ⟨b :: pre, congrArg (b :: ·) h1, ?_, dial_shift dialOk (Bool.eq_false_iff.mpr hd) h3⟩
    rw [List.length_cons, ← Nat.add_assoc, Nat.add_right_comm]; exact h2
end attempt

theorem noRepeat_of_nodup (parse : ParseFn) (ds : List Addr) (h : (ds.map (normOrSelf parse)).Nodup) :
    noRepeat parse ds = true := by
  induction ds with
  | nil => rfl
  | cons d ds ih =>
    simp only [List.map_cons, List.nodup_cons] at h
    simp only [noRepeat, Bool.and_eq_true, Bool.not_eq_true', ih h.2, and_true]
    cases ha : ds.any (fun e => sameBackend parse d e) with
    | false => rfl
    | true =>
      obtain ⟨e, he1, he2⟩ := List.any_eq_true.mp ha
      exact absurd (List.mem_map.mpr ⟨e, he1, (sameBackend_iff parse d e).mp he2⟩) h.1

theorem allTried_of (parse : ParseFn) (backends dials : List Addr)
    (h : ∀ b ∈ backends, ∃ d ∈ dials, normOrSelf parse d = normOrSelf parse b) :
    allTried parse backends dials = true := by
  unfold allTried
  rw [List.all_eq_true]
  intro b hb
  obtain ⟨d, hd1, hd2⟩ := h b hb
  exact List.any_eq_true.mpr ⟨d, hd1, (sameBackend_iff parse d b).mpr hd2.symm⟩

theorem leastScan_spec (cnt : Addr → Nat) (l : List Addr) (acc : Addr × Nat) :
    (leastScan cnt l acc).2 ≤ acc.2 ∧ (∀ b ∈ l, (leastScan cnt l acc).2 ≤ cnt b) ∧
    (leastScan cnt l acc = acc ∨
      ∃ pre post, l = pre ++ (leastScan cnt l acc).1 :: post ∧
        (leastScan cnt l acc).2 = cnt (leastScan cnt l acc).1 ∧ (leastScan cnt l acc).2 < acc.2 ∧
        ∀ b ∈ pre, (leastScan cnt l acc).2 < cnt b) := by
  fun_induction leastScan cnt l acc with
  | case1 => exact ⟨Nat.le_refl _, nofun, Or.inl rfl⟩
  | case2 b t acc hb ih =>
    obtain ⟨h1, h2, h3⟩ := ih
    refine ⟨Nat.le_trans h1 (Nat.le_of_lt hb), List.forall_mem_cons.mpr ⟨h1, h2⟩, Or.inr ?_⟩
    rcases h3 with h3 | ⟨pre, post, e1, e2, e3, e4⟩
    · rw [h3]; exact ⟨[], t, rfl, rfl, hb, nofun⟩
    · exact ⟨b :: pre, post, congrArg (b :: ·) e1, e2, Nat.lt_trans e3 hb, List.forall_mem_cons.mpr ⟨e3, e4⟩⟩
  | case3 b t acc hb ih =>
    obtain ⟨h1, h2, h3⟩ := ih
    refine ⟨h1, List.forall_mem_cons.mpr ⟨Nat.le_trans h1 (Nat.le_of_not_lt hb), h2⟩, h3.imp id ?_⟩
    rintro ⟨pre, post, e1, e2, e3, e4⟩
    exact ⟨b :: pre, post, congrArg (b :: ·) e1, e2, e3,
      List.forall_mem_cons.mpr ⟨Nat.lt_of_lt_of_le e3 (Nat.le_of_not_lt hb), e4⟩⟩

theorem mem_of_split {α : Type} {l pre post : List α} {x : α} (e : l = pre ++ x :: post) : x ∈ l :=
  (congrArg (fun z => x ∈ z) e).mpr (by simp)

theorem headD_mem (l : List Addr) (h : l ≠ []) : l.headD [] ∈ l := by
  cases l with
  | nil => exact absurd rfl h
  | cons a t => simp

theorem leastPick_mem (cnt : Addr → Nat) (l : List Addr) (h : l ≠ []) : leastPick cnt l ∈ l := by
  unfold leastPick
  simp only []
  by_cases he : (leastScan cnt l ([], maxUint32)).1.isEmpty = true
  · simp only [he, if_true]; exact headD_mem l h
  · simp only [he, Bool.false_eq_true, if_false]
    rcases (leastScan_spec cnt l ([], maxUint32)).2.2 with h3 | ⟨pre, post, e1, _⟩
    · rw [h3] at he; simp at he
    · exact mem_of_split e1

/-- least-connections returns a first minimum of the counts (addresses non-empty, counts below 2^32-1) -/
theorem leastPick_first_min (cnt : Addr → Nat) (l : List Addr) (h : l ≠ [])
    (hne : ∀ b ∈ l, b ≠ []) (hlt : ∀ b ∈ l, cnt b < maxUint32) :
    ∃ pre post, l = pre ++ leastPick cnt l :: post ∧ (∀ b ∈ l, cnt (leastPick cnt l) ≤ cnt b) ∧
      ∀ b ∈ pre, cnt (leastPick cnt l) < cnt b := by
  obtain ⟨_, h2, h3⟩ := leastScan_spec cnt l ([], maxUint32)
  rcases h3 with h3 | ⟨pre, post, e1, e2, _, e4⟩
  · obtain ⟨b, hb⟩ := List.exists_mem_of_ne_nil l h
    have := h2 b hb
    rw [h3] at this
    exact absurd (hlt b hb) (Nat.not_lt.mpr this)
  · have hmem : (leastScan cnt l ([], maxUint32)).1 ∈ l := mem_of_split e1
    have hp : leastPick cnt l = (leastScan cnt l ([], maxUint32)).1 :=
      if_neg (Bool.eq_false_iff.mp (List.isEmpty_eq_false_iff.mpr (hne _ hmem)))
    rw [hp, ← e2]
    exact ⟨pre, post, e1, h2, e4⟩

theorem firstUnmeasured_eq_find (lat : Addr → Option Nat) (l : List Addr) :
    firstUnmeasured lat l = l.find? (fun b => (lat b).isNone) := by
  induction l with
  | nil => rfl
  | cons c t ih =>
    unfold firstUnmeasured
    rw [List.find?_cons]
    cases lat c with
    | none => rfl
    | some v => exact ih

theorem firstUnmeasured_some (lat : Addr → Option Nat) (l : List Addr) (b : Addr) :
    firstUnmeasured lat l = some b ↔
      ∃ pre post, l = pre ++ b :: post ∧ lat b = none ∧ ∀ c ∈ pre, (lat c).isSome = true := by
  rw [firstUnmeasured_eq_find, List.find?_eq_some_iff_append]
  simp only [Option.isNone_iff_eq_none, Option.not_isNone]
  exact ⟨fun ⟨hb, pre, post, h⟩ => ⟨pre, post, h.1, hb, h.2⟩, fun ⟨pre, post, e, hb, h⟩ => ⟨hb, pre, post, e, h⟩⟩

theorem firstUnmeasured_none (lat : Addr → Option Nat) (l : List Addr)
    (h : firstUnmeasured lat l = none) : ∀ c ∈ l, (lat c).isSome = true := by
  rw [firstUnmeasured_eq_find, List.find?_eq_none] at h
  exact fun c hc => Option.isSome_iff_ne_none.mpr fun e => h c hc (by rw [e]; rfl)

/-- on measured, positive latencies and from a positive accumulator the latency scan is the strict-minimum scan -/
theorem latencyScan_eq_leastScan (lat : Addr → Option Nat) (l : List Addr) (acc : Addr × Nat)
    (hm : ∀ b ∈ l, ∃ v, lat b = some v ∧ 0 < v) (hacc : 0 < acc.2) :
    latencyScan lat l acc = some (leastScan (fun b => (lat b).getD 0) l acc) := by
  induction l generalizing acc with
  | nil => rfl
  | cons b t ih =>
    obtain ⟨v, hv, hvpos⟩ := hm b List.mem_cons_self
    have hm' := fun c hc => hm c (List.mem_cons_of_mem _ hc)
    rw [latencyScan, leastScan]
    simp only [hv, Option.getD_some]
    by_cases hb : v < acc.2
    · rw [if_pos (Or.inr hb), if_pos hb]; exact ih _ hm' hvpos
    · rw [if_neg (fun h => h.elim (by omega) hb), if_neg hb]; exact ih _ hm' hacc

theorem latencyScan_mem (lat : Addr → Option Nat) (l : List Addr) (acc r : Addr × Nat)
    (h : latencyScan lat l acc = some r) : r.1 = acc.1 ∨ r.1 ∈ l := by
  fun_induction latencyScan lat l acc with
  | case1 => cases h; exact Or.inl rfl
  | case2 => cases h
  | case3 b t acc v _ _ ih => exact Or.inr ((ih h).elim (fun e => e ▸ List.mem_cons_self) (List.mem_cons_of_mem _))
  | case4 b t acc v _ _ ih => exact (ih h).imp id (List.mem_cons_of_mem _)

theorem latencyPick_mem (lat : Addr → Option Nat) (l : List Addr) (h : l ≠ []) : latencyPick lat l ∈ l := by
  unfold latencyPick
  cases hf : firstUnmeasured lat l with
  | some b =>
    rw [firstUnmeasured_eq_find] at hf
    exact List.mem_of_find?_eq_some hf
  | none =>
    simp only []
    cases hs : latencyScan lat l ([], 0) with
    | none => exact headD_mem l h
    | some r =>
      simp only []
      by_cases he : r.1.isEmpty = true
      · simp only [he, if_true]; exact headD_mem l h
      · simp only [he, Bool.false_eq_true, if_false]
        rcases latencyScan_mem lat l _ r hs with e | e
        · simp only at e; rw [e] at he; simp at he
        · exact e

/-- lowest-latency returns a first minimum of the measured latencies (addresses non-empty, all measured and positive) -/
theorem latencyPick_first_min (lat : Addr → Option Nat) (l : List Addr) (h : l ≠ [])
    (hne : ∀ b ∈ l, b ≠ []) (hm : ∀ b ∈ l, ∃ v, lat b = some v ∧ 0 < v) :
    ∃ pre post v, l = pre ++ latencyPick lat l :: post ∧ lat (latencyPick lat l) = some v ∧
      (∀ b ∈ l, ∀ w, lat b = some w → v ≤ w) ∧ ∀ b ∈ pre, ∀ w, lat b = some w → v < w := by
  have hnone : firstUnmeasured lat l = none := by
    rw [firstUnmeasured_eq_find, List.find?_eq_none]
    intro b hb
    obtain ⟨v, hv, _⟩ := hm b hb
    rw [hv]
    exact Bool.false_ne_true
  cases l with
  | nil => exact absurd rfl h
  | cons b t =>
    obtain ⟨v, hv, hvpos⟩ := hm b List.mem_cons_self
    -- the first entry replaces the empty accumulator; from there on the scan is `leastScan`, which we start
    -- one above the first latency so that it too takes the first entry
    have hcnt : ∀ c w, lat c = some w → (lat c).getD 0 = w := fun c w hw => by rw [hw]; rfl
    have hscan : latencyScan lat (b :: t) ([], 0) =
        some (leastScan (fun b => (lat b).getD 0) (b :: t) ([], v + 1)) := by
      rw [latencyScan, leastScan]
      simp only [hv, Option.getD_some, true_or, if_true, Nat.lt_succ_self]
      exact latencyScan_eq_leastScan lat t _ (fun c hc => hm c (List.mem_cons_of_mem _ hc)) hvpos
    obtain ⟨_, h2, h3⟩ := leastScan_spec (fun b => (lat b).getD 0) (b :: t) ([], v + 1)
    generalize leastScan (fun b => (lat b).getD 0) (b :: t) ([], v + 1) = r at hscan h2 h3
    rcases h3 with rfl | ⟨pre, post, e1, e2, _, e4⟩
    · have := h2 b List.mem_cons_self
      rw [hcnt b v hv] at this; simp only at this; omega
    · have hmem : r.1 ∈ b :: t := mem_of_split e1
      obtain ⟨w, hw, _⟩ := hm r.1 hmem
      have hp : latencyPick lat (b :: t) = r.1 := by
        simp only [latencyPick, hnone, hscan, List.isEmpty_eq_false_iff.mpr (hne _ hmem), Bool.false_eq_true, if_false]
      rw [hp]
      refine ⟨pre, post, r.2, e1, by rw [hw, e2, hcnt _ _ hw], fun c hc u hu => ?_, fun c hc u hu => ?_⟩
      · rw [← hcnt c u hu]; exact h2 c hc
      · rw [← hcnt c u hu]; exact e4 c hc

theorem getD_mem (l : List Addr) (i : Nat) (h : i < l.length) : l.getD i [] ∈ l := by
  rw [List.getD_eq_getElem?_getD, List.getElem?_eq_getElem h]
  exact List.getElem_mem h

theorem pick_mem (st : Strategy) (s : SState) (host : Bytes) (rnd : Nat) (l : List Addr) (h : l ≠ [])
    (hr : st = .random → rnd < l.length) : (pick st s host rnd l).1 ∈ l := by
  cases st with
  | sequential => exact headD_mem l h
  | random => exact getD_mem l rnd (hr rfl)
  | roundRobin => exact getD_mem l _ (Nat.mod_lt _ (List.length_pos_iff.mpr h))
  | leastConnections => exact leastPick_mem _ l h
  | lowestLatency => exact latencyPick_mem _ l h

theorem rrIndex_setRR_same (s : SState) (host : Bytes) (v : Nat) : rrIndex (setRR s host v) host = v := by
  simp [rrIndex, setRR]

theorem rrIndex_setRR_other (s : SState) (host host' : Bytes) (v : Nat) (h : host' ≠ host) :
    rrIndex (setRR s host v) host' = rrIndex s host' := by
  simp only [rrIndex, setRR, List.find?_cons, beq_false_of_ne (Ne.symm h), List.find?_filter]
  -- the new head is for another host; on the rest, "not for `host` and for `host'`" is "for `host'`"
  congr 3
  funext p
  by_cases hp : p.1 = host'
  · rw [hp, beq_false_of_ne h, beq_self_eq_true]; rfl
  · rw [beq_false_of_ne hp]; simp only [Bool.false_eq_true, and_false, decide_false]

theorem countP_set_add {α : Type} (p : α → Bool) (l : List α) (i : Nat) (c a : α) (h : l[i]? = some c) :
    (l.set i a).countP p + (if p c then 1 else 0) = l.countP p + (if p a then 1 else 0) := by
  obtain ⟨hi, hc⟩ := List.getElem?_eq_some_iff.mp h
  rw [List.countP_set hi, hc]
  have := List.boole_getElem_le_countP (p := p) hi
  rw [hc] at this
  omega

/-- the multiset `m` holds exactly the values `f c` of the connections `c` in phase `P`; stated for every
    test `q` so that it gives the multiplicity of each value (`q = (· == v)`) and the size (`q = fun _ => true`) -/
def Mirrors (P : Conn → Bool) (f : Conn → Bytes) (m : List Bytes) (cs : List Conn) : Prop :=
  ∀ q : Bytes → Bool, m.countP q = cs.countP (fun c => P c && q (f c))

section mirrors
variable {P : Conn → Bool} {f : Conn → Bytes} {m : List Bytes} {cs : List Conn} {i : Nat} {c a : Conn}

theorem Mirrors.set_same (h : Mirrors P f m cs) (hc : cs[i]? = some c) (hP : P a = P c) (hf : f a = f c) :
    Mirrors P f m (cs.set i a) := fun q => by
  have := countP_set_add (fun c => P c && q (f c)) cs i c a hc
  rw [hP, hf] at this
  rw [h q]; omega

theorem Mirrors.set_enter (h : Mirrors P f m cs) (hc : cs[i]? = some c) (hPc : P c = false) (hPa : P a = true)
    (hf : f a = f c) : Mirrors P f (f c :: m) (cs.set i a) := fun q => by
  have := countP_set_add (fun c => P c && q (f c)) cs i c a hc
  simp only [hPc, hPa, hf, Bool.false_and, Bool.true_and, Bool.false_eq_true, if_false] at this
  rw [List.countP_cons, h q]; omega

theorem Mirrors.set_leave (h : Mirrors P f m cs) (hc : cs[i]? = some c) (hPc : P c = true) (hPa : P a = false) :
    Mirrors P f (m.erase (f c)) (cs.set i a) := fun q => by
  have hmem : f c ∈ m := by
    rw [← List.count_pos_iff, List.count, h, List.countP_pos_iff]
    exact ⟨c, List.mem_of_getElem? hc, by rw [hPc, beq_self_eq_true]; rfl⟩
  have := countP_set_add (fun c => P c && q (f c)) cs i c a hc
  simp only [hPc, hPa, Bool.false_and, Bool.true_and, Bool.false_eq_true, if_false] at this
  have := (List.perm_cons_erase hmem).countP_eq q
  rw [List.countP_cons, h q] at this; omega
end mirrors

def SysInv (y : Sys) : Prop :=
  Mirrors Conn.isOpen Conn.key y.active y.conns ∧ Mirrors Conn.counted Conn.backend y.counters y.conns

theorem sysInv_init (cs : List Conn) (h : ∀ c ∈ cs, c.pc = 0) :
    SysInv { conns := cs, active := [], counters := [] } := by
  constructor <;> intro q <;> symm <;> rw [List.countP_nil, List.countP_eq_zero] <;> intro c hc
  · rw [Conn.isOpen, h c hc]; exact Bool.false_ne_true
  · rw [Conn.counted, h c hc]; exact Bool.false_ne_true

theorem sysStep_inv (y : Sys) (i : Nat) (h : SysInv y) : SysInv (sysStep y i) := by
  unfold sysStep
  cases hc : y.conns[i]? with
  | none => exact h
  | some c =>
    obtain ⟨k, b, pc⟩ := c
    match pc with
    | 0 => exact ⟨h.1.set_enter hc rfl rfl rfl, h.2.set_same hc rfl rfl⟩
    | 1 => exact ⟨h.1.set_same hc rfl rfl, h.2.set_enter hc rfl rfl rfl⟩
    | 2 => exact ⟨h.1.set_same hc rfl rfl, h.2.set_leave hc rfl rfl⟩
    | 3 => exact ⟨h.1.set_leave hc rfl rfl, h.2.set_same hc rfl rfl⟩
    | n + 4 => exact h

theorem sysRun_inv (y : Sys) (sched : List Nat) (h : SysInv y) : SysInv (sysRun y sched) := by
  unfold sysRun
  induction sched generalizing y with
  | nil => exact h
  | cons i t ih => exact ih (sysStep y i) (sysStep_inv y i h)

end Gate.C30
