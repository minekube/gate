import GateModel.C27.Lemmas
import GateModel.Gen.C27
/-
C27 — resource-pack prompts never block and follow the client-version rules.

`stepL is117` is the model of the REPAIRED legacy handler (`handler_legacy.go`, and
`handler_legacy117.go` for `is117 = true`; fixes/C27-*.diff applied to /repo), `stepM` the model of `handler_modern.go`,
`stepLDefective` the legacy handler as found.  `runL`/`runM` run an arbitrary history (list of operations) and return
the final state and, per operation, its result and the observations it emitted (prompts written to the player, responses
written to the in-flight backend, status events fired, kicks) — all theorems quantify over ALL histories.
`FreshFrom 0 ops` = the queued packs carry fresh, increasing sequence numbers (every queue operation brings a new pack).
-/
namespace Gate.C27.Props
open Gate.C27

/-- Legacy handlers (clients < 1.20.3): in every history every call returns with the handler's mutex free; the only
    call that does not return normally is `Remove`, which a legacy client's handler refuses by design. -/
theorem no_deadlock_legacy (is117 : Bool) (ops : List Op) :
    (runL is117 {} ops).1.held = false ∧
    ∀ e ∈ (runL is117 {} ops).2, e.2.1 ≠ .deadlock ∧ (e.2.1 = .panic → ∃ id, e.1 = .remove id) :=
  runL_rets is117 ops {} rfl

/-- Modern handler (1.20.3+): in every history every call returns normally. -/
theorem no_deadlock_modern (ops : List Op) :
    (runM {} ops).1.held = false ∧ ∀ e ∈ (runM {} ops).2, ∃ b, e.2.1 = .ok b :=
  runM_rets ops {} rfl

/-- The prompt-discipline monitor (`Disc`) accepts the observations of every history: a pack is prompted only while
    no prompted pack is still waiting for its final response, and with a sequence number above every earlier prompt
    (queue order; no pack is prompted twice). -/
theorem single_outstanding_in_queue_order (is117 : Bool) (ops : List Op) (hf : FreshFrom 0 ops) :
    ∃ d, ({} : Disc).run (allObs (runL is117 {} ops).2) = some d := by
  obtain ⟨d, _, h, _⟩ := runL_disc_init is117 ops hf
  exact ⟨d, h⟩

/-- After every history the head of a non-empty queue IS the outstanding prompt: no queued pack (in particular no
    forced pack of a 1.17+ client) is skipped or left unprompted. -/
theorem head_of_queue_is_prompted (is117 : Bool) (ops : List Op) (hf : FreshFrom 0 ops) (q : Pack) (rest : List Pack)
    (hq : (runL is117 {} ops).1.queue = q :: rest) :
    ∃ d, ({} : Disc).run (allObs (runL is117 {} ops).2) = some d ∧ d.outstanding = some q.seq := by
  obtain ⟨d, hi, h, inv'⟩ := runL_disc_init is117 ops hf
  have hh := inv'.head
  simp only [hq] at hh
  exact ⟨d, h, hh.1⟩

/-- The auto-decline monitor accepts every history: the handler synthesises a response only as DECLINED and only
    while the client's most recent ACCEPTED/DECLINED answer is DECLINED — in particular never before the client
    answered at all (the first pack is prompted). -/
theorem auto_decline_only_after_decline (is117 : Bool) (ops : List Op) :
    ∃ l, adRun none (allObs (runL is117 {} ops).2) = some l :=
  ⟨_, runL_ad is117 ops {} rfl⟩

/-- Whatever the handler auto-declines is not a forced pack of a 1.17+ client (that one is still prompted, see
    `head_of_queue_is_prompted`). -/
theorem forced_117_never_auto_declined (is117 : Bool) (ops : List Op) (s : Status) (p : Option Pack)
    (h : Obs.fired s p true ∈ allObs (runL is117 {} ops).2) :
    s = .declined ∧ ∃ q, p = some q ∧ (q.force && is117) = false :=
  runL_autoOk is117 ops {} _ h rfl

/-- An operation about pack id `x` does not touch the outstanding list, the pending entry or the applied entry of any
    other id. -/
theorem modern_per_id (st : MSt) (op : Op) (x y : Nat) (hx : opId op = some x) (hy : y ≠ x) :
    (stepM st op).1.out y = st.out y ∧
    getL y (stepM st op).1.pending = getL y st.pending ∧
    getL y (stepM st op).1.applied = getL y st.applied := by
  cases op with
  | queue p =>
    cases hx
    simp only [stepM]
    split
    · exact ⟨rfl, rfl, rfl⟩
    · exact ⟨out_setOut_ne _ _ _ _ hy, rfl, rfl⟩
  | response s i h =>
    cases hx
    simp only [stepM, withLockM]
    split
    · exact ⟨rfl, rfl, rfl⟩
    · have := respondM_other { st with held := true } s x h y hy
      simpa [MSt.out] using this
  | remove id =>
    cases hx
    simp only [stepM, withLockM]
    split
    · exact ⟨rfl, rfl, rfl⟩
    · simp [MSt.out, getL_eraseL_ne _ _ _ hy]
  | clear | backend b => cases hx

/-- One outstanding prompt per id: a pack is prompted only when it is queued while nothing of its id is outstanding,
    or when a FINAL response for its id has just consumed the previous head of that id's list (and then it is the new
    head). -/
theorem modern_prompt_only_when_id_free (st : MSt) (op : Op) (p : Pack) (hp : Obs.prompt p ∈ (stepM st op).2.2) :
    (op = .queue p ∧ st.out p.id = []) ∨
    (∃ s i h q rest, op = .response s i h ∧ s.intermediate = false ∧ st.out i = q :: rest ∧ p ∈ rest ∧
        ((stepM st op).1.out i).head? = some p) := by
  cases op with
  | queue q =>
    left
    simp only [stepM] at hp
    split at hp
    · cases hp
    · split at hp
      · rename_i hlen
        have hh := mem_tickM hp
        rw [out_setOut_self] at hh hlen
        cases hq : st.out q.id with
        | nil => rw [hq] at hh; cases hh; exact ⟨rfl, hq⟩
        | cons a r => rw [hq] at hlen; simp at hlen
      · cases hp
  | response s i h =>
    right
    simp only [stepM, withLockM] at hp ⊢
    split at hp
    · cases hp
    · rename_i hheld
      simp only [hheld]
      obtain ⟨hs, hp⟩ := prompt_mem_respondM hp
      have hh := mem_tickM hp
      have hout := respondStM_out_final { st with held := true } i hs
      obtain ⟨q, rest, hl, hm⟩ := mem_swapRemoveHead (st.out i) p (List.mem_of_mem_head? (hout ▸ hh))
      refine ⟨s, i, h, q, rest, rfl, hs, hl, hm, ?_⟩
      rw [respondM_fst]
      exact hh
  | clear | remove id => simp only [stepM, withLockM] at hp; split at hp <;> cases hp
  | backend b => cases hp

/-- Legacy: handling a response (the client's or a synthesised one) writes exactly one response packet with the
    response's status/id/hash to the in-flight backend iff there is one and the pack is not a proxy-originated one,
    and nothing else to the backend. -/
theorem report_backend_iff_backend_origin_legacy (st : LSt) (s : Status) (id hash : Nat) (auto : Bool) :
    ((handleResponse st s id hash auto).2.1.filter (fun o => match o with | .report .. => true | _ => false)) =
      if st.backend ∧ handledOf st.queue.head? = false then [.report s id hash] else [] := by
  unfold handleResponse
  rw [List.filter_append, filter_reportOf _ fun _ _ _ => rfl]
  by_cases hk : (decide (s = .declined) && forceOf st.queue.head?) = true <;> simp [hk, List.filter]

/-- Modern: likewise; for a repeated SUCCESSFUL of an untracked but applied pack the applied pack's origin decides. -/
theorem report_backend_iff_backend_origin_modern (st : MSt) (s : Status) (id hash : Nat) :
    ((respondM st s id hash).2.1.filter (fun o => match o with | .report .. => true | _ => false)) =
      let q := match earlyM s (st.out id).head? (getL id (popM st s id).applied) with
               | some a => some a
               | none => (st.out id).head?
      if st.backend ∧ handledOf q = false then [.report s id hash] else [] := by
  have hev : ∀ q, (eventsM s q).filter (fun o => match o with | .report .. => true | _ => false) = [] := by
    intro q
    unfold eventsM
    cases q with
    | none => rfl
    | some p => by_cases h : (decide (s = .declined) && p.force) = true <;> simp [h, List.filter]
  have htick : ∀ st' : MSt, (tickM st' id).filter (fun o => match o with | .report .. => true | _ => false) = [] := by
    intro st'
    unfold tickM
    split <;> simp [List.filter]
  have hrep := filter_reportOf (fun o => match o with | .report .. => true | _ => false) fun _ _ _ => rfl
  have hb1 := popM_backend st s id
  have hb2 := respondStM_backend st s id
  unfold respondM
  simp only []
  split
  · rename_i a he
    simp only [List.filter_append, hev, hrep, List.nil_append, hb1, he]
  · rename_i he
    by_cases hs : s.intermediate = true
    · simp only [hs, if_true, List.filter_append, hev, hrep, List.nil_append, List.filter_nil, hb2, he]
    · simp only [hs, Bool.false_eq_true, if_false, List.filter_append, hev, htick, hrep, List.nil_append, hb2, he]

/-! ### the legacy handler as found violates the property (kernel-checked witnesses) -/

def wPack : Pack := ⟨1, 0, 1, false, false⟩

/-- The 1-operation witness: on the code as found, queueing a pack for a client below 1.20.3 never returns
    (`QueueResourcePack` holds the mutex and `tickResourcePackQueue` locks it again). -/
theorem no_deadlock_fails : (stepLDefective {} (.queue wPack)).2.1 = .deadlock := by decide +kernel

/-- … and so does every final response to a queued pack. -/
theorem final_response_deadlocks_fails :
    (stepLDefective { queue := [wPack] } (.response .successful 0 0)).2.1 = .deadlock := by decide +kernel

/-- A response while nothing is outstanding crashes the code as found (nil dereference). -/
theorem untracked_response_panics_fails : (stepLDefective {} (.response .successful 0 0)).2.1 = .panic := by decide +kernel

/-- With only the locks repaired but `prevResourceResponse` still a `bool` starting at `false`, the FIRST pack would
    be auto-declined instead of prompted: the monitor rejects, and no prompt is written. -/
theorem first_pack_auto_declined_fails :
    (stepL false initPrevFalse (.queue wPack)).2.2 = [.fired .declined (some wPack) true] ∧
    adRun none (stepL false initPrevFalse (.queue wPack)).2.2 = none := by
  constructor <;> decide +kernel

/-- The repaired handler on the same witnesses: the pack is prompted, responses return, untracked responses are
    passed to the backend. -/
theorem witnesses_repaired :
    stepL false {} (.queue wPack) = ({ queue := [wPack] }, .ok false, [.prompt wPack]) ∧
    (stepL true { queue := [wPack] } (.response .successful 0 0)).2.1 = .ok false ∧
    stepL false { backend := true } (.response .successful 0 0) =
      ({ backend := true }, .ok false, [.fired .successful none false, .report .successful 0 0]) := by
  refine ⟨?_, ?_, ?_⟩ <;> decide +kernel

/-- After a decline the repaired 1.17+ handler auto-declines the non-forced pack, reports it, and prompts the forced
    pack exactly once. -/
theorem decline_flushes_until_forced :
    (runL true { backend := true }
      [.queue ⟨1,0,1,false,false⟩, .queue ⟨2,0,2,false,false⟩, .queue ⟨3,0,3,true,false⟩, .response .declined 0 0]).2.map (·.2.2) =
    [[.prompt ⟨1,0,1,false,false⟩], [], [],
     [.fired .declined (some ⟨1,0,1,false,false⟩) false, .report .declined 0 0,
      .fired .declined (some ⟨2,0,2,false,false⟩) true, .report .declined 0 2,
      .prompt ⟨3,0,3,true,false⟩]] := by decide +kernel

/-- A pack whose id is already applied is queued again and DISCARDED: the call returns and the applied pack is forgotten
    (the state update every status performs is part of the model, see `legacy_status_cases`). -/
theorem discarded_forgets_applied_pack :
    (runL false {} [.queue ⟨1,1,1,false,false⟩, .response .successful 0 0, .queue ⟨2,1,1,false,false⟩,
                    .response .discarded 0 0]).1 = ({} : LSt) ∧
    (runL false {} [.queue ⟨1,1,1,false,false⟩, .response .successful 0 0, .queue ⟨2,1,1,false,false⟩]).1.applied =
      some ⟨1,1,1,false,false⟩ := by
  constructor <;> decide +kernel

/-! ### the model's shape is the source's shape (regenerated facts) -/

/-- Only the entry points take the legacy handler's mutex; `tickResourcePackQueue` and `handleResponse` do not, and
    `tickResourcePackQueue` does not call back into a locking entry point. -/
theorem legacy_lock_regions :
    Gate.Gen.C27.legacyQueueCalls.take 2 = ["h.Lock", "defer:h.Unlock"] ∧
    Gate.Gen.C27.legacyOnResponseCalls.take 2 = ["h.Lock", "defer:h.Unlock"] ∧
    "h.Lock" ∉ Gate.Gen.C27.legacyTickCalls ∧ "h.RLock" ∉ Gate.Gen.C27.legacyTickCalls ∧
    "h.OnResourcePackResponse" ∉ Gate.Gen.C27.legacyTickCalls ∧ "h.onResourcePackResponse" ∉ Gate.Gen.C27.legacyTickCalls ∧
    "h.Lock" ∉ Gate.Gen.C27.legacyHandleResponseCalls ∧ "h.RLock" ∉ Gate.Gen.C27.legacyHandleResponseCalls ∧
    "h.tickResourcePackQueue" ∉ Gate.Gen.C27.legacyHandleResponseCalls := by decide +kernel

/-- Closed world: everything that runs with the legacy handler's mutex held — `handleResponse`, `tickResourcePackQueue`
    and what they call on the handler (`HandleResponseResult`, `SendResourcePackRequestPacket`, the event's kick
    predicate) down to the package helpers — calls only functions from this list, none of which takes the handler's
    mutex.  Any new call from a locked region (e.g. a locking accessor such as `ClearAppliedResourcePacks`) breaks
    this obligation. -/
def lockFreeCalls : List String :=
  ["return", "new", "len",
   -- the queue, the player, the event, the backend
   "h.outstandingPacks.Front", "h.outstandingPacks.Len", "h.outstandingPacks.TryPopFront", "h.outstandingPacks.PushBack",
   "h.player.Protocol", "h.player.Protocol().GreaterEqual", "h.player.Disconnect",
   "bundle.Status.Intermediate", "bundle.ResponsePacket", "newPlayerResourcePackStatusEvent", "event.FireParallel",
   "func:{", "}", "shouldDisconnectForForcePack", "e.Status", "e.PackInfo", "event.OverwriteKick", "errors.Join",
   "player.BackendInFlight", "backend.WritePacket", "player.Protocol", "queued.RequestPacket", "player.WritePacket",
   -- lock-free methods / helpers whose own call lists are checked below
   "h.handleResponse", "h.tickResourcePackQueue", "h.HandleResponseResult", "h.SendResourcePackRequestPacket",
   "handleResponseResult", "sendResourcePackRequestPacket", "h.l.shouldDisconnectForForcePack"]

theorem legacy_locked_region_is_closed :
    (∀ c ∈ Gate.Gen.C27.legacyHandleResponseCalls, c ∈ lockFreeCalls) ∧
    (∀ c ∈ Gate.Gen.C27.legacyTickCalls, c ∈ lockFreeCalls) ∧
    (∀ c ∈ Gate.Gen.C27.legacyHandleResultCalls, c ∈ lockFreeCalls) ∧
    (∀ c ∈ Gate.Gen.C27.legacySendRequestCalls, c ∈ lockFreeCalls) ∧
    (∀ c ∈ Gate.Gen.C27.legacyShouldDisconnectCalls, c ∈ lockFreeCalls) ∧
    (∀ c ∈ Gate.Gen.C27.legacy117ShouldDisconnectCalls, c ∈ lockFreeCalls) ∧
    (∀ c ∈ Gate.Gen.C27.handleResponseResultCalls, c ∈ lockFreeCalls) ∧
    (∀ c ∈ Gate.Gen.C27.sendRequestPacketCalls, c ∈ lockFreeCalls) ∧
    -- between Lock and Unlock the two entry points call only these
    (∀ c ∈ Gate.Gen.C27.legacyQueueCalls.drop 2, c ∈ lockFreeCalls) ∧
    (∀ c ∈ Gate.Gen.C27.legacyOnResponseCalls.drop 2, c ∈ lockFreeCalls) ∧
    -- the 1.17 wrapper only delegates
    Gate.Gen.C27.legacy117OnResponseCalls = ["h.l.onResourcePackResponse", "return"] ∧
    Gate.Gen.C27.legacy117QueueCalls = ["h.l.QueueResourcePack", "return"] := by decide +kernel

/-- Closed world for the modern handler: with its mutex held, `OnResourcePackResponse` calls only these; its tick
    merely TRIES to read-lock (`modern_lock_regions`). -/
def modernLockedCalls : List String :=
  ["m.outstandingPacks.Get", "m.outstandingPacks.Remove", "bundle.Status.Intermediate", "len", "delete", "return",
   "newPlayerResourcePackStatusEvent", "event.FireParallel", "func:{", "}", "e.Status", "e.PackInfo", "e.OverwriteKick",
   "m.player.Disconnect", "errors.Join", "m.HandleResponseResult", "m.tickResourcePackQueue",
   "m.TryRLock", "m.RUnlock", "m.SendResourcePackRequestPacket", "handleResponseResult", "sendResourcePackRequestPacket"]

theorem modern_locked_region_is_closed :
    (∀ c ∈ Gate.Gen.C27.modernOnResponseCalls.drop 2, c ∈ modernLockedCalls) ∧
    (∀ c ∈ Gate.Gen.C27.modernTickCalls, c ∈ modernLockedCalls) ∧
    (∀ c ∈ Gate.Gen.C27.modernHandleResultCalls, c ∈ modernLockedCalls) ∧
    (∀ c ∈ Gate.Gen.C27.modernSendRequestCalls, c ∈ modernLockedCalls) := by decide +kernel

/-- the response is handled (and reported) before the queue is ticked, once; an empty queue is popped with the
    non-panicking `TryPopFront` -/
theorem legacy_response_shape :
    Gate.Gen.C27.legacyOnResponseCalls =
      ["h.Lock", "defer:h.Unlock", "h.handleResponse", "bundle.Status.Intermediate", "h.tickResourcePackQueue",
       "errors.Join", "return"] ∧
    "h.outstandingPacks.TryPopFront" ∈ Gate.Gen.C27.legacyHandleResponseCalls ∧
    "h.outstandingPacks.PopFront" ∉ Gate.Gen.C27.legacyHandleResponseCalls ∧
    "h.handleResponse" ∈ Gate.Gen.C27.legacyTickCalls := by decide +kernel

/-- the statuses the legacy handler distinguishes are those of `updateL` -/
theorem legacy_status_cases :
    Gate.Gen.C27.legacyStatusCases =
      ["AcceptedResponseStatus", "DeclinedResponseStatus", "SuccessfulResponseStatus",
       "FailedDownloadResponseStatus", "DiscardedResponseStatus"] := by decide +kernel

/-- the modern handler releases its lock before ticking from `QueueResourcePack`, and its tick only TRIES to lock -/
theorem modern_lock_regions :
    Gate.Gen.C27.modernQueueCalls.take 6 =
      ["m.Lock", "m.outstandingPacks.Put", "m.outstandingPacks.Count", "m.outstandingPacks.Get", "m.Unlock",
       "m.tickResourcePackQueue"] ∧
    "m.Lock" ∉ Gate.Gen.C27.modernTickCalls ∧ "m.RLock" ∉ Gate.Gen.C27.modernTickCalls ∧
    "m.TryRLock" ∈ Gate.Gen.C27.modernTickCalls := by decide +kernel

/-- `handleResponseResult` writes to the in-flight backend only -/
theorem report_goes_to_backend_in_flight :
    Gate.Gen.C27.handleResponseResultCalls =
      ["player.BackendInFlight", "bundle.ResponsePacket", "backend.WritePacket", "return", "return"] := by decide +kernel

/-! ### the hypotheses are satisfiable -/

example : FreshFrom 0 [.queue ⟨1,0,1,false,false⟩, .response .accepted 0 0, .queue ⟨2,0,0,true,true⟩, .clear] := by
  simp [FreshFrom]

end Gate.C27.Props
