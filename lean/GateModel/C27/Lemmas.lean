import GateModel.C27.Model
/-
C27 helper definitions and lemmas: the trace monitors that phrase the property's clauses, and the invariants
that tie them to the handler models.
-/
namespace Gate.C27

/-- concatenated observations of a history -/
def allObs (tr : List (Op × Ret × List Obs)) : List Obs := tr.flatMap (·.2.2)

/-- Prompt discipline for clients below 1.20.3: `outstanding` = the prompted pack still waiting for its final
    response, `last` = seq of the last prompted pack.  A prompt is legal only when nothing is outstanding and its
    seq is larger than every earlier prompt's (queue order, each pack at most once). -/
structure Disc where
  outstanding : Option Nat := none
  last : Nat := 0
  deriving DecidableEq, Repr

def Disc.step (d : Disc) : Obs → Option Disc
  | .prompt p => if d.outstanding = none ∧ d.last < p.seq then some ⟨some p.seq, p.seq⟩ else none
  | .fired s (some p) _ =>
    if s.intermediate = false ∧ d.outstanding = some p.seq then some { d with outstanding := none } else some d
  | _ => some d

def Disc.run (d : Disc) : List Obs → Option Disc
  | [] => some d
  | o :: os => (d.step o).bind (·.run os)

/-- Auto-decline rule: `last` = the client's last answer among ACCEPTED (`true`) / DECLINED (`false`).  A response
    synthesised by the handler (`auto`) must be DECLINED and is legal only while `last = some false`. -/
def adStep (last : Option Bool) : Obs → Option (Option Bool)
  | .fired s _ auto =>
    if auto then (if s = .declined ∧ last = some false then some last else none)
    else if s = .accepted then some (some true)
    else if s = .declined then some (some false)
    else some last
  | _ => some last

def adRun (last : Option Bool) : List Obs → Option (Option Bool)
  | [] => some last
  | o :: os => (adStep last o).bind (adRun · os)

/-- histories whose queued packs carry fresh, increasing sequence numbers above `hi` -/
def FreshFrom : Nat → List Op → Prop
  | _, [] => True
  | hi, .queue p :: ops => hi < p.seq ∧ FreshFrom p.seq ops
  | hi, _ :: ops => FreshFrom hi ops

/-! Both monitors are partial transition functions run along the observations. -/

def mrun {σ : Type} (step : σ → Obs → Option σ) : σ → List Obs → Option σ
  | x, [] => some x
  | x, o :: os => (step x o).bind (mrun step · os)

theorem Disc.run_eq : ∀ (os : List Obs) (d : Disc), d.run os = mrun Disc.step d os
  | [], _ => rfl
  | o :: os, d => by simp only [Disc.run, mrun, Disc.run_eq os]

theorem adRun_eq : ∀ (os : List Obs) (l : Option Bool), adRun l os = mrun adStep l os
  | [], _ => rfl
  | o :: os, l => by simp only [adRun, mrun, adRun_eq os]

theorem mrun_append {σ : Type} (step : σ → Obs → Option σ) (x : σ) (a b : List Obs) :
    mrun step x (a ++ b) = (mrun step x a).bind (mrun step · b) := by
  induction a generalizing x with
  | nil => rfl
  | cons o os ih =>
    simp only [List.cons_append, mrun]
    cases step x o with
    | none => rfl
    | some y => exact ih y

theorem Disc.run_append (d : Disc) (a b : List Obs) : d.run (a ++ b) = (d.run a).bind (·.run b) := by
  simp only [Disc.run_eq, mrun_append]

theorem adRun_append (l : Option Bool) (a b : List Obs) : adRun l (a ++ b) = (adRun l a).bind (adRun · b) := by
  simp only [adRun_eq, mrun_append]

/-- `updateL` writes `prev`, `pending` and `applied` only -/
theorem updateL_frame (st : LSt) (s : Status) (q : Option Pack) :
    (updateL st s q).queue = st.queue ∧ (updateL st s q).held = st.held ∧
      (updateL st s q).backend = st.backend := by
  unfold updateL
  repeat' split
  all_goals exact ⟨rfl, rfl, rfl⟩

@[simp] theorem updateL_queue (st : LSt) (s : Status) (q : Option Pack) : (updateL st s q).queue = st.queue :=
  (updateL_frame st s q).1

@[simp] theorem updateL_held (st : LSt) (s : Status) (q : Option Pack) : (updateL st s q).held = st.held :=
  (updateL_frame st s q).2.1

@[simp] theorem updateL_backend (st : LSt) (s : Status) (q : Option Pack) : (updateL st s q).backend = st.backend :=
  (updateL_frame st s q).2.2

theorem handleResponse_queue (st : LSt) (s : Status) (i h : Nat) (a : Bool) :
    (handleResponse st s i h a).1.queue = if s.intermediate then st.queue else st.queue.tail := by
  unfold handleResponse
  by_cases hs : s.intermediate <;> simp [hs]

@[simp] theorem handleResponse_held (st : LSt) (s : Status) (i h : Nat) (a : Bool) :
    (handleResponse st s i h a).1.held = st.held := by
  unfold handleResponse
  by_cases hs : s.intermediate <;> simp [hs]

theorem declineLoop_held (is117 : Bool) (fuel : Nat) (st : LSt) : (declineLoop is117 fuel st).1.held = st.held := by
  fun_induction declineLoop is117 fuel st with
  | case4 _ st q _ _ _ _ _ ih => exact ih.trans (handleResponse_held st _ _ _ _)
  | _ => rfl

theorem tick_held (is117 : Bool) (st : LSt) : (tick is117 st).1.held = st.held := by
  fun_cases tick is117 st
  · rfl
  · exact declineLoop_held _ _ _
  · rfl

def SortedQ (q : List Pack) : Prop := q.Pairwise (fun a b => a.seq < b.seq)

/-- between operations: the head of a non-empty queue is the outstanding prompt; `hi` bounds every sequence number
    handed out so far -/
structure InvL (st : LSt) (d : Disc) (hi : Nat) : Prop where
  sorted : SortedQ st.queue
  bound  : ∀ p ∈ st.queue, p.seq ≤ hi
  last   : d.last ≤ hi
  head   : match st.queue with
           | [] => d.outstanding = none
           | q :: _ => d.outstanding = some q.seq ∧ d.last = q.seq

/-- inside an operation, after the head was taken: nothing outstanding, everything queued is newer than any prompt -/
structure Mid (st : LSt) (d : Disc) (hi : Nat) : Prop where
  sorted : SortedQ st.queue
  bound  : ∀ p ∈ st.queue, p.seq ≤ hi
  last   : d.last ≤ hi
  none   : d.outstanding = none
  newer  : ∀ p ∈ st.queue, d.last < p.seq

theorem InvL.congr {st : LSt} {d : Disc} {hi : Nat} (inv : InvL st d hi) {st' : LSt} (h : st'.queue = st.queue) : InvL st' d hi :=
  ⟨by rw [h]; exact inv.sorted, by rw [h]; exact inv.bound, inv.last, by rw [h]; exact inv.head⟩
theorem Mid.congr {st : LSt} {d : Disc} {hi : Nat} (m : Mid st d hi) {st' : LSt} (h : st'.queue = st.queue) : Mid st' d hi :=
  ⟨by rw [h]; exact m.sorted, by rw [h]; exact m.bound, m.last, m.none, by rw [h]; exact m.newer⟩

theorem reportOf_reports (b : Bool) (q : Option Pack) (s : Status) (i h : Nat) :
    ∀ o ∈ reportOf b q s i h, ∃ s i h, o = .report s i h := by
  unfold reportOf
  split
  · simp
  · split <;> simp

/-- a filter that keeps reports keeps of `handleResponseResult`'s output one report iff there is a backend in flight and
    the pack is not the proxy's -/
theorem filter_reportOf (f : Obs → Bool) (hf : ∀ s i h, f (.report s i h) = true) (b : Bool) (q : Option Pack)
    (s : Status) (id hash : Nat) :
    (reportOf b q s id hash).filter f = if b ∧ handledOf q = false then [.report s id hash] else [] := by
  unfold reportOf
  by_cases hh : handledOf q = true <;> by_cases hb : b = true <;> simp [hh, hb, List.filter, hf]

/-- a monitor that passes kicks and reports sees of `handleResponse` only the event -/
theorem mrun_handleResponse {σ : Type} (step : σ → Obs → Option σ) (hk : ∀ x, step x .kick = some x)
    (hr : ∀ x s i h, step x (.report s i h) = some x) (x : σ) (st : LSt) (s : Status) (i h : Nat) (a : Bool) :
    mrun step x (handleResponse st s i h a).2.1 = step x (.fired s st.queue.head? a) := by
  have hrep : ∀ y, mrun step y (reportOf st.backend st.queue.head? s i h) = some y := by
    intro y
    unfold reportOf
    split
    · rfl
    · split
      · simp only [mrun, hr]; rfl
      · rfl
  unfold handleResponse
  simp only [List.cons_append, List.nil_append, mrun]
  cases step x (.fired s st.queue.head? a) with
  | none => rfl
  | some y =>
    show mrun step y _ = some y
    split
    · simp only [List.cons_append, List.nil_append, mrun, hk]; exact hrep y
    · exact hrep y

theorem run_handleResponse (d : Disc) (st : LSt) (s : Status) (i h : Nat) (a : Bool) :
    d.run (handleResponse st s i h a).2.1 = d.step (.fired s st.queue.head? a) := by
  rw [Disc.run_eq]
  exact mrun_handleResponse _ (fun _ => rfl) (fun _ _ _ _ => rfl) ..

/-- dropping the head leaves `Mid`, once nothing is outstanding and the rest is newer than the last prompt -/
theorem Mid.of_tail {st st' : LSt} {d : Disc} {hi : Nat} (hq : st'.queue = st.queue.tail)
    (hs : SortedQ st.queue) (hb : ∀ p ∈ st.queue, p.seq ≤ hi) (hl : d.last ≤ hi) (hn : d.outstanding = .none)
    (hnew : ∀ p ∈ st.queue.tail, d.last < p.seq) : Mid st' d hi :=
  ⟨by rw [SortedQ, hq]; exact hs.sublist (List.tail_sublist _),
   fun p hp => hb p (List.mem_of_mem_tail (hq ▸ hp)), hl, hn, fun p hp => hnew p (hq ▸ hp)⟩

/-- a final response consumes the outstanding head -/
theorem handleResponse_final (st : LSt) (d : Disc) (hi : Nat) (s : Status) (i h : Nat) (a : Bool)
    (hs : s.intermediate = false) (inv : InvL st d hi) :
    ∃ d', d.run (handleResponse st s i h a).2.1 = some d' ∧ Mid (handleResponse st s i h a).1 d' hi := by
  have hq : (handleResponse st s i h a).1.queue = st.queue.tail := by rw [handleResponse_queue, hs]; rfl
  have hd := inv.head
  have hsort := inv.sorted
  rw [run_handleResponse]
  cases hqu : st.queue with
  | nil =>
    rw [hqu] at hd
    exact ⟨d, rfl, .of_tail hq inv.sorted inv.bound inv.last hd (by rw [hqu]; nofun)⟩
  | cons q rest =>
    rw [hqu] at hd
    rw [hqu, SortedQ, List.pairwise_cons] at hsort
    refine ⟨{ d with outstanding := none }, by simp [Disc.step, hs, hd.1], ?_⟩
    exact .of_tail hq inv.sorted inv.bound inv.last rfl (by rw [hqu]; exact fun p hp => hd.2 ▸ hsort.1 p hp)

/-- an intermediate response (ACCEPTED / DOWNLOADED) leaves queue and monitor alone -/
theorem handleResponse_peek (st : LSt) (d : Disc) (hi : Nat) (s : Status) (i h : Nat) (a : Bool)
    (hs : s.intermediate = true) (inv : InvL st d hi) :
    d.run (handleResponse st s i h a).2.1 = some d ∧ InvL (handleResponse st s i h a).1 d hi := by
  have hq := handleResponse_queue st s i h a
  simp only [hs, if_true] at hq
  rw [run_handleResponse]
  constructor
  · cases hqu : st.queue <;> simp [Disc.step, hs]
  · exact inv.congr hq

/-- the flush loop declines unprompted packs only: the monitor never sees an outstanding prompt touched -/
theorem handleResponse_auto (st : LSt) (d : Disc) (hi : Nat) (i h : Nat) (m : Mid st d hi) :
    d.run (handleResponse st .declined i h true).2.1 = some d ∧ Mid (handleResponse st .declined i h true).1 d hi := by
  have hq := handleResponse_queue st .declined i h true
  simp only [Status.intermediate] at hq
  rw [run_handleResponse]
  constructor
  · cases hqu : st.queue <;> simp [Disc.step, m.none]
  · exact .of_tail hq m.sorted m.bound m.last m.none fun p hp => m.newer p (List.mem_of_mem_tail hp)

theorem Mid.idle {st : LSt} {d : Disc} {hi : Nat} (m : Mid st d hi) (hq : st.queue = []) : InvL st d hi :=
  ⟨m.sorted, m.bound, m.last, by rw [hq]; exact m.none⟩

/-- prompting the head of the queue is legal when nothing is outstanding -/
theorem Mid.prompt {st : LSt} {d : Disc} {hi : Nat} {q : Pack} {rest : List Pack} (m : Mid st d hi)
    (hq : st.queue = q :: rest) : ∃ d', d.run [.prompt q] = some d' ∧ InvL st d' hi := by
  have hmem : q ∈ st.queue := by rw [hq]; exact List.mem_cons_self
  refine ⟨⟨some q.seq, q.seq⟩, ?_, m.sorted, m.bound, m.bound q hmem, by rw [hq]; exact ⟨rfl, rfl⟩⟩
  simp [Disc.run, Disc.step, m.none, m.newer q hmem]

theorem declineLoop_inv (is117 : Bool) (fuel : Nat) (st : LSt) (d : Disc) (hi : Nat)
    (hf : st.queue.length ≤ fuel) (m : Mid st d hi) :
    ∃ d', d.run (declineLoop is117 fuel st).2 = some d' ∧ InvL (declineLoop is117 fuel st).1 d' hi := by
  fun_induction declineLoop is117 fuel st generalizing d with
  | case1 st => exact ⟨d, rfl, m.idle (List.eq_nil_of_length_eq_zero (Nat.le_zero.mp hf))⟩
  | case2 _ _ hq => exact ⟨d, rfl, m.idle hq⟩
  | case3 _ _ _ _ hq => exact m.prompt hq
  | case4 fuel st q _ hq _ r _ ih =>
    obtain ⟨h1, h2⟩ := handleResponse_auto st d hi q.id q.hash m
    have hlen : r.1.queue.length ≤ fuel := by
      rw [handleResponse_queue]; simp [Status.intermediate, hq] at hf ⊢; omega
    obtain ⟨d', h3, h4⟩ := ih d hlen h2
    exact ⟨d', by rw [Disc.run_append, h1]; exact h3, h4⟩

theorem tick_inv (is117 : Bool) (st : LSt) (d : Disc) (hi : Nat) (m : Mid st d hi) :
    ∃ d', d.run (tick is117 st).2 = some d' ∧ InvL (tick is117 st).1 d' hi := by
  fun_cases tick is117 st with
  | case1 hq => exact ⟨d, rfl, m.idle hq⟩
  | case2 _ _ hq => exact declineLoop_inv is117 _ st d hi (Nat.le_refl _) m
  | case3 _ _ hq => exact m.prompt hq

def nextHi (hi : Nat) : Op → Nat
  | .queue p => p.seq
  | _ => hi
def freshOp (hi : Nat) : Op → Prop
  | .queue p => hi < p.seq
  | _ => True

theorem FreshFrom_cons (hi : Nat) (op : Op) (ops : List Op) :
    FreshFrom hi (op :: ops) ↔ freshOp hi op ∧ FreshFrom (nextHi hi op) ops := by
  cases op <;> simp [FreshFrom, freshOp, nextHi]

theorem stepL_inv (is117 : Bool) (st : LSt) (d : Disc) (hi : Nat) (op : Op)
    (hheld : st.held = false) (inv : InvL st d hi) (hf : freshOp hi op) :
    ∃ d', d.run (stepL is117 st op).2.2 = some d' ∧ InvL (stepL is117 st op).1 d' (nextHi hi op) := by
  cases op with
  | queue p =>
    simp only [freshOp] at hf
    have hlt : ∀ a ∈ st.queue, a.seq < p.seq := fun a ha => Nat.lt_of_le_of_lt (inv.bound a ha) hf
    have hsort : SortedQ (st.queue ++ [p]) :=
      List.pairwise_append.mpr
        ⟨inv.sorted, List.pairwise_singleton _ _, fun a ha b hb => List.mem_singleton.mp hb ▸ hlt a ha⟩
    have hbound : ∀ a ∈ st.queue ++ [p], a.seq ≤ p.seq := by
      intro a ha
      rcases List.mem_append.mp ha with h | h
      · exact Nat.le_of_lt (hlt a h)
      · rw [List.mem_singleton.mp h]; exact Nat.le_refl _
    have hlast : d.last ≤ p.seq := Nat.le_trans inv.last (Nat.le_of_lt hf)
    have hd := inv.head
    simp only [stepL, withLockL, hheld, nextHi, Bool.false_eq_true, ↓reduceIte]
    cases hqu : st.queue with
    | nil =>
      rw [hqu] at hd
      have m : Mid { st with queue := st.queue ++ [p], held := true } d p.seq :=
        ⟨hsort, hbound, hlast, hd, by
          intro q hq
          rw [hqu] at hq
          cases List.mem_singleton.mp hq
          exact Nat.lt_of_le_of_lt inv.last hf⟩
      obtain ⟨d', h1, h2⟩ := tick_inv is117 _ d p.seq m
      rw [hqu] at h1 h2
      exact ⟨d', h1, h2.congr rfl⟩
    | cons q rest =>
      rw [hqu] at hd hsort hbound
      have hne : ¬ (q :: rest ++ [p]).length = 1 := by simp
      simp only [hne, if_false]
      exact ⟨d, rfl, hsort, hbound, hlast, hd⟩
  | response s i h =>
    simp only [stepL, withLockL, hheld, nextHi, Bool.false_eq_true, ↓reduceIte]
    have inv' : InvL { st with held := true } d hi := inv.congr rfl
    split
    · rename_i hs
      obtain ⟨h1, h2⟩ := handleResponse_peek _ d hi s i h false hs inv'
      exact ⟨d, h1, h2.congr rfl⟩
    · rename_i hs
      obtain ⟨d1, h1, m⟩ := handleResponse_final _ d hi s i h false (Bool.eq_false_iff.mpr hs) inv'
      obtain ⟨d2, h2, h3⟩ := tick_inv is117 _ d1 hi m
      exact ⟨d2, by rw [Disc.run_append, h1]; exact h2, h3.congr rfl⟩
  | _ =>
    -- the other operations emit nothing and leave the queue alone
    simp only [stepL, withLockL, hheld, nextHi, Bool.false_eq_true, ↓reduceIte]
    exact ⟨d, rfl, inv.congr rfl⟩

theorem stepL_held (is117 : Bool) (st : LSt) (op : Op) (h : st.held = false) :
    (stepL is117 st op).1.held = false ∧ (stepL is117 st op).2.1 ≠ .deadlock ∧
    ((stepL is117 st op).2.1 = .panic → ∃ id, op = .remove id) := by
  cases op <;> simp [stepL, withLockL, h]

theorem runL_disc (is117 : Bool) (ops : List Op) (st : LSt) (d : Disc) (hi : Nat)
    (hheld : st.held = false) (inv : InvL st d hi) (hf : FreshFrom hi ops) :
    ∃ d' hi', d.run (allObs (runL is117 st ops).2) = some d' ∧ InvL (runL is117 st ops).1 d' hi' := by
  induction ops generalizing st d hi with
  | nil => exact ⟨d, hi, rfl, inv⟩
  | cons op ops ih =>
    obtain ⟨hfo, hfr⟩ := (FreshFrom_cons hi op ops).mp hf
    obtain ⟨d1, h1, inv1⟩ := stepL_inv is117 st d hi op hheld inv hfo
    obtain ⟨d2, hi2, h2, inv2⟩ := ih _ d1 _ (stepL_held is117 st op hheld).1 inv1 hfr
    refine ⟨d2, hi2, ?_, inv2⟩
    simp only [runL, allObs, List.flatMap_cons]
    simp only [allObs] at h2
    rw [Disc.run_append, h1]
    exact h2

theorem runL_disc_init (is117 : Bool) (ops : List Op) (hf : FreshFrom 0 ops) :
    ∃ d hi, ({} : Disc).run (allObs (runL is117 {} ops).2) = some d ∧ InvL (runL is117 {} ops).1 d hi :=
  runL_disc is117 ops {} {} 0 rfl ⟨List.Pairwise.nil, (by intro _ h; cases h), Nat.le_refl 0, rfl⟩ hf

theorem runL_rets (is117 : Bool) (ops : List Op) (st : LSt) (hheld : st.held = false) :
    (runL is117 st ops).1.held = false ∧
    ∀ e ∈ (runL is117 st ops).2, e.2.1 ≠ .deadlock ∧ (e.2.1 = .panic → ∃ id, e.1 = .remove id) := by
  induction ops generalizing st with
  | nil => exact ⟨hheld, by intro _ h; cases h⟩
  | cons op ops ih =>
    obtain ⟨h1, h2⟩ := stepL_held is117 st op hheld
    obtain ⟨h3, h4⟩ := ih _ h1
    exact ⟨h3, List.forall_mem_cons.mpr ⟨h2, h4⟩⟩

theorem adRun_handleResponse (l : Option Bool) (st : LSt) (s : Status) (i h : Nat) (a : Bool) :
    adRun l (handleResponse st s i h a).2.1 = adStep l (.fired s st.queue.head? a) := by
  rw [adRun_eq]
  exact mrun_handleResponse _ (fun _ => rfl) (fun _ _ _ _ => rfl) ..

theorem updateL_prev (st : LSt) (s : Status) (q : Option Pack) :
    (updateL st s q).prev = if s = .accepted then some true else if s = .declined then some false else st.prev := by
  unfold updateL
  cases s <;> simp
  · split <;> try rfl
    split <;> rfl

theorem handleResponse_prev (st : LSt) (s : Status) (i h : Nat) (a : Bool) :
    (handleResponse st s i h a).1.prev =
      if s = .accepted then some true else if s = .declined then some false else st.prev := by
  unfold handleResponse
  simp only [updateL_prev]
  by_cases hs : s.intermediate = true <;> simp [hs]

/-- a client response keeps "monitor = prevResourceResponse" -/
theorem handleResponse_ad_client (st : LSt) (s : Status) (i h : Nat) :
    adRun st.prev (handleResponse st s i h false).2.1 = some (handleResponse st s i h false).1.prev := by
  rw [adRun_handleResponse, handleResponse_prev]
  simp only [adStep, Bool.false_eq_true, if_false]
  by_cases h1 : s = .accepted <;> by_cases h2 : s = .declined <;> simp [h1, h2]

theorem declineLoop_ad (is117 : Bool) (fuel : Nat) (st : LSt) (hp : st.prev = some false) :
    adRun st.prev (declineLoop is117 fuel st).2 = some (declineLoop is117 fuel st).1.prev := by
  fun_induction declineLoop is117 fuel st with
  | case4 _ st q _ _ _ r _ ih =>
    have h2 : r.1.prev = some false := by rw [handleResponse_prev]; rfl
    have h1 : adRun st.prev r.2.1 = some r.1.prev := by rw [adRun_handleResponse, h2, hp]; rfl
    rw [adRun_append, h1]
    exact ih h2
  | _ => rfl

theorem tick_ad (is117 : Bool) (st : LSt) : adRun st.prev (tick is117 st).2 = some (tick is117 st).1.prev := by
  fun_cases tick is117 st with
  | case2 _ _ _ hp => exact declineLoop_ad is117 _ st hp
  | _ => rfl

theorem stepL_ad (is117 : Bool) (st : LSt) (op : Op) (hheld : st.held = false) :
    adRun st.prev (stepL is117 st op).2.2 = some (stepL is117 st op).1.prev := by
  cases op with
  | queue p =>
    simp only [stepL, withLockL, hheld, Bool.false_eq_true, ↓reduceIte]
    split
    · exact tick_ad is117 { st with queue := st.queue ++ [p], held := true }
    · rfl
  | response s i h =>
    simp only [stepL, withLockL, hheld, Bool.false_eq_true, ↓reduceIte]
    have h1 := handleResponse_ad_client { st with held := true } s i h
    split
    · exact h1
    · rw [adRun_append]
      exact h1 ▸ tick_ad is117 (handleResponse { st with held := true } s i h false).1
  | _ => simp [stepL, withLockL, hheld, adRun]

theorem runL_ad (is117 : Bool) (ops : List Op) (st : LSt) (hheld : st.held = false) :
    adRun st.prev (allObs (runL is117 st ops).2) = some (runL is117 st ops).1.prev := by
  induction ops generalizing st with
  | nil => rfl
  | cons op ops ih =>
    simp only [runL, allObs, List.flatMap_cons]
    rw [adRun_append, stepL_ad is117 st op hheld]
    exact ih _ (stepL_held is117 st op hheld).1

/-- the handler never synthesises a response for a forced pack of a 1.17+ client -/
def AutoOk (is117 : Bool) : Obs → Prop
  | .fired s p auto => auto = true → s = .declined ∧ ∃ q, p = some q ∧ (q.force && is117) = false
  | _ => True

/-- the event of `handleResponse` carries the flag it was called with; the rest are kicks and reports -/
theorem handleResponse_autoOk (is117 : Bool) (st : LSt) (s : Status) (i h : Nat) (a : Bool)
    (ha : AutoOk is117 (.fired s st.queue.head? a)) :
    ∀ o ∈ (handleResponse st s i h a).2.1, AutoOk is117 o := by
  intro o ho
  unfold handleResponse at ho
  simp only [List.cons_append, List.nil_append, List.mem_cons, List.mem_append] at ho
  rcases ho with rfl | ho | ho
  · exact ha
  · split at ho
    · cases List.mem_singleton.mp ho; trivial
    · cases ho
  · obtain ⟨s', i', h', rfl⟩ := reportOf_reports _ _ _ _ _ o ho; trivial

theorem declineLoop_autoOk (is117 : Bool) (fuel : Nat) (st : LSt) :
    ∀ o ∈ (declineLoop is117 fuel st).2, AutoOk is117 o := by
  fun_induction declineLoop is117 fuel st with
  | case1 | case2 => intro _ h; cases h
  | case3 => intro o ho; cases List.mem_singleton.mp ho; trivial
  | case4 _ st q _ hq hforce r _ ih =>
    intro o ho
    rcases List.mem_append.mp ho with ho | ho
    · refine handleResponse_autoOk is117 st .declined q.id q.hash true ?_ o ho
      exact fun _ => ⟨rfl, q, by rw [hq]; rfl, by simpa using hforce⟩
    · exact ih o ho

theorem tick_autoOk (is117 : Bool) (st : LSt) : ∀ o ∈ (tick is117 st).2, AutoOk is117 o := by
  fun_cases tick is117 st with
  | case1 => intro _ h; cases h
  | case2 => exact declineLoop_autoOk _ _ _
  | case3 => intro o ho; cases List.mem_singleton.mp ho; trivial

/-- what an entry point emits, its body emits with the lock taken -/
theorem mem_withLockL {st : LSt} {body : LSt → LSt × List Obs × Bool} {o : Obs}
    (h : o ∈ (withLockL st body).2.2) : o ∈ (body { st with held := true }).2.1 := by
  unfold withLockL at h
  split at h
  · cases h
  · exact h

theorem stepL_autoOk (is117 : Bool) (st : LSt) (op : Op) : ∀ o ∈ (stepL is117 st op).2.2, AutoOk is117 o := by
  intro o ho
  cases op with
  | queue p =>
    have ho := mem_withLockL ho
    dsimp only at ho
    split at ho
    · exact tick_autoOk _ _ o ho
    · cases ho
  | response s i h =>
    have ho := mem_withLockL ho
    have hr := handleResponse_autoOk is117 { st with held := true } s i h false (fun hf => nomatch hf)
    dsimp only at ho
    split at ho
    · exact hr o ho
    · rcases List.mem_append.mp ho with ho | ho
      · exact hr o ho
      · exact tick_autoOk _ _ o ho
  | clear => cases mem_withLockL ho
  | remove id | backend b => cases ho

theorem runL_autoOk (is117 : Bool) (ops : List Op) (st : LSt) :
    ∀ o ∈ allObs (runL is117 st ops).2, AutoOk is117 o := by
  induction ops generalizing st with
  | nil => intro _ h; cases h
  | cons op ops ih =>
    intro o ho
    rcases List.mem_append.mp ho with ho | ho
    · exact stepL_autoOk is117 st op o ho
    · exact ih _ o ho

theorem getL_eraseL {α} (k k' : Nat) (l : List (Nat × α)) :
    getL k' (eraseL k l) = if k' = k then none else getL k' l := by
  induction l with
  | nil => simp [eraseL, getL]
  | cons e r ih =>
    obtain ⟨k2, v⟩ := e
    unfold eraseL at ih ⊢
    by_cases hk : k' = k <;> by_cases h2 : k2 = k <;> by_cases h3 : k2 = k' <;>
      simp_all [getL]

theorem getL_eraseL_self {α} (k : Nat) (l : List (Nat × α)) : getL k (eraseL k l) = none := by
  rw [getL_eraseL, if_pos rfl]

theorem getL_eraseL_ne {α} (k k' : Nat) (l : List (Nat × α)) (h : k' ≠ k) : getL k' (eraseL k l) = getL k' l := by
  rw [getL_eraseL, if_neg h]

theorem getL_append {α} (k : Nat) (a b : List (Nat × α)) :
    getL k (a ++ b) = match getL k a with | some v => some v | none => getL k b := by
  induction a with
  | nil => rfl
  | cons e r ih =>
    obtain ⟨k2, v⟩ := e
    by_cases h : k2 = k <;> simp [getL, h, ih]

theorem getL_setL_self {α} (k : Nat) (v : α) (l : List (Nat × α)) : getL k (setL k v l) = some v := by
  simp [setL, getL_append, getL_eraseL_self, getL]

theorem getL_setL_ne {α} (k k' : Nat) (v : α) (l : List (Nat × α)) (h : k' ≠ k) :
    getL k' (setL k v l) = getL k' l := by
  simp only [setL, getL_append, getL_eraseL_ne k k' l h]
  cases getL k' l <;> simp [getL, Ne.symm h]

theorem out_setOut_self (st : MSt) (k : Nat) (l : List Pack) : (st.setOut k l).out k = l := by
  unfold MSt.setOut MSt.out
  cases l with
  | nil => simp [getL_eraseL_self]
  | cons a r => simp [getL_setL_self]

theorem out_setOut_ne (st : MSt) (k k' : Nat) (l : List Pack) (h : k' ≠ k) : (st.setOut k l).out k' = st.out k' := by
  unfold MSt.setOut MSt.out
  by_cases he : l.isEmpty <;> simp [he, getL_eraseL_ne _ _ _ h, getL_setL_ne _ _ _ _ h]

@[simp] theorem setOut_pending (st : MSt) (k : Nat) (l : List Pack) : (st.setOut k l).pending = st.pending := rfl
@[simp] theorem setOut_applied (st : MSt) (k : Nat) (l : List Pack) : (st.setOut k l).applied = st.applied := rfl
@[simp] theorem setOut_backend (st : MSt) (k : Nat) (l : List Pack) : (st.setOut k l).backend = st.backend := rfl
@[simp] theorem setOut_held (st : MSt) (k : Nat) (l : List Pack) : (st.setOut k l).held = st.held := rfl

theorem stepM_held (st : MSt) (op : Op) (h : st.held = false) :
    (stepM st op).1.held = false ∧ ∃ b, (stepM st op).2.1 = .ok b := by
  cases op <;> simp [stepM, withLockM, h]

theorem runM_rets (ops : List Op) (st : MSt) (hheld : st.held = false) :
    (runM st ops).1.held = false ∧ ∀ e ∈ (runM st ops).2, ∃ b, e.2.1 = .ok b := by
  induction ops generalizing st with
  | nil => exact ⟨hheld, by intro _ h; cases h⟩
  | cons op ops ih =>
    obtain ⟨h1, h2⟩ := stepM_held st op hheld
    obtain ⟨h3, h4⟩ := ih _ h1
    exact ⟨h3, List.forall_mem_cons.mpr ⟨h2, h4⟩⟩

/-- the pack id an operation is about -/
def opId : Op → Option Nat
  | .queue p => some p.id
  | .response _ id _ => some id
  | .remove id => some id
  | _ => none

theorem updateM_out (st : MSt) (s : Status) (id : Nat) (q : Option Pack) (y : Nat) :
    (updateM st s id q).out y = st.out y := by
  unfold updateM MSt.out
  cases s <;> simp <;> (try (cases q <;> rfl))

theorem updateM_other (st : MSt) (s : Status) (id : Nat) (q : Option Pack) (y : Nat) (hy : y ≠ id) :
    getL y (updateM st s id q).pending = getL y st.pending ∧ getL y (updateM st s id q).applied = getL y st.applied := by
  unfold updateM
  cases s <;> simp <;> (try (cases q <;> simp [getL_setL_ne _ _ _ _ hy, getL_eraseL_ne _ _ _ hy])) <;>
    simp [getL_setL_ne _ _ _ _ hy, getL_eraseL_ne _ _ _ hy]

theorem updateM_backend (st : MSt) (s : Status) (id : Nat) (q : Option Pack) :
    (updateM st s id q).backend = st.backend := by
  unfold updateM
  cases s <;> simp <;> (cases q <;> rfl)

theorem popM_backend (st : MSt) (s : Status) (id : Nat) : (popM st s id).backend = st.backend := by
  unfold popM
  split <;> rfl

theorem respondStM_backend (st : MSt) (s : Status) (id : Nat) : (respondStM st s id).backend = st.backend := by
  unfold respondStM
  simp only []
  split
  · exact popM_backend st s id
  · rw [updateM_backend]; exact popM_backend st s id

theorem respondM_fst (st : MSt) (s : Status) (i h : Nat) : (respondM st s i h).1 = respondStM st s i := by
  unfold respondM
  simp only []
  split <;> rfl

theorem popM_other (st : MSt) (s : Status) (i y : Nat) (hy : y ≠ i) :
    (popM st s i).out y = st.out y ∧ (popM st s i).pending = st.pending ∧ (popM st s i).applied = st.applied := by
  unfold popM
  by_cases hs : s.intermediate = true
  · simp [hs]
  · simp [hs, out_setOut_ne _ _ _ _ hy]

theorem respondM_other (st : MSt) (s : Status) (i h y : Nat) (hy : y ≠ i) :
    (respondM st s i h).1.out y = st.out y ∧
    getL y (respondM st s i h).1.pending = getL y st.pending ∧
    getL y (respondM st s i h).1.applied = getL y st.applied := by
  rw [respondM_fst]
  unfold respondStM
  have h1 := popM_other st s i y hy
  simp only []
  split
  · refine ⟨?_, ?_, ?_⟩
    · show MSt.out _ y = _; simpa [MSt.out] using h1.1
    · simp [getL_eraseL_ne _ _ _ hy, h1.2.1]
    · simp [h1.2.2]
  · refine ⟨?_, ?_, ?_⟩
    · rw [updateM_out]; exact h1.1
    · rw [(updateM_other _ s i _ y hy).1, h1.2.1]
    · rw [(updateM_other _ s i _ y hy).2, h1.2.2]

theorem mem_swapRemoveHead {α} (l : List α) (p : α) (h : p ∈ swapRemoveHead l) :
    ∃ q rest, l = q :: rest ∧ p ∈ rest := by
  match l with
  | [] => simp [swapRemoveHead] at h
  | [_] => simp [swapRemoveHead] at h
  | q :: a :: r =>
    refine ⟨q, a :: r, rfl, ?_⟩
    simp only [swapRemoveHead, List.mem_append, Option.mem_toList] at h
    rcases h with h | h
    · exact List.mem_of_getLast? h
    · exact List.dropLast_subset _ h

theorem mem_tickM {st : MSt} {id : Nat} {p : Pack} (h : Obs.prompt p ∈ tickM st id) : (st.out id).head? = some p := by
  unfold tickM at h
  split at h
  · cases h
  · rename_i hq
    cases List.mem_singleton.mp h
    rw [hq]; rfl

theorem no_prompt_events (s : Status) (q : Option Pack) (p : Pack) : Obs.prompt p ∉ eventsM s q := by
  unfold eventsM
  cases q with
  | none => simp
  | some x => by_cases h : (decide (s = .declined) && x.force) = true <;> simp [h]

theorem no_prompt_report (b : Bool) (q : Option Pack) (s : Status) (i h : Nat) (p : Pack) :
    Obs.prompt p ∉ reportOf b q s i h := by
  intro hm
  obtain ⟨_, _, _, he⟩ := reportOf_reports _ _ _ _ _ _ hm
  cases he

theorem respondStM_out (st : MSt) (s : Status) (i : Nat) : (respondStM st s i).out i = (popM st s i).out i := by
  unfold respondStM
  simp only []
  split
  · rfl
  · rw [updateM_out]

theorem respondStM_out_final (st : MSt) {s : Status} (i : Nat) (hs : s.intermediate = false) :
    (respondStM st s i).out i = swapRemoveHead (st.out i) := by
  simp only [respondStM_out, popM, hs, Bool.false_eq_true, if_false, out_setOut_self]

/-- of the modern response body only the tick after a final response prompts -/
theorem prompt_mem_respondM {st : MSt} {s : Status} {i h : Nat} {p : Pack}
    (hp : Obs.prompt p ∈ (respondM st s i h).2.1) :
    s.intermediate = false ∧ Obs.prompt p ∈ tickM (respondStM st s i) i := by
  unfold respondM at hp
  simp only [] at hp
  split at hp <;> simp only [List.mem_append, no_prompt_events, no_prompt_report, or_false, false_or] at hp
  split at hp
  · cases hp
  · exact ⟨Bool.eq_false_iff.mpr ‹_›, hp⟩

end Gate.C27
