import GateModel.C05.ShapesPackets
import GateModel.C05.Concurrent
import GateModel.Gen.C05
/-
C05 — Decoding untrusted packets never crashes or blows up memory.

The model is the schema interpreter of C04 (`Schema.decode`, a total Lean function) with the cost component of
`GateModel.C05.Model`.  Theorems, for ALL payload bytes (no bound on the payload length, on claimed lengths/counts,
or on nesting):

  * `decode_total`            decoding finishes with a value or an error — termination is kernel-checked (the
                              interpreter is structurally recursive; element loops recurse on the claimed count)
  * `decode_never_escapes`    the panic-to-error conversion around Decode never lets a panic escape for the ways the
                              model's decoders fail (error returns and `panic(err)` of the PanicReader helpers)
  * `decode_progress`         a successful decode consumed at least `minLen` bytes and never reads past the payload
  * `alloc_linear`            wire-sized allocations ≤ (array depth + 1) · |payload| + K, with K the static cap of the schema
  * `alloc_backed_on_success` … and on success they are backed by the bytes actually consumed
  * `registered_schemas_bounded` for every modelled packet type in EVERY context (any protocol number, direction,
                              registry, id): the schema is productive, its array depth is ≤ 3 and K ≤ 2 MiB + 96 KiB
  * `registered_alloc_bound`  hence ≤ 5 · |payload| + 2 MiB + 96 KiB for every one of them

  * `concurrent_read_only_never_faults` goroutines that only read the shared tables never reach the runtime's
                              unrecoverable concurrent-map fault, under any schedule

Process survival, real allocation and real termination of the Go decoders are runtime facts: they are observed by the
hostile-payload run of the harness (every registered (registry, direction, protocol, id), unmodelled types included),
not proved.
-/
namespace Gate.C05.Props
open Gate Gate.C03 Gate.C04 Gate.C05

theorem decode_total (ps : PSchema) (bs : Bytes) :
    (∃ v r, ps.decode bs = .ok (v, r)) ∨ (∃ e, ps.decode bs = .error e) := by
  cases h : ps.decode bs with
  | ok p => exact .inl ⟨p.1, p.2, rfl⟩
  | error e => exact .inr ⟨e, rfl⟩

/-- whatever the decoder's result and whichever of the two error styles the Go body uses, `RecoverFunc` yields a
    result or an error value — never an escaping panic -/
theorem decode_never_escapes (panicStyle : Bool) (ps : PSchema) (bs : Bytes) :
    recoverFunc (bodyOutcome panicStyle (ps.decode bs)) ≠ .escapes := by
  unfold bodyOutcome
  cases ps.decode bs with
  | ok p => simp [recoverFunc]
  | error e => cases panicStyle <;> simp [recoverFunc]

/-- the only way past `RecoverFunc` is a panic whose value is not an `error` -/
theorem recover_escapes_iff {α} (o : BodyOutcome α) : recoverFunc o = .escapes ↔ o = .panicOther := by
  cases o <;> simp [recoverFunc]

theorem decode_progress (s : Schema) (hp : productive s = true) (bs : Bytes) (v : Val) (r : Bytes)
    (h : s.decode bs = .ok (v, r)) : r.length + minLen s ≤ bs.length :=
  ((schema_cost s hp (Nat.lt_add_one _) (Nat.le_refl _) bs).2 v r h).1

theorem alloc_linear (s : Schema) (hp : productive s = true) (bs : Bytes) :
    alloc s bs ≤ (depth s + 1) * bs.length + K s :=
  (schema_cost s hp (Nat.lt_add_one _) (Nat.le_refl _) bs).1

theorem alloc_backed_on_success (s : Schema) (hp : productive s = true) (bs : Bytes) (v : Val) (r : Bytes)
    (h : s.decode bs = .ok (v, r)) : alloc s bs ≤ (depth s + 1) * (bs.length - r.length) := by
  have := ((schema_cost s hp (Nat.lt_add_one _) (Nat.le_refl (K s)) bs).2 v r h).2
  rw [Nat.mul_sub]
  omega

/-- whole packets: a tail (`io.ReadAll`) buffers the remaining bytes once more -/
theorem packet_alloc_linear (ps : PSchema) (hp : productive ps.body = true) (bs : Bytes) :
    palloc ps bs ≤ (depth ps.body + 2) * bs.length + K ps.body := by
  have h1 := alloc_linear ps.body hp bs
  have hexp : (depth ps.body + 2) * bs.length = (depth ps.body + 1) * bs.length + bs.length := Nat.succ_mul ..
  unfold palloc
  cases ps.tail with
  | none => simp only; omega
  | rest m =>
    simp only
    cases hd : ps.body.decode bs with
    | error e => simp only; omega
    | ok p =>
      obtain ⟨v, r⟩ := p
      have := decode_progress ps.body hp bs v r hd
      simp only; omega

/-- the model's pre-allocation cap is the regenerated `MaxPreAllocSize` (`Gen.C04.maxPreAllocSize`), whose value is 32768 -/
theorem src_max_prealloc : maxPre = 32768 := by decide

/-- 2 MiB (largest reader limit: the 1.7 byte-array limit 2 097 050) + one capped pre-allocation per array level -/
def capBound : Nat := 2 ^ 21 + 3 * 32768

theorem registered_schemas_bounded (name : String) (hn : name ∈ fullTypes ++ opaqueTypes) (c : Ctx) :
    ∃ ps, schemaOf name c = some ps ∧ productive ps.body = true ∧ depth ps.body ≤ 3 ∧ K ps.body ≤ capBound := by
  obtain ⟨ps, hs, hg⟩ := all_good name hn c
  refine ⟨ps, hs, hg.prod, hg.dep, ?_⟩
  have h := hg.cap
  unfold capBound
  unfold L at h
  rw [src_max_prealloc] at h
  omega

/-- the bound of the property statement for every modelled packet in every context: linear in the payload plus a
    fixed cap -/
theorem registered_alloc_bound (name : String) (hn : name ∈ fullTypes ++ opaqueTypes) (c : Ctx) (bs : Bytes) :
    ∃ ps, schemaOf name c = some ps ∧ palloc ps bs ≤ 5 * bs.length + capBound := by
  obtain ⟨ps, hs, hp, hdp, hk⟩ := registered_schemas_bounded name hn c
  refine ⟨ps, hs, ?_⟩
  have h1 := packet_alloc_linear ps hp bs
  have h2 : (depth ps.body + 2) * bs.length ≤ 5 * bs.length := Nat.mul_le_mul_right _ (by omega)
  omega

/-- no modelled decoder can spin on a claimed count: every array element consumes at least one byte, so a decode
    that succeeds performed at most |payload| element iterations per array level (`decode_progress`), and one that
    fails stops at the first element that does not fit -/
theorem registered_decode_progress (name : String) (hn : name ∈ fullTypes ++ opaqueTypes) (c : Ctx) (bs : Bytes)
    (ps : PSchema) (hs : schemaOf name c = some ps) (v : Val) (r : Bytes) (h : ps.body.decode bs = .ok (v, r)) :
    r.length + minLen ps.body ≤ bs.length := by
  obtain ⟨ps', hs', hp, _, _⟩ := registered_schemas_bounded name hn c
  rw [hs] at hs'; cases hs'
  exact decode_progress ps.body hp bs v r h

/-- in a call sequence `a` occurs, and before the first `b` -/
def before (a b : String) (cs : List String) : Bool := cs.idxOf a < cs.idxOf b && cs.idxOf a < cs.length

open Gate.Gen.C05 in
/-- `decodePayload` runs the packet's Decode inside the function literal handed to `util.RecoverFunc`; `Recover`
    recovers and re-panics (only what is not an error — modelled by `recoverFunc`) -/
theorem src_decode_is_recovered :
    before "func:{" "ctx.Packet.Decode" decodePayloadCalls ∧ before "ctx.Packet.Decode" "}" decodePayloadCalls ∧
    before "}" "util.RecoverFunc" decodePayloadCalls ∧ recoverCalls = ["recover", "panic"] ∧
    recoverFuncCalls = ["defer:Recover", "fn", "return"] := by decide +kernel

open Gate.Gen.C05 in
/-- collection readers cap their pre-allocation with `min(…)` before `make` (TagsUpdate after the C05 fix) -/
theorem src_preallocs_are_capped :
    before "min" "make" tagsUpdateDecodeCalls ∧ before "min" "make" customReportDetailsDecodeCalls ∧
    before "min" "make" knownPacksDecodeCalls ∧ before "min" "make" playerInfoRemoveDecodeCalls ∧
    before "min" "make" availableCommandsDecodeCalls ∧ before "min" "make" readStringArrayCalls ∧
    before "min" "make" readVarIntArrayCalls ∧ before "min" "make" readKeyArrayCalls ∧
    before "min" "make" readPropertiesCalls ∧
    (tagsUpdateDecodeCalls.filter (· == "make")).length = (tagsUpdateDecodeCalls.filter (· == "min")).length := by
  decide +kernel

/-! Concurrent decoding (one read goroutine per connection, process-wide tables shared).

The schema decoders are functions of the payload alone (`PSchema.decode : PSchema → Bytes → …` takes no state), i.e. with
respect to the shared tables (packet registries, brigadier argument registry) a decoding goroutine only READS.
For read-only goroutines no schedule whatsoever — any number of goroutines, any interleaving, any length — reaches the
runtime's unrecoverable "concurrent map access" fault. -/

theorem concurrent_read_only_never_faults (ts : List (List Access)) (h : ReadOnly ts) (sched : List Nat) :
    (runSched ts {} sched).faulted = false :=
  (read_only_no_fault ts h sched {} ⟨rfl, rfl⟩).2

/-- … whereas two decoders that fill a shared index lazily (look up, on a miss build and store) have a schedule that
    kills the process: goroutine 1 looks the index up while goroutine 0 is storing it -/
theorem concurrent_lazy_index_faults :
    (runSched [lazyIndexDecoder, lazyIndexDecoder] {} [0, 0, 1]).faulted = true := by decide

/-- … and so do two concurrent stores (both missed, both write) -/
theorem concurrent_lazy_index_double_write_faults :
    (runSched [lazyIndexDecoder, lazyIndexDecoder] {} [0, 1, 0, 1]).faulted = true := by decide

open Gate.Gen.C05 in
/-- secondary, source-shape signal for the read-only assumption: the decode path of the brigadier argument registry
    (`argPropReg.Decode` with its same-receiver helpers inlined) creates or grows no table -/
theorem src_registry_decode_builds_no_table :
    registryDecodeCalls.all (fun c => c != "make" && c != "append" && c != "delete" && c != "clear" && c != "new") = true := by
  decide +kernel

/-- pre-fix `TagsUpdate.Decode`: `make(map, size)` with the claimed size itself -/
def preallocUncapped (n : Nat) : Nat := n

/-- five payload bytes (`ff ff ff ff 07` = 2^31-1) claimed 2^31-1 map slots before the fix; the capped reader takes 32768 -/
theorem tagsupdate_alloc_fails_for_uncapped_variant :
    readVarInt [0xff, 0xff, 0xff, 0xff, 0x07] = .ok (2147483647, []) ∧
    preallocUncapped 2147483647 > 5 * 5 + capBound ∧ prealloc none 2147483647 = 32768 := by
  have hw : writeVarInt 2147483647 = [0xff, 0xff, 0xff, 0xff, 0x07] := by decide +kernel
  have hr := readVarInt_writeVarInt 2147483647 [] (by omega) (by omega)
  rw [hw] at hr
  exact ⟨hr, by decide, by decide⟩

example : productive (seqs [varint, .arr .err none (seqs [string, string])]) = true := by decide
example : ∃ ps, schemaOf "packet.ServerLogin" ⟨767, 1, 3, 0⟩ = some ps ∧
    palloc ps [5, 104, 101, 108, 108, 111] ≤ 5 * 6 + capBound :=
  registered_alloc_bound "packet.ServerLogin" (by decide +kernel) ⟨767, 1, 3, 0⟩ _

end Gate.C05.Props
