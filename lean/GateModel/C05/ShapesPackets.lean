import GateModel.C05.Shapes
import GateModel.C04.Props
/-
C05 — every schema `schemaOf` has, for whatever type name and in EVERY context, is good (`G 3`); for the modelled types
that is `GoodP (schemaOf T c)`.
-/
namespace Gate.C05
open Gate Gate.C03 Gate.C04

theorem good_schemaOf {name : String} {c : Ctx} {ps : PSchema} (h : schemaOf name c = some ps) : G 3 ps.body := by
  -- along the `match` of `schemaOf` itself, so that no type name is ever compared with another; leaves as `Prim`s
  unfold schemaOf varint i16 i32 i64 u8 f32 C04.bool uuid str bytesMax key playerKey at h
  split at h
  all_goals cases h
  /- A walk over each schema: one lemma per constructor, combinator and shared sub-schema, chosen by the head symbol
     alone (nothing is unfolded to find it).  The conditions on the context stay opaque, both branches of every `if`
     are visited.  Limits and minimal lengths are computed where they are closed terms. -/
  all_goals with_reducible repeat' first
    | (apply good_prim; decide)
    | apply all_cons
    | exact all_nil
    | apply all_onlyIf
    | apply all_ite
    | apply good_fields
    | apply good_seqs
    | apply good_ite
    | exact good_string
    | exact good_component _
    | exact good_unit
    | exact good_fail
    | exact good_nbt
    | exact good_nbtC
    | exact good_deathPos
    | exact good_dimensionId _
    | exact good_props
    | exact good_lastSeen _
    | exact good_soundSource _
    | apply good_opt
    | apply good_optD
    | apply good_seq
    | refine good_swL (by decide) ?_ ?_
    | refine good_sw (by decide) ?_ ?_
    | refine good_arr ?_ ?_ ?_
    | apply good_mk
    | apply good_body_ite
    | intro _
    | decide
  -- left over: the limits and minimal lengths that depend on the context
  · exact good_prim _ (by split <;> decide)     -- EncryptionResponse: a verify token of at most 128 or 256 bytes
  · exact Nat.le_refl 1                         -- ServerLinks: an element starts with the tag byte of its `swL`
  · show Option.getD (if _ then _ else _) maxPre ≤ maxPre   -- KnownPacks: at most 64 entries, serverbound only
    split <;> decide
  · exact minLen_seqs_cons string _             -- TabCompleteResponse: an offer starts with a string
  · exact good_prim _ (by (repeat' split) <;> decide)       -- LegacyChat: three limits
  · exact good_prim _ (by split <;> decide)     -- SessionPlayerCommand: two limits
  -- playerinfo.Upsert: whatever the action bits select, an entry starts with a uuid
  · exact Nat.le_trans (by decide) (minLen_fields_cons uuid _ _)

theorem all_good (name : String) (hn : name ∈ fullTypes ++ opaqueTypes) (c : Ctx) : GoodP (schemaOf name c) := by
  have h := modelled_have_schema name hn c
  cases hs : schemaOf name c with
  | none => rw [hs] at h; cases h
  | some ps => exact goodP_of (good_schemaOf hs)

end Gate.C05
