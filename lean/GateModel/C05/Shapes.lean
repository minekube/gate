import GateModel.C05.Lemmas
/-
C05 — every packet schema of `Gate.C04.schemaOf`, in EVERY context (any protocol number, direction, registry, id),
is productive, has array depth ≤ 3 and a static cap K ≤ 2 MiB + 3 · MaxPreAllocSize.

`G d s` is the compositional form of that statement; the per-type proofs just follow the structure of the schema
(the conditions on the protocol stay opaque: both branches of every `if` are covered).
-/
namespace Gate.C05
open Gate Gate.C03 Gate.C04

/-- bound for a single leaf allocation: the largest reader limit is the 1.7 byte-array limit (2 097 050) -/
def L : Nat := 2 ^ 21

structure G (d : Nat) (s : Schema) : Prop where
  prod : productive s = true
  dep : depth s ≤ d
  cap : K s ≤ L + d * maxPre

theorem good_unit {d} : G d .unit := ⟨rfl, by simp [depth], by simp [K]⟩
theorem good_fail {d} : G d .fail := ⟨rfl, by simp [depth], by simp [K]⟩
theorem good_prim {d} (p : Prim) (h : p.cap ≤ L) : G d (.prim p) :=
  ⟨rfl, by simp [depth], by simp only [K]; omega⟩

theorem good_seq {d a b} (ha : G d a) (hb : G d b) : G d (.seq a b) :=
  ⟨by simp [productive, ha.prod, hb.prod], by have := ha.dep; have := hb.dep; simp only [depth]; omega,
   by have := ha.cap; have := hb.cap; simp only [K]; omega⟩

theorem good_opt {d present s} (h : G d s) : G d (.opt present s) :=
  ⟨by simp [productive, h.prod], by simpa [depth] using h.dep, by simpa [K] using h.cap⟩
theorem good_optD {d v s} (h : G d s) : G d (.optD v s) :=
  ⟨by simp [productive, h.prod], by simpa [depth] using h.dep, by simpa [K] using h.cap⟩

theorem good_arr {d neg max s} (h : G d s) (hmin : 1 ≤ minLen s) (hmax : max.getD maxPre ≤ maxPre) :
    G (d + 1) (.arr neg max s) :=
  ⟨by simp [productive, h.prod, hmin], by have := h.dep; simp only [depth]; omega,
   by have := h.cap; simp only [K, Nat.add_mul]; omega⟩

theorem good_sw {d tag n} {body : Fin n → Schema} {dflt} (ht : tag.cap ≤ L) (hb : ∀ i, G d (body i))
    (hd : G d dflt) : G d (.sw tag n body dflt) := by
  refine ⟨?_, ?_, ?_⟩
  · simp only [productive, Bool.and_eq_true]
    exact ⟨by unfold allOver; exact List.all_eq_true.2 fun i _ => (hb i).prod, hd.prod⟩
  · have := (maxOver_le_iff n (fun i => depth (body i)) d).2 fun i => (hb i).dep
    have := hd.dep; simp only [depth]; omega
  · have := (maxOver_le_iff n (fun i => K (body i)) (L + d * maxPre)).2 fun i => (hb i).cap
    have := hd.cap; simp only [K]; omega

theorem good_ite {d a b} {c : Prop} [Decidable c] (ha : G d a) (hb : G d b) : G d (if c then a else b) := by
  split <;> assumption

theorem good_mk {d s} (h : G d s) : G d (mk s).body := h
theorem good_body_ite {d} {a b : PSchema} {c : Prop} [Decidable c] (ha : G d a.body) (hb : G d b.body) :
    G d (if c then a else b).body := by
  split <;> assumption

/-- `P` of every member; a structure of its own, so that `apply` finds the lemmas below by the head symbol alone -/
structure All {α : Type} (P : α → Prop) (l : List α) : Prop where
  all : ∀ x ∈ l, P x

theorem all_nil {α} {P : α → Prop} : All P [] := ⟨fun _ h => nomatch h⟩
theorem all_cons {α} {P : α → Prop} {a : α} {l} (ha : P a) (hl : All P l) : All P (a :: l) := by
  refine ⟨fun x hx => ?_⟩
  rcases List.mem_cons.1 hx with rfl | h
  · exact ha
  · exact hl.all x h
theorem all_onlyIf {d c fs} (h : All (G d) fs) : All (G d) (onlyIf c fs) := by
  unfold onlyIf; split
  · exact h
  · exact all_nil
theorem all_ite {α} {P : α → Prop} {a b : List α} {c : Prop} [Decidable c] (ha : All P a) (hb : All P b) :
    All P (if c then a else b) := by
  split <;> assumption
theorem all_append {α} {P : α → Prop} {a b : List α} (ha : All P a) (hb : All P b) : All P (a ++ b) := by
  refine ⟨fun x hx => ?_⟩
  rcases List.mem_append.1 hx with h | h
  · exact ha.all x h
  · exact hb.all x h

theorem good_seqs {d l} (h : All (G d) l) : G d (seqs l) := by
  induction l with
  | nil => exact good_unit
  | cons a t ih =>
    cases t with
    | nil => exact h.all a (by simp)
    | cons b t' =>
      show G d (.seq a (seqs (b :: t')))
      exact good_seq (h.all a (by simp)) (ih ⟨fun s hs => h.all s (List.mem_cons_of_mem _ hs)⟩)

theorem good_fields {d gs} (h : All (All (G d)) gs) : G d (fields gs) := by
  unfold fields
  apply good_seqs
  refine ⟨fun s hs => ?_⟩
  obtain ⟨g, hg, hsg⟩ := List.mem_flatten.1 hs
  exact (h.all g hg).all s hsg

theorem good_swL {d tag cases dflt} (ht : tag.cap ≤ L) (hc : All (G d) cases) (hd : G d dflt) :
    G d (swL tag cases dflt) := by
  unfold swL
  exact good_sw ht (fun i => hc.all _ (List.get_mem cases i)) hd

theorem minLen_seqs_cons (a : Schema) (l : List Schema) : minLen a ≤ minLen (seqs (a :: l)) := by
  cases l with
  | nil => exact Nat.le_refl _
  | cons b t => show minLen a ≤ minLen (.seq a (seqs (b :: t))); simp only [minLen]; omega

theorem minLen_fields_cons (a : Schema) (g : List Schema) (gs : List (List Schema)) :
    minLen a ≤ minLen (fields ((a :: g) :: gs)) := by
  unfold fields
  simp only [List.flatten_cons, List.cons_append]
  exact minLen_seqs_cons a _

def GoodP (o : Option PSchema) : Prop := ∃ ps, o = some ps ∧ G 3 ps.body

theorem goodP_mk {s : Schema} (h : G 3 s) : GoodP (some (mk s)) := ⟨_, rfl, h⟩
theorem goodP_of {ps : PSchema} (h : G 3 ps.body) : GoodP (some ps) := ⟨_, rfl, h⟩

theorem good_string {d} : G d string := good_prim _ (by decide)
theorem good_nbt {d named} : G d (nbt named) := good_prim _ (Nat.zero_le _)
theorem good_nbtC {d named} : G d (nbtC named) := good_prim _ (Nat.zero_le _)
theorem good_component {d} (p : Int) : G d (component p) := good_ite good_nbt good_string
theorem good_dimensionId {d} (p : Int) : G d (dimensionId p) := good_ite (good_prim _ (by decide)) good_string
theorem good_deathPos {d} : G d deathPos :=
  good_opt (good_seqs (all_cons good_string (all_cons (good_prim _ (by decide)) all_nil)))

theorem good_props {d} : G (d + 1) props :=
  good_arr (good_seqs (all_cons good_string (all_cons good_string (all_cons (good_optD good_string) all_nil))))
    (by decide) (by decide)

theorem good_lastSeen {d} (p : Int) : G d (lastSeen p) :=
  good_fields (all_cons (all_cons (good_prim _ (by decide)) (all_cons (good_prim _ (by decide)) all_nil))
    (all_cons (all_onlyIf (all_cons (good_prim _ (by decide)) all_nil)) all_nil))

theorem good_soundSource {d} (p : Int) : G d (soundSource p) := by
  refine good_swL (by decide) (all_append ⟨fun s hs => ?_⟩ (all_cons (good_ite good_fail good_unit) all_nil)) good_unit
  rw [List.eq_of_mem_replicate hs]
  exact good_unit

end Gate.C05
