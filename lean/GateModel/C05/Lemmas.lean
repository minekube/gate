import GateModel.C05.Model
import GateModel.C04.Lemmas
import GateModel.Base.BytesLemmas
/-
C05 — consumption and allocation bounds of the schema interpreter, by induction over `Schema`.
-/
namespace Gate.C05
open Gate Gate.C03 Gate.C04

theorem readByte_ok {bs r : Bytes} {b : UInt8} (h : readByte bs = .ok (b, r)) : bs.length = 1 + r.length := by
  cases bs with
  | nil => cases h
  | cons x t => cases h; exact Nat.add_comm ..

theorem readBool_ok {bs r : Bytes} {b : Bool} (h : readBool bs = .ok (b, r)) : bs.length = 1 + r.length := by
  unfold readBool at h
  split at h
  · cases h; exact readByte_ok ‹_›
  · cases h

theorem readVarLoop_ok (fuel i acc : Nat) (bs : Bytes) (u : Nat) (r : Bytes)
    (h : readVarLoop fuel i acc bs = .ok (u, r)) : r.length < bs.length := by
  induction fuel generalizing i acc bs with
  | zero => cases h
  | succ f ih =>
    cases bs with
    | nil => cases h
    | cons b t =>
      simp only [readVarLoop] at h
      split at h
      · cases h
      · split at h
        · cases h; exact Nat.lt_succ_self _
        · exact Nat.lt_succ_of_lt (ih _ _ _ h)

theorem readVarInt_ok {bs r : Bytes} {v : Int} (h : readVarInt bs = .ok (v, r)) : r.length < bs.length := by
  unfold readVarInt at h
  split at h
  · cases h; exact readVarLoop_ok _ _ _ _ _ _ ‹_›
  · cases h

theorem readUint_ok {n : Nat} {bs r : Bytes} {v : Nat} (h : readUint n bs = .ok (v, r)) : bs.length = n + r.length := by
  unfold readUint at h
  split at h
  · cases h; exact (readFull_ok ‹_›).2
  · cases h

theorem readInt_ok {n : Nat} {bs r : Bytes} {v : Int} (h : readInt n bs = .ok (v, r)) : bs.length = n + r.length := by
  unfold readInt at h
  split at h
  · cases h; exact readUint_ok ‹_›
  · cases h

theorem readLenPrefixed_ok {cap : Nat} {bs b r : Bytes} (h : readLenPrefixed cap bs = .ok (b, r)) :
    ∃ len r0, readVarInt bs = .ok (len, r0) ∧ ¬ len < 0 ∧ ¬ len > (cap : Int) ∧
      r0.length = len.toNat + r.length ∧ r0.length < bs.length := by
  unfold readLenPrefixed at h
  split at h
  · cases h
  · rename_i len r0 hv
    split at h
    · cases h
    · split at h
      · cases h
      · exact ⟨len, r0, hv, ‹_›, ‹_›, (readFull_ok h).2, readVarInt_ok hv⟩

theorem readExtShort_ok {bs r : Bytes} {n : Nat} (h : readExtShort bs = .ok (n, r)) : r.length + 2 ≤ bs.length := by
  unfold readExtShort at h
  split at h
  · cases h
  · have := readUint_ok ‹readUint 2 bs = _›
    split at h
    · split at h
      · cases h
      · rename_i hb
        simp only [Except.ok.injEq, Prod.mk.injEq] at h
        obtain ⟨_, rfl⟩ := h
        have := readByte_ok hb
        omega
    · cases h
      omega

theorem readBytes17_ok {bs b r : Bytes} (h : readBytes17 bs = .ok (b, r)) :
    ∃ len r0, readExtShort bs = .ok (len, r0) ∧ ¬ len > forgeMaxArrayLength ∧ r0.length = len + r.length ∧
      r0.length + 2 ≤ bs.length := by
  unfold readBytes17 at h
  split at h
  · cases h
  · rename_i len r0 he
    split at h
    · cases h
    · exact ⟨len, r0, he, ‹_›, (readFull_ok h).2, readExtShort_ok he⟩

theorem readUUIDIntArray_ok {bs b r : Bytes} (h : readUUIDIntArray bs = .ok (b, r)) : bs.length = 16 + r.length := by
  unfold readUUIDIntArray at h
  split at h
  · cases h
  · rename_i h1
    split at h
    · cases h
    · rename_i h2
      split at h
      · cases h
      · rename_i h3
        split at h
        · cases h
        · rename_i h4
          cases h
          have := (readFull_ok h1).2
          have := (readFull_ok h2).2
          have := (readFull_ok h3).2
          have := (readFull_ok h4).2
          omega

theorem mapRd_ok {α β} {f : α → β} {x : Rd α} {v : β} {r : Bytes} (h : Prim.mapRd f x = .ok (v, r)) :
    ∃ a, x = .ok (a, r) ∧ v = f a := by
  cases x with
  | error e => cases h
  | ok p => cases h; exact ⟨p.1, rfl, rfl⟩

theorem lenPrefixed_alloc (cap : Nat) (bs : Bytes) : lenAlloc cap bs ≤ cap := by
  unfold lenAlloc
  split
  · split
    · omega
    · split <;> omega
  · omega

theorem lenPrefixed_alloc_ok (cap : Nat) {bs b r : Bytes} (h : readLenPrefixed cap bs = .ok (b, r)) :
    lenAlloc cap bs + r.length + 1 ≤ bs.length := by
  obtain ⟨len, r0, hv, h1, h2, h3, h4⟩ := readLenPrefixed_ok h
  unfold lenAlloc
  rw [hv]; simp only [h1, h2, if_false]; omega

theorem prim_cost (p : Prim) (bs : Bytes) :
    p.alloc bs ≤ bs.length + p.cap ∧
    ∀ v r, p.dec bs = .ok (v, r) → r.length + primMinLen p ≤ bs.length ∧ p.alloc bs + r.length ≤ bs.length := by
  refine ⟨?_, fun v r h => ?_⟩
  · cases p <;> simp only [Prim.alloc, Prim.cap]
    case str | strNE | bytes | key | minKey => exact Nat.le_trans (lenPrefixed_alloc _ _) (Nat.le_add_left _ _)
    case bytes17 =>
      split
      · split <;> omega
      · omega
    case blob => split <;> omega
    all_goals omega
  · cases p <;> simp only [Prim.alloc, primMinLen]
    case strNE max =>
      simp only [Prim.dec] at h
      split at h
      · split at h
        · cases h
        · cases h
          have := lenPrefixed_alloc_ok (max * 4) ‹_›
          omega
      · cases h
    case blob len =>
      simp only [Prim.dec] at h
      split at h
      · cases h
      · split at h
        · cases h
          simp only [‹len bs = _›, List.length_drop]
          omega
        · cases h
    -- every other decoder is a reader `x` under `mapRd`: what `x` consumed is what was consumed
    all_goals obtain ⟨a, ha, _⟩ := mapRd_ok h
    case varint =>
      have := readVarInt_ok ha
      omega
    case sint =>
      have := readInt_ok ha
      omega
    case uint =>
      have := readUint_ok ha
      omega
    case bool | constBool =>
      have := readBool_ok ha
      omega
    case uuid | fixed =>
      have := (readFull_ok ha).2
      omega
    case uuidInts =>
      have := readUUIDIntArray_ok ha
      omega
    case str | bytes | minKey =>
      have := lenPrefixed_alloc_ok _ ha
      omega
    case bytes17 =>
      obtain ⟨len, r0, he, h1, h2, h3⟩ := readBytes17_ok ha
      simp only [he, h1, if_false]
      omega
    case key =>
      simp only [readKey] at ha
      split at ha
      · cases ha
      · split at ha
        · cases ha
          have := lenPrefixed_alloc_ok _ ‹readString bs = _›
          omega
        · cases ha

theorem maxOver_le_iff (n : Nat) (f : Fin n → Nat) (b : Nat) : maxOver n f ≤ b ↔ ∀ i, f i ≤ b := by
  unfold maxOver
  have key : ∀ (l : List (Fin n)) (a : Nat),
      l.foldl (fun a i => max a (f i)) a ≤ b ↔ a ≤ b ∧ ∀ i ∈ l, f i ≤ b := by
    intro l
    induction l with
    | nil => intro a; simp
    | cons x t ih =>
      intro a
      rw [List.foldl_cons, ih, Nat.max_le]
      simp only [List.mem_cons, forall_eq_or_imp, and_assoc]
  rw [key]
  exact ⟨fun h i => h.2 i (List.mem_finRange i), fun h => ⟨Nat.zero_le _, fun i _ => h i⟩⟩

theorem le_maxOver (n : Nat) (f : Fin n → Nat) (i : Fin n) : f i ≤ maxOver n f :=
  (maxOver_le_iff n f _).1 (Nat.le_refl _) i

theorem allOver_get (n : Nat) (f : Fin n → Bool) (h : allOver n f = true) (i : Fin n) : f i = true :=
  List.all_eq_true.1 h i (List.mem_finRange i)

theorem pick_bounds (n : Nat) (body : Fin n → Schema) (dflt : Schema) (tag : Prim) (t : Int) :
    depth (Schema.pick n body dflt t) ≤ depth (.sw tag n body dflt) ∧
    K (Schema.pick n body dflt t) ≤ K (.sw tag n body dflt) := by
  simp only [depth, K]
  refine pick_ind (P := fun s => depth s ≤ _ ∧ K s ≤ _) n body dflt (fun i => ?_) (by omega) t
  have := le_maxOver n (fun i => depth (body i)) i
  have := le_maxOver n (fun i => K (body i)) i
  omega

theorem pick_productive (n : Nat) (body : Fin n → Schema) (dflt : Schema) (tag : Prim) (t : Int)
    (h : productive (.sw tag n body dflt) = true) : productive (Schema.pick n body dflt t) = true := by
  simp only [productive, Bool.and_eq_true] at h
  exact pick_ind (P := fun s => productive s = true) n body dflt (allOver_get n _ h.1) h.2 t

/-- The three facts proved together by induction over the schema, for any `d` above the array depth and any `k` from
    the static cap upwards.  On success the allocation is stated additively (`… + d * rest ≤ d * input`): with all the
    products of the shape `d * length`, every step below is linear arithmetic. -/
def Cost (d k : Nat) (s : Schema) : Prop :=
  ∀ bs : Bytes,
    alloc s bs ≤ d * bs.length + k ∧
    ∀ v r, s.decode bs = .ok (v, r) → r.length + minLen s ≤ bs.length ∧ alloc s bs + d * r.length ≤ d * bs.length

theorem alloc_sw (tag : Prim) (n : Nat) (body : Fin n → Schema) (dflt : Schema) (bs : Bytes) :
    alloc (.sw tag n body dflt) bs =
      tag.alloc bs + (match tag.dec bs with
        | .error _ => 0
        | .ok (t, r) => alloc (Schema.pick n body dflt t.getInt) r) := by
  simp only [alloc, Schema.pick]
  cases tag.dec bs with
  | error e => rfl
  | ok p =>
    by_cases hc : 0 ≤ p.1.getInt ∧ p.1.getInt.toNat < n
    · simp only [dif_pos hc]
    · simp only [dif_neg hc]

theorem loop_cost {d k : Nat} (s : Schema) (hs : Cost d k s) (hmin : 1 ≤ minLen s) (n : Nat) (bs : Bytes) :
    allocN (alloc s) s.decode n bs ≤ d * bs.length + k ∧
    ∀ xs r, readN s.decode n bs = .ok (xs, r) →
      r.length + n ≤ bs.length ∧ allocN (alloc s) s.decode n bs + d * r.length ≤ d * bs.length := by
  induction n generalizing bs with
  | zero =>
    refine ⟨Nat.zero_le _, fun xs r h => ?_⟩
    cases h
    exact ⟨Nat.le_refl _, Nat.le_of_eq (Nat.zero_add _)⟩
  | succ n ih =>
    obtain ⟨hB, hA⟩ := hs bs
    cases hd : s.decode bs with
    | error e =>
      simp only [allocN, readN, hd]
      exact ⟨by omega, fun xs r h => by cases h⟩
    | ok p =>
      obtain ⟨x, r1⟩ := p
      obtain ⟨hc1, ha1⟩ := hA x r1 hd
      obtain ⟨ihB, ihA⟩ := ih r1
      simp only [allocN, readN, hd]
      refine ⟨by omega, fun xs r h => ?_⟩
      split at h
      · cases h
      · cases h
        obtain ⟨hc2, ha2⟩ := ihA _ _ ‹_›
        omega

theorem schema_cost (s : Schema) (hp : productive s = true) :
    ∀ {d k : Nat}, depth s < d → K s ≤ k → Cost d k s := by
  induction s with
  | unit =>
    intro d k _ _ bs
    refine ⟨Nat.zero_le _, fun v r h => ?_⟩
    cases h
    exact ⟨Nat.le_refl _, Nat.le_of_eq (Nat.zero_add _)⟩
  | fail =>
    intro d k _ _ bs
    exact ⟨Nat.zero_le _, fun v r h => by cases h⟩
  | prim p =>
    intro d k hd hk bs
    obtain ⟨e, rfl⟩ : ∃ e, d = e + 1 := ⟨d - 1, by omega⟩
    obtain ⟨h1, h2⟩ := prim_cost p bs
    simp only [K] at hk
    simp only [alloc, minLen, Schema.decode, Nat.succ_mul]
    refine ⟨by omega, fun v r h => ?_⟩
    obtain ⟨h3, h4⟩ := h2 v r h
    have := Nat.mul_le_mul_left e (show r.length ≤ bs.length by omega)
    omega
  | seq a b iha ihb =>
    simp only [productive, Bool.and_eq_true] at hp
    intro d k hd hk bs
    simp only [depth, K] at hd hk
    obtain ⟨hBa, hAa⟩ := iha hp.1 (d := d) (k := k) (by omega) (by omega) bs
    cases hd1 : a.decode bs with
    | error e =>
      simp only [alloc, Schema.decode, hd1]
      exact ⟨by omega, fun v r h => by cases h⟩
    | ok p =>
      obtain ⟨x, r1⟩ := p
      obtain ⟨hc1, ha1⟩ := hAa x r1 hd1
      obtain ⟨hBb, hAb⟩ := ihb hp.2 (d := d) (k := k) (by omega) (by omega) r1
      simp only [alloc, Schema.decode, minLen, hd1]
      refine ⟨by omega, fun v r h => ?_⟩
      split at h
      · cases h
      · cases h
        obtain ⟨hc2, ha2⟩ := hAb _ _ ‹_›
        omega
  -- `opt` wraps the value of `s` in `.some`, `optD` hands it on: consumption and allocation are those of `s` either way
  | opt _ s ih | optD _ s ih =>
    simp only [productive] at hp
    intro d k hd hk bs
    simp only [depth, K] at hd hk
    cases hb : readBool bs with
    | error e =>
      simp only [alloc, Schema.decode, hb]
      exact ⟨Nat.zero_le _, fun v r h => by cases h⟩
    | ok p =>
      obtain ⟨b, r1⟩ := p
      have hlen := readBool_ok hb
      have hm := Nat.mul_le_mul_left d (show r1.length ≤ bs.length by omega)
      obtain ⟨hB, hA⟩ := ih hp hd hk r1
      simp only [alloc, Schema.decode, minLen, hb]
      split
      · refine ⟨by omega, fun v r h => ?_⟩
        cases hs : s.decode r1 with
        | error e => rw [hs] at h; cases h
        | ok q =>
          obtain ⟨x, r2⟩ := q
          obtain ⟨hc, ha⟩ := hA x r2 hs
          rw [hs] at h
          cases h
          omega
      · refine ⟨Nat.zero_le _, fun v r h => ?_⟩
        cases h
        omega
  | arr neg max s ih =>
    simp only [productive, Bool.and_eq_true, decide_eq_true_eq] at hp
    intro d k hd hk bs
    simp only [depth, K] at hd hk
    obtain ⟨e, rfl⟩ : ∃ e, d = e + 1 := ⟨d - 1, by omega⟩
    cases hv : readVarInt bs with
    | error e =>
      simp only [alloc, Schema.decode, hv]
      exact ⟨Nat.zero_le _, fun v r h => by cases h⟩
    | ok p =>
      obtain ⟨n, r1⟩ := p
      have hlen := readVarInt_ok hv
      have hm := Nat.mul_le_mul_left e (show r1.length ≤ bs.length by omega)
      simp only [alloc, Schema.decode, minLen, hv, Nat.succ_mul]
      split
      · refine ⟨Nat.zero_le _, fun v r h => ?_⟩
        split at h
        · cases h
        · cases h; omega
      · split
        · exact ⟨Nat.zero_le _, fun v r h => by cases h⟩
        · obtain ⟨lB, lA⟩ := loop_cost s (ih hp.2 (d := e) (k := k - max.getD maxPre) (by omega) (by omega)) hp.1
            n.toNat r1
          have hpre : prealloc max n.toNat ≤ max.getD maxPre ∧ prealloc max n.toNat ≤ n.toNat := by
            unfold prealloc; omega
          refine ⟨by omega, fun v r h => ?_⟩
          split at h
          · cases h
          · cases h
            obtain ⟨hc, ha⟩ := lA _ _ ‹_›
            omega
  | sw tag n body dflt ihb ihd =>
    intro d k hd hk bs
    have hcap : tag.cap ≤ K (.sw tag n body dflt) := by simp only [K]; omega
    obtain ⟨e, rfl⟩ : ∃ e, d = e + 1 := ⟨d - 1, by omega⟩
    obtain ⟨t1, t2⟩ := prim_cost tag bs
    rw [alloc_sw, decode_sw]
    cases hd1 : tag.dec bs with
    | error e =>
      simp only [Nat.succ_mul]
      exact ⟨by omega, fun v r h => by cases h⟩
    | ok p =>
      obtain ⟨t, r1⟩ := p
      obtain ⟨tc, ta⟩ := t2 t r1 hd1
      obtain ⟨hdp, hkp⟩ := pick_bounds n body dflt tag t.getInt
      obtain ⟨hB, hA⟩ := pick_ind (P := fun s => productive s = true → ∀ {d k}, depth s < d → K s ≤ k → Cost d k s)
        n body dflt ihb ihd t.getInt (pick_productive n body dflt tag t.getInt hp)
        (d := e + 1) (k := k) (by omega) (by omega) r1
      have hm := Nat.mul_le_mul_left e (show r1.length ≤ bs.length by omega)
      simp only [minLen, Nat.succ_mul] at hB hA ⊢
      refine ⟨by omega, fun v r h => ?_⟩
      split at h
      · cases h
      · cases h
        obtain ⟨hc, ha⟩ := hA _ _ ‹_›
        omega

end Gate.C05
