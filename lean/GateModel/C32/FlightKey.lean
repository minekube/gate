import GateModel.C32.Model
import Std.Data.String.ToNat
import Std.Data.String.ToInt
/-
C32 — the flight key string `fmt.Sprintf("%d:%d:%s:%d", generation, routeGeneration, backendAddr, protocol)` determines
(generation, key) (`Props.flight_key_identifies_generation_and_key`): the two leading fields and the trailing field are decimal numerals without a colon, so the string
splits uniquely at its first two colons and its last colon, whatever bytes the backend address contains.
-/
namespace Gate.C32
open Gate

def enc (c : Char) : UInt8 := UInt8.ofNat c.toNat

theorem digit_range {c : Char} (h : c.isDigit = true) : 48 ≤ c.toNat ∧ c.toNat ≤ 57 := by
  unfold Char.isDigit at h
  simp only [Bool.and_eq_true, decide_eq_true_eq, ge_iff_le, UInt32.le_iff_toNat_le] at h
  exact ⟨h.1, h.2⟩

theorem enc_toNat {c : Char} (h : c.toNat < 256) : (enc c).toNat = c.toNat := by
  unfold enc
  rw [UInt8.toNat_ofNat']
  omega

/-- `enc` has a left inverse on Latin-1 -/
theorem map_dec_enc {l : List Char} (h : ∀ c ∈ l, c.toNat < 256) :
    (l.map enc).map (fun b => Char.ofNat b.toNat) = l := by
  rw [List.map_map]
  refine (List.map_congr_left fun c hc => ?_).trans (List.map_id l)
  show Char.ofNat (enc c).toNat = c
  rw [enc_toNat (h c hc), Char.ofNat_toNat]

theorem map_enc_inj (l1 l2 : List Char) (h1 : ∀ c ∈ l1, c.toNat < 256) (h2 : ∀ c ∈ l2, c.toNat < 256)
    (h : l1.map enc = l2.map enc) : l1 = l2 := by
  rw [← map_dec_enc h1, ← map_dec_enc h2, h]

theorem no_colon {l : List Char} (h : ∀ c ∈ l, c.toNat < 256 ∧ c.toNat ≠ 58) : (58 : UInt8) ∉ l.map enc := by
  intro hm
  obtain ⟨c, hc, he⟩ := List.mem_map.1 hm
  have := congrArg UInt8.toNat he
  rw [enc_toNat (h c hc).1] at this
  exact (h c hc).2 this

theorem natDigits_eq (n : Nat) : natDigits n = (Nat.toDigits 10 n).map enc := by
  unfold natDigits
  rw [Nat.toString_eq_repr, Nat.toList_repr]
  rfl

theorem toDigits_small (n : Nat) : ∀ c ∈ Nat.toDigits 10 n, 48 ≤ c.toNat ∧ c.toNat ≤ 57 :=
  fun _ hc => digit_range (Nat.isDigit_of_mem_toDigits (by decide) (by decide) hc)

theorem natDigits_no_colon (n : Nat) : (58 : UInt8) ∉ natDigits n := by
  rw [natDigits_eq]
  exact no_colon fun c hc => by have := toDigits_small n c hc; omega

theorem natDigits_inj {m n : Nat} (h : natDigits m = natDigits n) : m = n := by
  rw [natDigits_eq, natDigits_eq] at h
  have := map_enc_inj _ _ (fun c hc => by have := toDigits_small m c hc; omega)
    (fun c hc => by have := toDigits_small n c hc; omega) h
  apply Nat.repr_injective
  rw [Nat.repr_eq_ofList_toDigits, Nat.repr_eq_ofList_toDigits, this]

theorem intChars (i : Int) : ∀ c ∈ (toString i).toList, c.toNat < 256 ∧ c.toNat ≠ 58 := by
  intro c hc
  rw [Int.toString_eq_repr, Int.repr_eq_if] at hc
  split at hc
  · rw [Nat.toList_repr] at hc
    have := toDigits_small _ c hc
    omega
  · rw [String.toList_append, Nat.toList_repr] at hc
    rcases List.mem_append.1 hc with h | h
    · simp at h; subst h; decide
    · have := toDigits_small _ c h
      omega

theorem intDigits_no_colon (i : Int) : (58 : UInt8) ∉ intDigits i :=
  no_colon (intChars i)

theorem intDigits_inj {a b : Int} (h : intDigits a = intDigits b) : a = b := by
  unfold intDigits at h
  have := map_enc_inj _ _ (fun c hc => (intChars a c hc).1) (fun c hc => (intChars b c hc).1) h
  apply Int.repr_injective
  rw [← Int.toString_eq_repr, ← Int.toString_eq_repr]
  exact String.toList_inj.1 this

theorem takeWhile_colon {a x : Bytes} (ha : (58 : UInt8) ∉ a) : (a ++ 58 :: x).takeWhile (· != 58) = a := by
  rw [List.takeWhile_append_of_pos fun b hb => bne_iff_ne.2 fun (e : b = 58) => ha (e ▸ hb)]
  simp

/-- split at the first colon: the part before it is the longest colon-free prefix -/
theorem split_first (a a' x x' : Bytes) (h1 : (58 : UInt8) ∉ a) (h2 : (58 : UInt8) ∉ a')
    (h : a ++ 58 :: x = a' ++ 58 :: x') : a = a' ∧ x = x' := by
  have ha : a = a' := by rw [← takeWhile_colon (x := x) h1, h, takeWhile_colon h2]
  subst ha
  exact ⟨rfl, (List.cons.inj (List.append_cancel_left h)).2⟩

/-- split at the last colon -/
theorem split_last (x x' c c' : Bytes) (h1 : (58 : UInt8) ∉ c) (h2 : (58 : UInt8) ∉ c')
    (h : x ++ 58 :: c = x' ++ 58 :: c') : x = x' ∧ c = c' := by
  have hr := congrArg List.reverse h
  simp only [List.reverse_append, List.reverse_cons, List.append_assoc, List.singleton_append] at hr
  have := split_first c.reverse c'.reverse x.reverse x'.reverse (by simpa using h1) (by simpa using h2) hr
  exact ⟨List.reverse_inj.1 this.2, List.reverse_inj.1 this.1⟩

end Gate.C32
