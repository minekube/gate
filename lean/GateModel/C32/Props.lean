import GateModel.C32.Lemmas
import GateModel.C32.FlightKey
/-
C32 — Lite ping cache never serves status from before a reload.

Every theorem about the cache quantifies over ANY list of requests (keys, TTLs, with or without the fast-path
`get`) and EVERY schedule `run : List Label` accepted by `exec`: all interleavings of the requests' atomic
sections with `reset`, clock `tick`s and loader completions (`store l ok`: the backend fetch of flight `l`
returns after an arbitrary delay, successfully or not).

`loads` is the log of loader invocations (= backend status fetches) in the order they were started; a result
`v : Res` names the invocation `v.lid` that produced it.
-/
namespace Gate.C32.Props
open Gate.C32

/-! ### no status from before a reset -/

/-- **Freshness, trace form.**  Take any reachable moment (`pre`), a reset at that moment, and any continuation.
    A request that had not started before the reset is never answered with a result whose backend fetch was
    started before the reset: the fetch is not among the `mid.loads.length` fetches started so far. -/
theorem no_stale_after_reset (reqs : List (Key × Int × Bool)) (pre post : List Label) (mid s : Sys)
    (h1 : exec (init reqs) pre = some mid) (h2 : exec mid (Label.reset :: post) = some s)
    (r : Nat) (q : Req) (hq : mid.reqs[r]? = some q) (hidle : q.pc = .idle)
    (v : Res) (ha : answer s r = some v) : mid.loads.length ≤ v.lid := by
  have imid := exec_inv (inv_init reqs) h1
  obtain ⟨s1, hs, h2⟩ := Option.bind_eq_some_iff.1 h2
  have is := exec_inv (step_inv imid hs) h2
  cases hs
  have hl := exec_late (G := mid.gen + 1) (r := r)
    ⟨Nat.le_refl _, fun q' hq' => by rw [hq] at hq'; cases hq'; exact Or.inl hidle⟩ h2
  obtain ⟨_, ext1, hloads⟩ := exec_mono h2
  unfold answer at ha
  split at ha
  · rename_i q' hq'
    split at ha
    · rename_i v' hpc
      cases ha
      obtain ⟨info, hinfo, _, hstart⟩ := (is.reqs q' (List.mem_of_getElem? hq')).ans hpc
      rcases hl.2 q' hq' with hid | hge
      · rw [hid] at hpc; cases hpc
      · refine Nat.le_of_not_lt fun hlt => ?_
        rw [hloads, List.getElem?_append_left hlt] at hinfo
        have := imid.epochs _ (List.mem_of_getElem? hinfo)
        omega
    · cases ha
  · cases ha

/-- **Freshness, generation form.**  In every reachable state, an answered request got a result whose
    backend fetch was started for exactly the request's key (backend, protocol, route generation) and at a
    cache generation (= number of resets so far) not smaller than the one at the request's first action. -/
theorem answer_fresh_and_for_own_key (reqs : List (Key × Int × Bool)) (run : List Label) (s : Sys)
    (h : exec (init reqs) run = some s) (r : Nat) (q : Req) (hq : s.reqs[r]? = some q) (v : Res)
    (ha : q.pc = .answered v) :
    ∃ info, s.loads[v.lid]? = some info ∧ info.key = q.key ∧ q.startGen ≤ info.epoch ∧ info.epoch ≤ s.gen := by
  have is := exec_inv (inv_init reqs) h
  obtain ⟨info, h1, h2, h3⟩ := (is.reqs q (List.mem_of_getElem? hq)).ans ha
  exact ⟨info, h1, h2, h3, is.epochs _ (List.mem_of_getElem? h1)⟩

/-- **The cache key is the raw triple** (backend, client protocol, route generation): two requests whose keys differ in
    any component — in particular two client protocol numbers, whether or not a version table knows them — are never
    answered from the same backend fetch, in any schedule.  (A key component is an arbitrary `Int`/`Nat`/byte string: the
    model has no lookup that could merge two of them.) -/
theorem different_keys_never_share_a_fetch (reqs : List (Key × Int × Bool)) (run : List Label) (s : Sys)
    (h : exec (init reqs) run = some s) (r1 r2 : Nat) (q1 q2 : Req) (h1 : s.reqs[r1]? = some q1) (h2 : s.reqs[r2]? = some q2)
    (v1 v2 : Res) (a1 : q1.pc = .answered v1) (a2 : q2.pc = .answered v2) (hk : q1.key ≠ q2.key) : v1.lid ≠ v2.lid := by
  obtain ⟨i1, hl1, hk1, _⟩ := answer_fresh_and_for_own_key reqs run s h r1 q1 h1 v1 a1
  obtain ⟨i2, hl2, hk2, _⟩ := answer_fresh_and_for_own_key reqs run s h r2 q2 h2 v2 a2
  intro he
  rw [he, hl2] at hl1
  cases hl1
  exact hk (hk1.symm.trans hk2)

/-- in particular for the client protocol -/
theorem different_protocols_never_share_a_fetch (reqs : List (Key × Int × Bool)) (run : List Label) (s : Sys)
    (h : exec (init reqs) run = some s) (r1 r2 : Nat) (q1 q2 : Req) (h1 : s.reqs[r1]? = some q1) (h2 : s.reqs[r2]? = some q2)
    (v1 v2 : Res) (a1 : q1.pc = .answered v1) (a2 : q2.pc = .answered v2) (hp : q1.key.protocol ≠ q2.key.protocol) :
    v1.lid ≠ v2.lid :=
  different_keys_never_share_a_fetch reqs run s h r1 r2 q1 q2 h1 h2 v1 v2 a1 a2 (fun e => hp (by rw [e]))

/-- a cache lookup returns only an entry stored under exactly the asked key -/
theorem lookup_is_exact (c : List Entry) (k : Key) (e : Entry) (h : lookup c k = some e) : e.key = k :=
  (lookup_some h).2

/-- two unlisted protocol numbers (777, 778) to the same backend within the TTL: two fetches, each client its own -/
example :
    let ka : Key := ⟨[97], 777, 0⟩
    let kb : Key := ⟨[97], 778, 0⟩
    (match exec (init [(ka, 10, true), (kb, 10, true), (ka, 10, true)])
        [.get 0, .check 0, .join 0, .recheck 0, .store 0 true, .finish 0,
         .get 1, .check 1, .join 1, .recheck 1, .store 1 true, .finish 1, .get 2] with
      | some s => (answer s 0, answer s 1, answer s 2) == (some ⟨0, true⟩, some ⟨1, true⟩, some ⟨0, true⟩) && s.loads.length == 2
      | none => false) = true := by decide +kernel

/-- the request's key is the one it was created with: answers are per (backend, protocol, route generation) -/
theorem key_is_static (reqs : List (Key × Int × Bool)) (run : List Label) (s : Sys)
    (h : exec (init reqs) run = some s) (r : Nat) :
    (s.reqs[r]?).map (·.key) = (reqs[r]?).map (·.1) := by
  rw [exec_key h r]
  simp only [init, List.getElem?_map]
  cases reqs[r]? with
  | none => rfl
  | some x => obtain ⟨k, t, f⟩ := x; rfl

/-- the generation counts the resets -/
theorem generation_counts_resets (s s' : Sys) (run : List Label) (h : exec s run = some s') :
    s'.gen = s.gen + (run.filter (· = Label.reset)).length := by
  induction run generalizing s with
  | nil => cases h; rfl
  | cons l ls ih =>
    obtain ⟨s1, hs, h⟩ := Option.bind_eq_some_iff.1 h
    rw [ih s1 h, (step_shape hs).2.1, List.filter_cons]
    by_cases hl : l = .reset <;> simp [hl]
    omega

/-- every cached entry of a reachable state was fetched under the CURRENT cache generation, for its key -/
theorem cached_entries_current (reqs : List (Key × Int × Bool)) (run : List Label) (s : Sys)
    (h : exec (init reqs) run = some s) (e : Entry) (he : e ∈ s.cache) :
    ∃ info, s.loads[e.res.lid]? = some info ∧ info.key = e.key ∧ info.epoch = s.gen := by
  have is := exec_inv (inv_init reqs) h
  obtain ⟨info, h1, h2, h3⟩ := (is.cache e he).1
  exact ⟨info, h1, h2, Nat.le_antisymm (is.epochs _ (List.mem_of_getElem? h1)) h3⟩

/-- a reset empties the cache and advances the generation; it is always enabled -/
theorem reset_clears (s : Sys) : ∃ s', step s .reset = some s' ∧ s'.cache = [] ∧ s'.gen = s.gen + 1 :=
  ⟨_, rfl, rfl, rfl⟩

/-- a fetch begun under an older cache generation is never stored -/
theorem old_generation_not_stored (s s' : Sys) (l : Nat) (ok : Bool) (f : Flight)
    (hf : s.flights.find? (fun f => f.leader = l) = some f) (hold : f.gen ≠ s.gen)
    (h : step s (.store l ok) = some s') : s'.cache = s.cache := by
  simp only [step, hf] at h
  split at h
  · cases h; simp [hold]
  · cases h

/-- … and a fetch of the current generation is stored with the flight's TTL, stamped with ttlcache's clock -/
theorem current_generation_stored (s s' : Sys) (l : Nat) (ok : Bool) (f : Flight) (lid : Nat)
    (hf : s.flights.find? (fun f => f.leader = l) = some f) (hpc : f.pc = .loading lid) (hcur : f.gen = s.gen)
    (h : step s (.store l ok) = some s') : lookup s'.cache f.key = some ⟨f.key, ⟨lid, ok⟩, f.ttl, s.wall⟩ := by
  simp only [step, hf, hpc] at h
  cases h
  simp [hcur, cacheSet, lookup]

/-! ### at most one flight / backend fetch per (cache generation, key) -/

/-- in every reachable state two flights with the same (generation, key) are the same flight -/
theorem at_most_one_flight_per_generation_and_key (reqs : List (Key × Int × Bool)) (run : List Label) (s : Sys)
    (h : exec (init reqs) run = some s) (f1 f2 : Flight) (h1 : f1 ∈ s.flights) (h2 : f2 ∈ s.flights)
    (hg : f1.gen = f2.gen) (hk : f1.key = f2.key) : f1 = f2 :=
  flights_unique (exec_inv (inv_init reqs) h).nodup h1 h2 hg hk

/-- hence at most one backend fetch is running per (generation, key): two running loaders of the same
    (generation, key) are the same invocation -/
theorem at_most_one_fetch_per_generation_and_key (reqs : List (Key × Int × Bool)) (run : List Label) (s : Sys)
    (h : exec (init reqs) run = some s) (f1 f2 : Flight) (h1 : f1 ∈ s.flights) (h2 : f2 ∈ s.flights)
    (l1 l2 : Nat) (hl1 : f1.pc = .loading l1) (hl2 : f2.pc = .loading l2)
    (hg : f1.gen = f2.gen) (hk : f1.key = f2.key) : l1 = l2 := by
  have := at_most_one_flight_per_generation_and_key reqs run s h f1 f2 h1 h2 hg hk
  subst this
  rw [hl1] at hl2; cases hl2; rfl

/-- per KEY: among the fetches of the current cache generation — the only ones whose result can still be stored or
    reach a request that starts now — at most one is running.  (Fetches begun before a reset may still be running
    beside it: their results go only to the requests that were already waiting for them; see the example below.) -/
theorem at_most_one_current_fetch_per_key (reqs : List (Key × Int × Bool)) (run : List Label) (s : Sys)
    (h : exec (init reqs) run = some s) (f1 f2 : Flight) (h1 : f1 ∈ s.flights) (h2 : f2 ∈ s.flights)
    (l1 l2 : Nat) (hl1 : f1.pc = .loading l1) (hl2 : f2.pc = .loading l2)
    (hc1 : f1.gen = s.gen) (hc2 : f2.gen = s.gen) (hk : f1.key = f2.key) : l1 = l2 :=
  at_most_one_fetch_per_generation_and_key reqs run s h f1 f2 h1 h2 l1 l2 hl1 hl2 (hc1.trans hc2.symm) hk

/-- a loader is called only from a flight's re-check, and only when the flight is of an older generation (its
    result will be discarded) or the cache holds no live entry for the key -/
theorem fetch_only_on_miss (s s' : Sys) (l : Label) (h : step s l = some s') (hnew : s'.loads.length ≠ s.loads.length) :
    ∃ ld f, l = .recheck ld ∧ s.flights.find? (fun f => f.leader = ld) = some f ∧ f.pc = .created ∧
      s'.loads = s.loads ++ [⟨f.key, s.gen, f.leader⟩] ∧
      (f.gen ≠ s.gen ∨ (getLocked s f.key).1 = none) := by
  rcases (step_shape h).2.2 with e | hmiss
  · exact absurd (congrArg List.length e) hnew
  · exact hmiss

/-- the string handed to the flight group identifies (cache generation, key) uniquely — so "one flight per flight-key
    string" (singleflight's guarantee) IS "one flight per (generation, key)" (the model's flight table) -/
theorem flight_key_identifies_generation_and_key (g g' : Nat) (k k' : Key) (h : flightKey g k = flightKey g' k') :
    g = g' ∧ k = k' := by
  unfold flightKey at h
  simp only [List.append_assoc, List.singleton_append] at h
  obtain ⟨h1, h⟩ := split_first _ _ _ _ (natDigits_no_colon g) (natDigits_no_colon g') h
  obtain ⟨h2, h⟩ := split_first _ _ _ _ (natDigits_no_colon _) (natDigits_no_colon _) h
  obtain ⟨h3, h4⟩ := split_last _ _ _ _ (intDigits_no_colon _) (intDigits_no_colon _) h
  refine ⟨natDigits_inj h1, ?_⟩
  cases k; cases k'
  simp only [Key.mk.injEq]
  exact ⟨h3, intDigits_inj h4, natDigits_inj h2⟩

/-- Across a reset an old fetch and a new fetch for the SAME key can overlap (the flight key contains the
    cache generation).  This is what `no_stale_after_reset` requires: the old fetch cannot be cancelled and its
    result must not reach the new request.  "At most one per key" therefore holds per cache generation. -/
example :
    let k : Key := ⟨[97], 765, 0⟩
    (match exec (init [(k, 10, false), (k, 10, false)])
        [.check 0, .join 0, .recheck 0, .reset, .check 1, .join 1, .recheck 1] with
      | some s => s.flights.map (fun f => (f.gen, f.pc)) == [(0, .loading 0), (1, .loading 1)]
      | none => false) = true := by decide +kernel

/-- whatever `getLocked` serves is a stored entry for that key which is not expired on either clock:
    both ttlcache's clock and the injected clock are before stamp + TTL (no expiry when TTL ≤ 0) -/
theorem ttl_respected (s : Sys) (k : Key) (v : Res) (c : List Entry) (h : getLocked s k = (some v, c)) :
    ∃ e ∈ s.cache, e.key = k ∧ e.res = v ∧
      (e.ttl ≤ 0 ∨ (s.wall ≤ e.storedAt + e.ttl.toNat ∧ s.inj < e.storedAt + e.ttl.toNat)) := by
  obtain ⟨_, e, hm, hk, hr, hl⟩ := getLocked_hit (congrArg Prod.fst h)
  refine ⟨e, hm, hk, hr, ?_⟩
  unfold Entry.live Entry.expiresAt at hl
  by_cases ht : e.ttl > 0
  · right
    rw [if_pos ht] at hl
    simp only [Bool.and_eq_true, Bool.not_eq_true', decide_eq_false_iff_not] at hl
    omega
  · left; omega

/-- conversely an unexpired entry IS served (the cache is effective for the whole TTL), leaving the cache as it is -/
theorem served_while_live (s : Sys) (k : Key) (e : Entry) (he : lookup s.cache k = some e)
    (hl : e.ttl ≤ 0 ∨ (s.wall ≤ e.storedAt + e.ttl.toNat ∧ s.inj < e.storedAt + e.ttl.toNat)) :
    getLocked s k = (some e.res, s.cache) := by
  apply getLocked_of_live he
  unfold Entry.live Entry.expiresAt
  by_cases ht : e.ttl > 0
  · rw [if_pos ht]
    simp only [Bool.and_eq_true, Bool.not_eq_true', decide_eq_false_iff_not]
    omega
  · rw [if_neg ht]

/-- the fast path answers only from such an entry -/
theorem get_answer_is_live_entry (s s' : Sys) (r : Nat) (v : Res) (h : step s (.get r) = some s')
    (ha : answer s' r = some v) :
    ∃ q e, s.reqs[r]? = some q ∧ e ∈ s.cache ∧ e.key = q.key ∧ e.res = v ∧
      (e.ttl ≤ 0 ∨ (s.wall ≤ e.storedAt + e.ttl.toNat ∧ s.inj < e.storedAt + e.ttl.toNat)) := by
  obtain ⟨q, hq, _, _, rfl⟩ := step_get h
  have hlt : r < s.reqs.length := (List.getElem?_eq_some_iff.1 hq).1
  simp only [answer, List.getElem?_set, if_true, hlt] at ha
  cases hg : (getLocked s q.key).1 with
  | none => rw [hg] at ha; cases ha
  | some v' =>
    rw [hg] at ha
    cases ha
    obtain ⟨e, hm, hk, hr, hl⟩ := ttl_respected s q.key v _ (Prod.ext hg rfl)
    exact ⟨q, e, hq, hm, hk, hr, hl⟩

/-- stamps are never in the future of ttlcache's clock, so `wall - storedAt` is the entry's age -/
theorem stamp_not_in_future (reqs : List (Key × Int × Bool)) (run : List Label) (s : Sys)
    (h : exec (init reqs) run = some s) (e : Entry) (he : e ∈ s.cache) : e.storedAt ≤ s.wall :=
  ((exec_inv (inv_init reqs) h).cache e he).2

/-! ### fallback only when every backend failed -/

/-- the configured fallback status is returned iff EVERY candidate backend failed (and a fallback exists) -/
theorem fallback_only_if_all_failed {α σ : Type} (status : α → Option σ) (cands : List α) (fb : Option σ) (f : σ) :
    resolve status cands fb = .fallback f ↔ (∀ a ∈ cands, status a = none) ∧ fb = some f := by
  rcases first_success_or_none status cands with hall | ⟨pre, a, b, post, rfl, hpre, hfa⟩
  · rw [resolve_all_none fb hall]
    cases fb with
    | none => exact ⟨fun h => (nomatch h), fun h => (nomatch h.2)⟩
    | some g => exact ⟨fun h => ⟨hall, by cases h; rfl⟩, fun h => by cases h.2; rfl⟩
  · rw [resolve_first post fb hpre hfa]
    exact ⟨nofun, fun h => nomatch hfa.symm.trans (h.1 a (by simp))⟩

/-- a backend's status is returned iff it is the status of the FIRST candidate that succeeds -/
theorem backend_status_is_first_success {α σ : Type} (status : α → Option σ) (cands : List α) (fb : Option σ) (st : σ) :
    resolve status cands fb = .backend st ↔
      ∃ pre a post, cands = pre ++ a :: post ∧ (∀ x ∈ pre, status x = none) ∧ status a = some st := by
  constructor
  · intro h
    rcases first_success_or_none status cands with hall | ⟨pre, a, b, post, rfl, hpre, hfa⟩
    · rw [resolve_all_none fb hall] at h
      cases fb <;> cases h
    · rw [resolve_first post fb hpre hfa] at h
      cases h
      exact ⟨pre, a, post, rfl, hpre, hfa⟩
  · rintro ⟨pre, a, post, rfl, hpre, hfa⟩
    exact resolve_first post fb hpre hfa

/-- an error is returned iff every candidate failed and there is no fallback -/
theorem error_iff_all_failed_no_fallback {α σ : Type} (status : α → Option σ) (cands : List α) (fb : Option σ) :
    resolve status cands fb = .error ↔ (∀ a ∈ cands, status a = none) ∧ fb = none := by
  rcases first_success_or_none status cands with hall | ⟨pre, a, b, post, rfl, hpre, hfa⟩
  · rw [resolve_all_none fb hall]
    cases fb with
    | none => exact ⟨fun _ => ⟨hall, rfl⟩, fun _ => rfl⟩
    | some g => exact ⟨fun h => (nomatch h), fun h => (nomatch h.2)⟩
  · rw [resolve_first post fb hpre hfa]
    exact ⟨nofun, fun h => nomatch hfa.symm.trans (h.1 a (by simp))⟩

/-- the second component counts the candidates tried: none after the first success … -/
theorem attempts_stop_at_first_success {α β : Type} (f : α → Option β) (pre post : List α) (a : α) (b : β)
    (hpre : ∀ x ∈ pre, f x = none) (hfa : f a = some b) : (tryBackends f (pre ++ a :: post)).2 = pre.length + 1 := by
  rw [tryBackends_first post hpre hfa]

/-- … and all of them when none succeeds -/
theorem all_tried_when_none_succeeds {α β : Type} (f : α → Option β) (l : List α) (h : ∀ x ∈ l, f x = none) :
    (tryBackends f l).2 = l.length := by
  rw [tryBackends_all_none h]

/-! ### … whatever the KIND of failure (refused, timed out, closed, cancelled, cached) -/

/-- the outcome does not depend on how the failed attempts failed: only on which candidates succeed -/
theorem outcome_independent_of_failure_class {α σ : Type} (status : α → Attempt σ) (cands : List α) (fb : Option σ) :
    resolveE neverStop status cands fb = resolve (fun a => (status a).toOption) cands fb := by
  unfold resolveE resolve
  rw [tryBackendsE_neverStop]

/-- fallback iff every candidate failed — for every assignment of failure classes -/
theorem fallback_only_if_all_failed_any_class {α σ : Type} (status : α → Attempt σ) (cands : List α) (fb : Option σ) (f : σ) :
    resolveE neverStop status cands fb = .fallback f ↔ (∀ a ∈ cands, ∃ c, status a = .fail c) ∧ fb = some f := by
  rw [outcome_independent_of_failure_class, fallback_only_if_all_failed]
  simp only [Attempt.toOption_eq_none]

/-- a healthy candidate behind ANY kind of failed candidates is asked and its status is returned -/
theorem healthy_backend_behind_failures_is_used {α σ : Type} (status : α → Attempt σ) (pre post : List α) (a : α) (st : σ)
    (fb : Option σ) (hpre : ∀ x ∈ pre, ∃ c, status x = .fail c) (ha : status a = .ok st) :
    resolveE neverStop status (pre ++ a :: post) fb = .backend st ∧
    (tryBackendsE neverStop status (pre ++ a :: post)).2 = pre.length + 1 := by
  rw [outcome_independent_of_failure_class, tryBackendsE_neverStop]
  have hp : ∀ x ∈ pre, (fun a => (status a).toOption) x = none :=
    fun x hx => Attempt.toOption_eq_none.2 (hpre x hx)
  have hs : (fun a => (status a).toOption) a = some st := by simp [ha, Attempt.toOption]
  exact ⟨resolve_first post fb hp hs, by rw [tryBackends_first post hp hs]⟩

/-- the dimension matters: a variant that stops walking after a timeout-class failure ("the pinging client has gone
    away") serves the fallback although a healthy backend is configured behind a backend whose dial timed out -/
theorem stop_on_timeout_variant_fails :
    ¬ (∀ (status : Nat → Attempt String) (cands : List Nat) (fb : Option String) (f : String),
        resolveE (fun c => c == .timeout) status cands fb = .fallback f → ∀ a ∈ cands, ∃ c, status a = .fail c) := by
  intro h
  have := h (fun a => if a = 0 then .fail .timeout else .ok "up") [0, 1] (some "fb") "fb" (by decide) 1 (by simp)
  obtain ⟨c, hc⟩ := this
  simp at hc

example : resolveE neverStop (fun (a : Nat) => if a = 0 then Attempt.fail .timeout else .ok "up") [0, 1] (some "fb") = .backend "up" := by
  decide
example : resolveE neverStop (fun (a : Nat) => if a = 0 then Attempt.fail .canceled else .fail .refused) [0, 1] (some "fb") = .fallback "fb" := by
  decide

/-! ### non-vacuity: concrete schedules -/

def k1 : Key := ⟨[97], 765, 0⟩
def twoReqs : List (Key × Int × Bool) := [(k1, 10, true), (k1, 10, true), (k1, 10, true)]

/-- request 0 fetches (loader 0), the cache is reset while the fetch is in flight, request 1 starts after the
    reset: it does NOT join the old flight, fetches again (loader 1) and is answered with loader 1's result;
    request 0 still gets its own (old) result; the old result is not stored: request 2 hits loader 1's entry -/
example : (match exec (init twoReqs)
      [.get 0, .check 0, .join 0, .recheck 0, .reset, .get 1, .check 1, .join 1, .recheck 1,
       .store 0 true, .finish 0, .store 1 true, .finish 1, .get 2] with
    | some s => (answer s 0, answer s 1, answer s 2) == (some ⟨0, true⟩, some ⟨1, true⟩, some ⟨1, true⟩)
                && s.gen == 1 && s.loads.map (·.epoch) == [0, 1]
    | none => false) = true := by decide +kernel

/-- without a reset the second request joins the flight and both are answered by ONE fetch; a third request
    after the TTL has passed on both clocks misses -/
example : (match exec (init twoReqs)
      [.get 0, .check 0, .join 0, .recheck 0, .get 1, .check 1, .join 1, .store 0 true, .finish 0,
       .tick 10 10, .get 2] with
    | some s => (answer s 0, answer s 1, answer s 2) == (some ⟨0, true⟩, some ⟨0, true⟩, none)
                && s.loads.length == 1 && s.cache.isEmpty
    | none => false) = true := by decide +kernel

/-- the history searched for by the harness's concurrent probe (`race held`): a load is in flight, a reset runs
    concurrently, the load finishes with the value fetched before the reset.  Whichever way the load's store and the
    reset's critical section are ordered, a request that starts afterwards misses on the fast path and its own load
    fetches again (loader 1), while the old request still gets the old result. -/
theorem inflight_load_across_reset_is_not_served (ok storeFirst : Bool) :
    (match exec (init [(k1, 10, false), (k1, 10, true)])
        ([.check 0, .join 0, .recheck 0] ++ (if storeFirst then [.store 0 ok, .reset] else [.reset, .store 0 ok]) ++
         [.finish 0, .get 1, .check 1, .join 1, .recheck 1, .store 1 true, .finish 1]) with
     | some s => answer s 0 == some ⟨0, ok⟩ && answer s 1 == some ⟨1, true⟩ && s.loads.length == 2
     | none => false) = true := by
  cases ok <;> cases storeFirst <;> decide +kernel

/-- the hypotheses of `no_stale_after_reset` are satisfiable with an answered late request -/
example : (match exec (init twoReqs) [.get 0, .check 0, .join 0, .recheck 0] with
    | some mid =>
      (match exec mid [.reset, .get 1, .check 1, .join 1, .recheck 1, .store 1 false, .finish 1] with
       | some s => (mid.reqs[1]?.map (·.pc)) == some .idle && answer s 1 == some ⟨1, false⟩ && mid.loads.length == 1
       | none => false)
    | none => false) = true := by decide +kernel

example : resolve (fun (a : Nat) => if a = 2 then some "s2" else none) [0, 1, 2, 3] (some "fb") = .backend "s2" := by decide
example : resolve (fun (_ : Nat) => (none : Option String)) [0, 1] (some "fb") = .fallback "fb" := by decide
example : resolve (fun (_ : Nat) => (none : Option String)) [0, 1] none = .error := by decide

/-! ### tie to the source: call sequences regenerated from forward.go -/

open Gate.Gen.C32 in
/-- `load`: first check in one critical section; flight key built (format with four fields) before `DoChan`;
    inside the flight function the loader runs with `c.mu` NOT held, `Set` and every `getLocked` run with it held -/
theorem load_shape :
    loadCalls.take 3 = ["c.mu.Lock", "c.getLocked", "c.mu.Unlock"] ∧
    before loadCalls "fmt.Sprintf" "func:{" = true ∧ has loadCalls "c.group.DoChan" = true ∧
    allHeld loadCalls "load" false = true ∧ allHeld loadCalls "c.cache.Set" true = true ∧
    allHeld loadCalls "c.getLocked" true = true ∧ allHeld loadCalls "c.group.DoChan" false = true ∧
    count loadCalls "load" = 1 ∧ count loadCalls "c.cache.Set" = 1 ∧ count loadCalls "c.getLocked" = 2 ∧
    before loadCalls "load" "c.cache.Set" = true ∧
    loadStrs = ["%d:%d:%s:%d"] := by decide +kernel

open Gate.Gen.C32 in
/-- `reset` deletes everything inside ONE critical section; `get` is `getLocked` under the lock;
    `ResetPingCache` resets the ping cache; the cache is built without touch-on-hit (a hit does not extend the TTL) -/
theorem reset_get_shape :
    resetCalls = ["c.mu.Lock", "c.cache.DeleteAll", "c.mu.Unlock"] ∧
    getCalls = ["c.mu.Lock", "defer:c.mu.Unlock", "c.getLocked", "return"] ∧
    has resetPingCacheCalls "pingCache.reset" = true ∧
    has newCacheCalls "ttlcache.WithDisableTouchOnHit[]" = true ∧
    getLockedCalls = ["c.cache.Get", "return", "item.ExpiresAt", "expiresAt.IsZero", "c.now", "c.now().Before",
                      "c.cache.Delete", "return", "item.Value", "return"] := by decide +kernel

open Gate.Gen.C32 in
/-- `tryBackends` is the loop `next … try`; the fallback is consulted after `tryBackends`; the status path reads
    the cache (`get`) before `load`, and `load` is given the route's TTL -/
theorem resolve_shape :
    tryBackendsCalls = ["next", "return", "try", "errs.V", "errs.V().Info", "return"] ∧
    before resolveGenCalls "tryBackends" "handleFallbackResponse" = true ∧
    count resolveGenCalls "handleFallbackResponse" = 1 ∧
    before resolveCalls "pingCache.get" "pingCache.load" = true ∧
    before resolveCalls "route.GetCachePingTTL" "pingCache.load" = true ∧
    has fallbackCalls "route.Fallback.Response" = true := by decide +kernel

end Gate.C32.Props
