import GateModel.C32.Model
/-
C32 — what each enabled step of the ping-cache machine does (`step_get` … `step_finish`), the invariant `Inv` and its
preservation by every label and along every schedule (`exec_preserves`), how a step changes requests, generation
and load log (`step_shape`), and `tryBackends`/`resolve` on the two shapes of a candidate list (all fail / first success).
-/
namespace Gate.C32

/-- loader invocation `lid` exists, was made for key `k`, at a cache generation ≥ `lo` -/
def LoadOK (loads : List LoadInfo) (lid : Nat) (k : Key) (lo : Nat) : Prop :=
  ∃ info, loads[lid]? = some info ∧ info.key = k ∧ lo ≤ info.epoch

theorem LoadOK.mono {loads lid k lo lo'} (h : LoadOK loads lid k lo) (hl : lo' ≤ lo) : LoadOK loads lid k lo' := by
  obtain ⟨i, h1, h2, h3⟩ := h
  exact ⟨i, h1, h2, Nat.le_trans hl h3⟩

theorem LoadOK.append {loads lid k lo} (h : LoadOK loads lid k lo) (ext : List LoadInfo) :
    LoadOK (loads ++ ext) lid k lo := by
  obtain ⟨i, h1, h2, h3⟩ := h
  refine ⟨i, ?_, h2, h3⟩
  rw [List.getElem?_append_left (List.getElem?_eq_some_iff.1 h1).1]; exact h1

theorem LoadOK.new (loads : List LoadInfo) (k : Key) (g ld : Nat) :
    LoadOK (loads ++ [⟨k, g, ld⟩]) loads.length k g :=
  ⟨⟨k, g, ld⟩, by simp, rfl, Nat.le_refl _⟩

/-- what the invariant records of a request, by its program counter -/
def ReqOK (loads : List LoadInfo) (gen : Nat) (q : Req) : Prop :=
  match q.pc with
  | .idle => True
  | .missed => q.startGen ≤ gen
  | .checked g | .waiting g => q.startGen ≤ g ∧ g ≤ gen
  | .answered v => LoadOK loads v.lid q.key q.startGen

namespace ReqOK

theorem mis {loads gen q} (h : ReqOK loads gen q) (hpc : q.pc = .missed) : q.startGen ≤ gen := by
  rwa [ReqOK, hpc] at h

theorem chk {loads gen q g} (h : ReqOK loads gen q) (hpc : q.pc = .checked g ∨ q.pc = .waiting g) :
    q.startGen ≤ g ∧ g ≤ gen := by
  rcases hpc with e | e <;> rwa [ReqOK, e] at h

theorem ans {loads gen q v} (h : ReqOK loads gen q) (hpc : q.pc = .answered v) :
    LoadOK loads v.lid q.key q.startGen := by
  rwa [ReqOK, hpc] at h

theorem mono {loads gen q} (h : ReqOK loads gen q) (ext : List LoadInfo) {gen'} (hg : gen ≤ gen') :
    ReqOK (loads ++ ext) gen' q := by
  unfold ReqOK at h ⊢
  generalize q.pc = pc at h ⊢
  cases pc with
  | idle => trivial
  | missed => exact Nat.le_trans h hg
  | checked g => exact ⟨h.1, Nat.le_trans h.2 hg⟩
  | waiting g => exact ⟨h.1, Nat.le_trans h.2 hg⟩
  | answered v => exact h.append ext

end ReqOK

structure FlightOK (loads : List LoadInfo) (gen : Nat) (f : Flight) : Prop where
  le : f.gen ≤ gen
  loading : ∀ lid, f.pc = .loading lid → LoadOK loads lid f.key f.gen
  done : ∀ v, f.pc = .done v → LoadOK loads v.lid f.key f.gen

structure Inv (s : Sys) : Prop where
  epochs : ∀ info ∈ s.loads, info.epoch ≤ s.gen
  cache : ∀ e ∈ s.cache, LoadOK s.loads e.res.lid e.key s.gen ∧ e.storedAt ≤ s.wall
  flights : ∀ f ∈ s.flights, FlightOK s.loads s.gen f
  reqs : ∀ q ∈ s.reqs, ReqOK s.loads s.gen q
  nodup : s.flights.Pairwise (fun a b => ¬ (a.gen = b.gen ∧ a.key = b.key))

theorem FlightOK.mono {loads gen f} (h : FlightOK loads gen f) (ext : List LoadInfo) {gen'} (hg : gen ≤ gen') :
    FlightOK (loads ++ ext) gen' f :=
  ⟨Nat.le_trans h.le hg, fun l hl => (h.loading l hl).append ext, fun v hv => (h.done v hv).append ext⟩

theorem inv_init (reqs : List (Key × Int × Bool)) : Inv (init reqs) := by
  refine ⟨?_, ?_, ?_, ?_, ?_⟩
  · exact nofun
  · intro e he; simp [init] at he
  · intro f hf; simp [init] at hf
  · intro q hq
    simp only [init, List.mem_map] at hq
    obtain ⟨⟨k, t, f⟩, _, rfl⟩ := hq
    trivial
  · simp [init]

theorem lookup_some {c : List Entry} {k : Key} {e : Entry} (h : lookup c k = some e) : e ∈ c ∧ e.key = k := by
  unfold lookup at h
  exact ⟨List.mem_of_find?_eq_some h, by simpa using List.find?_some h⟩

theorem getLocked_sub (s : Sys) (k : Key) : ∀ e ∈ (getLocked s k).2, e ∈ s.cache := by
  unfold getLocked
  split
  · exact fun _ h => h
  · split
    · exact fun _ h => h
    · split
      · exact fun _ h => h
      · split
        · exact fun e he => (List.mem_filter.1 he).1
        · exact fun _ h => h

theorem getLocked_hit {s : Sys} {k : Key} {v : Res} (h : (getLocked s k).1 = some v) :
    (getLocked s k).2 = s.cache ∧ ∃ e ∈ s.cache, e.key = k ∧ e.res = v ∧ e.live s.wall s.inj = true := by
  unfold getLocked at h ⊢
  split at h
  · cases h
  · rename_i e he
    obtain ⟨hm, hk⟩ := lookup_some he
    split at h
    · rename_i hx
      cases h
      exact ⟨rfl, e, hm, hk, rfl, by simp [Entry.live, hx]⟩
    · rename_i x hx
      split at h
      · cases h
      · split at h
        · cases h
        · rename_i h1 h2
          cases h
          rw [if_neg h1, if_neg h2]
          exact ⟨rfl, e, hm, hk, rfl, by simp [Entry.live, hx, h1, h2]⟩

theorem getLocked_of_live {s : Sys} {k : Key} {e : Entry} (he : lookup s.cache k = some e)
    (hl : e.live s.wall s.inj = true) : getLocked s k = (some e.res, s.cache) := by
  unfold getLocked
  rw [he]
  simp only
  unfold Entry.live at hl
  split
  · rfl
  · rename_i x hx
    rw [hx] at hl
    simp only [Bool.and_eq_true, Bool.not_eq_true', decide_eq_false_iff_not] at hl
    rw [if_neg hl.1, if_neg hl.2]

theorem mem_setFlight {fl : List Flight} {f : Flight} {pc : FPc} {x : Flight} (h : x ∈ setFlight fl f pc) :
    x ∈ fl ∨ (f ∈ fl ∧ x = { f with pc := pc }) := by
  unfold setFlight at h
  obtain ⟨y, hy, rfl⟩ := List.mem_map.1 h
  by_cases hyf : y = f
  · right; rw [if_pos hyf]; exact ⟨hyf ▸ hy, rfl⟩
  · left; rw [if_neg hyf]; exact hy

theorem pairwise_setFlight {fl : List Flight} {f : Flight} {pc : FPc}
    (h : fl.Pairwise (fun a b => ¬ (a.gen = b.gen ∧ a.key = b.key))) :
    (setFlight fl f pc).Pairwise (fun a b => ¬ (a.gen = b.gen ∧ a.key = b.key)) := by
  unfold setFlight
  rw [List.pairwise_map]
  refine h.imp ?_
  intro a b hab
  by_cases ha : a = f <;> by_cases hb : b = f
  · rw [if_pos ha, if_pos hb]; subst ha; subst hb; exact hab
  · rw [if_pos ha, if_neg hb]; subst ha; exact hab
  · rw [if_neg ha, if_pos hb]; subst hb; exact hab
  · rw [if_neg ha, if_neg hb]; exact hab

/-! ### what an enabled step does, label by label -/

/-- the program counter after a cache look-up: answered on a hit, `miss` otherwise -/
def RPc.afterLookup (o : Option Res) (miss : RPc) : RPc :=
  match o with
  | some v => .answered v
  | none => miss

theorem step_get {s s' : Sys} {r : Nat} (h : step s (.get r) = some s') :
    ∃ q, s.reqs[r]? = some q ∧ q.pc = .idle ∧ q.fast = true ∧
      s' = { s with cache := (getLocked s q.key).2,
                    reqs := s.reqs.set r { q with pc := .afterLookup (getLocked s q.key).1 .missed, startGen := s.gen } } := by
  simp only [step] at h
  split at h
  · rename_i q hq
    split at h
    · rename_i hc
      refine ⟨q, hq, hc.1, hc.2, ?_⟩
      split at h <;> rename_i hg <;> cases h <;> rw [hg] <;> rfl
    · cases h
  · cases h

theorem step_check {s s' : Sys} {r : Nat} (h : step s (.check r) = some s') :
    ∃ q, s.reqs[r]? = some q ∧ ((q.pc = .idle ∧ q.fast = false) ∨ q.pc = .missed) ∧
      s' = { s with cache := (getLocked s q.key).2,
                    reqs := s.reqs.set r { q with pc := .afterLookup (getLocked s q.key).1 (.checked s.gen),
                                                  startGen := if q.pc = .idle then s.gen else q.startGen } } := by
  simp only [step] at h
  split at h
  · rename_i q hq
    split at h
    · rename_i hc
      refine ⟨q, hq, hc, ?_⟩
      split at h <;> rename_i hg <;> cases h <;> rw [hg] <;> rfl
    · cases h
  · cases h

theorem step_join {s s' : Sys} {r : Nat} (h : step s (.join r) = some s') :
    ∃ q g, s.reqs[r]? = some q ∧ q.pc = .checked g ∧
      s' = { s with reqs := s.reqs.set r { q with pc := .waiting g },
                    flights := if s.flights.any (fun f => f.gen = g ∧ f.key = q.key) then s.flights
                               else s.flights ++ [⟨r, g, q.key, q.ttl, .created⟩] } := by
  simp only [step] at h
  split at h
  · rename_i q hq
    split at h
    · rename_i g hpc
      refine ⟨q, g, hq, hpc, ?_⟩
      split at h <;> rename_i hany <;> cases h
      · rw [if_pos hany]
      · rw [if_neg hany]
    · cases h
  · cases h

theorem step_recheck {s s' : Sys} {l : Nat} (h : step s (.recheck l) = some s') :
    ∃ f, s.flights.find? (fun f => f.leader = l) = some f ∧ f.pc = .created ∧
      s' = if f.gen = s.gen then
             match (getLocked s f.key).1 with
             | some v => { s with cache := (getLocked s f.key).2, flights := setFlight s.flights f (.done v) }
             | none => startLoader s f (getLocked s f.key).2
           else startLoader s f s.cache := by
  simp only [step] at h
  split at h
  · rename_i f hf
    split at h
    · rename_i hpc
      refine ⟨f, hf, hpc, ?_⟩
      split at h
      · rename_i hgen
        rw [if_pos hgen]
        split at h <;> rename_i hg <;> cases h <;> rw [hg]
      · rename_i hgen
        cases h
        rw [if_neg hgen]
    · cases h
  · cases h

theorem step_store {s s' : Sys} {l : Nat} {ok : Bool} (h : step s (.store l ok) = some s') :
    ∃ f lid, s.flights.find? (fun f => f.leader = l) = some f ∧ f.pc = .loading lid ∧
      s' = { s with cache := if f.gen = s.gen then cacheSet s.cache f.key ⟨lid, ok⟩ f.ttl s.wall else s.cache,
                    flights := setFlight s.flights f (.done ⟨lid, ok⟩) } := by
  simp only [step] at h
  split at h
  · rename_i f hf
    split at h
    · rename_i lid hpc
      cases h
      exact ⟨f, lid, hf, hpc, rfl⟩
    · cases h
  · cases h

theorem step_finish {s s' : Sys} {l : Nat} (h : step s (.finish l) = some s') :
    ∃ f v, s.flights.find? (fun f => f.leader = l) = some f ∧ f.pc = .done v ∧
      s' = { s with flights := s.flights.filter (fun x => x ≠ f),
                    reqs := s.reqs.map (fun q =>
                      if q.pc = .waiting f.gen ∧ q.key = f.key then { q with pc := .answered v } else q) } := by
  simp only [step] at h
  split at h
  · rename_i f hf
    split at h
    · rename_i v hpc
      cases h
      exact ⟨f, v, hf, hpc, rfl⟩
    · cases h
  · cases h

theorem reqs_set {s : Sys} {r : Nat} {q' : Req} {loads gen}
    (hall : ∀ q ∈ s.reqs, ReqOK loads gen q) (hq' : ReqOK loads gen q') :
    ∀ q ∈ s.reqs.set r q', ReqOK loads gen q := by
  intro q hq
  rcases List.mem_or_eq_of_mem_set hq with h | h
  · exact hall q h
  · exact h ▸ hq'

/-- what is served for `k` was fetched for `k` under the current generation -/
theorem Inv.served {s : Sys} (hi : Inv s) {k : Key} {v : Res} (h : (getLocked s k).1 = some v) :
    LoadOK s.loads v.lid k s.gen := by
  obtain ⟨_, e, hem, hek, her, _⟩ := getLocked_hit h
  exact hek ▸ her ▸ (hi.cache e hem).1

/-- `get` and `check`: one cache look-up on behalf of request `r`, which is answered on a hit and moves to `miss`
    otherwise; `sg` is its start generation afterwards -/
theorem inv_lookup {s : Sys} (hi : Inv s) (r : Nat) (q : Req) (miss : RPc) (sg : Nat) (hsg : sg ≤ s.gen)
    (hmiss : ReqOK s.loads s.gen { q with pc := miss, startGen := sg }) :
    Inv { s with cache := (getLocked s q.key).2,
                 reqs := s.reqs.set r { q with pc := .afterLookup (getLocked s q.key).1 miss, startGen := sg } } := by
  refine ⟨hi.epochs, fun e he => hi.cache e (getLocked_sub s q.key e he), hi.flights, reqs_set hi.reqs ?_, hi.nodup⟩
  cases hg : (getLocked s q.key).1 with
  | none => exact hmiss
  | some v => exact (hi.served hg).mono hsg

theorem startLoader_inv {s : Sys} (hi : Inv s) {f : Flight} (hf : f ∈ s.flights) (c : List Entry)
    (hc : ∀ e ∈ c, e ∈ s.cache) : Inv (startLoader s f c) := by
  have hfo := hi.flights f hf
  refine ⟨?_, ?_, ?_, ?_, ?_⟩
  · exact List.forall_mem_append.2 ⟨hi.epochs, List.forall_mem_singleton.2 (Nat.le_refl _)⟩
  · intro e he
    have := hi.cache e (hc e he)
    exact ⟨this.1.append _, this.2⟩
  · intro x hx
    simp only [startLoader] at hx ⊢
    rcases mem_setFlight hx with h1 | ⟨_, h1⟩
    · exact (hi.flights x h1).mono _ (Nat.le_refl _)
    · subst h1
      refine ⟨hfo.le, ?_, ?_⟩
      · intro lid hl
        simp only [FPc.loading.injEq] at hl
        subst hl
        exact (LoadOK.new s.loads f.key s.gen f.leader).mono hfo.le
      · intro v hv; cases hv
  · intro q hq
    exact (hi.reqs q hq).mono _ (Nat.le_refl _)
  · exact pairwise_setFlight hi.nodup

/-- flight `f` finishes with a result that was fetched for its key at a generation ≥ its own -/
theorem inv_setFlight_done {s : Sys} (hi : Inv s) {f : Flight} (hf : f ∈ s.flights) {v : Res}
    (hv : LoadOK s.loads v.lid f.key f.gen) : ∀ x ∈ setFlight s.flights f (.done v), FlightOK s.loads s.gen x := by
  intro x hx
  rcases mem_setFlight hx with h1 | ⟨_, h1⟩
  · exact hi.flights x h1
  · subst h1
    refine ⟨(hi.flights f hf).le, fun lid hl => (by cases hl), fun v' hv' => ?_⟩
    cases hv'; exact hv

theorem step_inv {s s' : Sys} {l : Label} (hi : Inv s) (h : step s l = some s') : Inv s' := by
  cases l with
  | get r =>
    obtain ⟨q, _, _, _, rfl⟩ := step_get h
    exact inv_lookup hi r q .missed s.gen (Nat.le_refl _) (Nat.le_refl _)
  | check r =>
    obtain ⟨q, hq, hc, rfl⟩ := step_check h
    have hsg : (if q.pc = .idle then s.gen else q.startGen) ≤ s.gen := by
      split
      · exact Nat.le_refl _
      · rename_i hne
        rcases hc with ⟨h, _⟩ | h
        · exact absurd h hne
        · exact (hi.reqs q (List.mem_of_getElem? hq)).mis h
    exact inv_lookup hi r q (.checked s.gen) _ hsg ⟨hsg, Nat.le_refl _⟩
  | join r =>
    obtain ⟨q, g, hq, hpc, rfl⟩ := step_join h
    have hg := (hi.reqs q (List.mem_of_getElem? hq)).chk (Or.inl hpc)
    have hq' : ReqOK s.loads s.gen { q with pc := .waiting g } := hg
    split
    · exact ⟨hi.epochs, hi.cache, hi.flights, reqs_set hi.reqs hq', hi.nodup⟩
    · rename_i hany
      refine ⟨hi.epochs, hi.cache, ?_, reqs_set hi.reqs hq', ?_⟩
      · exact List.forall_mem_append.2 ⟨hi.flights, List.forall_mem_singleton.2
          ⟨hg.2, fun l hl => (by cases hl), fun v hv => (by cases hv)⟩⟩
      · rw [List.pairwise_append]
        refine ⟨hi.nodup, List.pairwise_singleton _ _, fun a ha b hb hab => hany ?_⟩
        cases List.mem_singleton.1 hb
        exact List.any_eq_true.2 ⟨a, ha, decide_eq_true hab⟩
  | recheck l =>
    obtain ⟨f, hf, _, rfl⟩ := step_recheck h
    have hfm := List.mem_of_find?_eq_some hf
    split
    · rename_i hgen
      split
      · rename_i v hg
        exact ⟨hi.epochs, (getLocked_hit hg).1 ▸ hi.cache, inv_setFlight_done hi hfm (hgen ▸ hi.served hg), hi.reqs,
          pairwise_setFlight hi.nodup⟩
      · exact startLoader_inv hi hfm _ (getLocked_sub s f.key)
    · exact startLoader_inv hi hfm s.cache (fun _ h => h)
  | store l ok =>
    obtain ⟨f, lid, hf, hpc, rfl⟩ := step_store h
    have hfm := List.mem_of_find?_eq_some hf
    have hld := (hi.flights f hfm).loading lid hpc
    refine ⟨hi.epochs, ?_, inv_setFlight_done hi hfm hld, hi.reqs, pairwise_setFlight hi.nodup⟩
    split
    · rename_i hgen
      exact List.forall_mem_cons.2 ⟨⟨hgen ▸ hld, Nat.le_refl _⟩, fun e he => hi.cache e (List.mem_filter.1 he).1⟩
    · exact hi.cache
  | finish l =>
    obtain ⟨f, v, hf, hpc, rfl⟩ := step_finish h
    have hld := (hi.flights f (List.mem_of_find?_eq_some hf)).done v hpc
    refine ⟨hi.epochs, hi.cache, fun x hx => hi.flights x (List.mem_filter.1 hx).1, ?_, hi.nodup.filter _⟩
    intro q hq
    obtain ⟨q0, hq0, rfl⟩ := List.mem_map.1 hq
    have hok := hi.reqs q0 hq0
    split
    · rename_i hw
      exact (hw.2 ▸ hld.mono (hok.chk (Or.inr hw.1)).1 : LoadOK s.loads v.lid q0.key q0.startGen)
    · exact hok
  | reset =>
    cases h
    refine ⟨fun info h => Nat.le_succ_of_le (hi.epochs info h), ?_, ?_, ?_, hi.nodup⟩
    · intro e he; cases he
    · exact fun f hf => List.append_nil s.loads ▸ (hi.flights f hf).mono [] (Nat.le_succ s.gen)
    · exact fun q hq => List.append_nil s.loads ▸ (hi.reqs q hq).mono [] (Nat.le_succ s.gen)
  | tick dw di =>
    cases h
    exact ⟨hi.epochs, fun e he => ⟨(hi.cache e he).1, Nat.le_trans (hi.cache e he).2 (Nat.le_add_right _ _)⟩,
      hi.flights, hi.reqs, hi.nodup⟩

theorem exec_preserves {P : Sys → Prop} (hstep : ∀ {s s' l}, P s → step s l = some s' → P s')
    {s s' : Sys} {run : List Label} (hp : P s) (h : exec s run = some s') : P s' := by
  induction run generalizing s with
  | nil => cases h; exact hp
  | cons l ls ih =>
    obtain ⟨s1, hs, h'⟩ := Option.bind_eq_some_iff.1 h
    exact ih (hstep hp hs) h'

theorem exec_inv {s s' : Sys} {run : List Label} (hi : Inv s) (h : exec s run = some s') : Inv s' :=
  exec_preserves step_inv hi h

theorem exec_append {s : Sys} {a b : List Label} : exec s (a ++ b) = (exec s a).bind (fun s' => exec s' b) := by
  induction a generalizing s with
  | nil => simp [exec]
  | cons l ls ih =>
    simp only [List.cons_append, exec]
    cases step s l with
    | none => rfl
    | some s1 => simpa using ih

/-! ### how a step changes the request list, the generation and the load log -/

/-- what a step does to one request: nothing, or it moves it off `idle`, keeping its key and, unless it was idle,
    its start generation -/
def ReqMove (gen : Nat) (o o' : Option Req) : Prop :=
  o' = o ∨ ∃ q q', o = some q ∧ o' = some q' ∧ q'.key = q.key ∧ q'.pc ≠ .idle ∧
    q'.startGen = if q.pc = .idle then gen else q.startGen

theorem reqMove_set {reqs : List Req} {gen r0 : Nat} {q q' : Req} (hq : reqs[r0]? = some q) (hkey : q'.key = q.key)
    (hpc : q'.pc ≠ .idle) (hstart : q'.startGen = if q.pc = .idle then gen else q.startGen) (r : Nat) :
    ReqMove gen reqs[r]? (reqs.set r0 q')[r]? := by
  by_cases hr : r0 = r
  · subst hr
    exact .inr ⟨q, q', hq, List.getElem?_set_self (List.getElem?_eq_some_iff.1 hq).1, hkey, hpc, hstart⟩
  · exact .inl (List.getElem?_set_ne hr)

theorem reqMove_deliver (reqs : List Req) (gen g : Nat) (k : Key) (v : Res) (r : Nat) :
    ReqMove gen reqs[r]?
      (reqs.map fun q => if q.pc = .waiting g ∧ q.key = k then { q with pc := .answered v } else q)[r]? := by
  rw [List.getElem?_map]
  cases reqs[r]? with
  | none => exact .inl rfl
  | some q =>
    by_cases hw : q.pc = .waiting g ∧ q.key = k
    · refine .inr ⟨q, { q with pc := .answered v }, rfl, by rw [Option.map_some, if_pos hw], rfl, nofun, ?_⟩
      rw [if_neg (by rw [hw.1]; nofun)]
    · exact .inl (by rw [Option.map_some, if_neg hw])

theorem afterLookup_ne_idle (o : Option Res) {miss : RPc} (h : miss ≠ .idle) : RPc.afterLookup o miss ≠ .idle := by
  cases o with
  | none => exact h
  | some v => exact nofun

/-- requests move as `ReqMove` says; only a reset advances the generation; only a flight's re-check calls a loader,
    and only when the flight is of an older generation or the cache holds no live entry for its key -/
theorem step_shape {s s' : Sys} {l : Label} (h : step s l = some s') :
    (∀ r : Nat, ReqMove s.gen s.reqs[r]? s'.reqs[r]?) ∧ s'.gen = s.gen + (if l = .reset then 1 else 0) ∧
    (s'.loads = s.loads ∨
      ∃ ld f, l = .recheck ld ∧ s.flights.find? (fun f => f.leader = ld) = some f ∧ f.pc = .created ∧
        s'.loads = s.loads ++ [⟨f.key, s.gen, f.leader⟩] ∧ (f.gen ≠ s.gen ∨ (getLocked s f.key).1 = none)) := by
  have same : ∀ r : Nat, ReqMove s.gen s.reqs[r]? s.reqs[r]? := fun _ => .inl rfl
  cases l with
  | get r =>
    obtain ⟨q, hq, hpc, _, rfl⟩ := step_get h
    exact ⟨reqMove_set hq rfl (afterLookup_ne_idle _ nofun) (if_pos hpc).symm, rfl, .inl rfl⟩
  | check r =>
    obtain ⟨q, hq, _, rfl⟩ := step_check h
    exact ⟨reqMove_set hq rfl (afterLookup_ne_idle _ nofun) rfl, rfl, .inl rfl⟩
  | join r =>
    obtain ⟨q, g, hq, hpc, rfl⟩ := step_join h
    exact ⟨reqMove_set hq rfl nofun (by rw [hpc]; rfl), rfl, .inl rfl⟩
  | recheck ld =>
    obtain ⟨f, hf, hpc, rfl⟩ := step_recheck h
    split
    · split
      · exact ⟨same, rfl, .inl rfl⟩
      · rename_i hg
        exact ⟨same, rfl, .inr ⟨ld, f, rfl, hf, hpc, rfl, .inr hg⟩⟩
    · rename_i hgen
      exact ⟨same, rfl, .inr ⟨ld, f, rfl, hf, hpc, rfl, .inl hgen⟩⟩
  | store ld ok =>
    obtain ⟨f, lid, _, _, rfl⟩ := step_store h
    exact ⟨same, rfl, .inl rfl⟩
  | finish ld =>
    obtain ⟨f, v, _, _, rfl⟩ := step_finish h
    exact ⟨reqMove_deliver _ _ _ _ _, rfl, .inl rfl⟩
  | reset => cases h; exact ⟨same, rfl, .inl rfl⟩
  | tick dw di => cases h; exact ⟨same, rfl, .inl rfl⟩

theorem exec_mono {s s' : Sys} {run : List Label} (h : exec s run = some s') :
    s.gen ≤ s'.gen ∧ ∃ ext, s'.loads = s.loads ++ ext := by
  refine exec_preserves (P := fun t => s.gen ≤ t.gen ∧ ∃ ext, t.loads = s.loads ++ ext) ?_
    ⟨Nat.le_refl _, [], (List.append_nil _).symm⟩ h
  intro t t' l ⟨h1, e1, he1⟩ hs
  obtain ⟨_, h2, h3⟩ := step_shape hs
  refine ⟨h2 ▸ Nat.le_add_right_of_le h1, ?_⟩
  rcases h3 with e | ⟨_, _, _, _, _, e, _⟩
  · exact ⟨e1, e ▸ he1⟩
  · exact ⟨e1 ++ _, by rw [e, he1, List.append_assoc]⟩

/-- request `r` either has not started or started at a cache generation ≥ `G` -/
def Late (G r : Nat) (s : Sys) : Prop :=
  G ≤ s.gen ∧ ∀ q, s.reqs[r]? = some q → q.pc = .idle ∨ G ≤ q.startGen

theorem step_late {G r : Nat} {s s' : Sys} {l : Label} (hl : Late G r s) (h : step s l = some s') : Late G r s' := by
  obtain ⟨hr, hg, _⟩ := step_shape h
  refine ⟨hg ▸ Nat.le_add_right_of_le hl.1, fun q' hq' => ?_⟩
  rcases hr r with e | ⟨q, q1, hq, hq1, _, _, hstart⟩
  · exact hl.2 q' (e ▸ hq')
  · cases hq1.symm.trans hq'
    right
    rw [hstart]
    split
    · exact hl.1
    · rename_i hne
      exact (hl.2 q hq).resolve_left hne

theorem exec_late {G r : Nat} {s s' : Sys} {run : List Label} (hl : Late G r s) (h : exec s run = some s') :
    Late G r s' :=
  exec_preserves step_late hl h

theorem step_key {s s' : Sys} {l : Label} (h : step s l = some s') (r : Nat) :
    (s'.reqs[r]?).map (·.key) = (s.reqs[r]?).map (·.key) := by
  rcases (step_shape h).1 r with e | ⟨q, q', hq, hq', hkey, _⟩
  · rw [e]
  · rw [hq, hq']; exact congrArg some hkey

theorem exec_key {s s' : Sys} {run : List Label} (h : exec s run = some s') (r : Nat) :
    (s'.reqs[r]?).map (·.key) = (s.reqs[r]?).map (·.key) :=
  exec_preserves (P := fun t => (t.reqs[r]?).map (·.key) = (s.reqs[r]?).map (·.key))
    (fun ht hs => (step_key hs r).trans ht) rfl h

theorem flights_unique {fl : List Flight} (h : fl.Pairwise (fun a b => ¬ (a.gen = b.gen ∧ a.key = b.key)))
    {f1 f2 : Flight} (h1 : f1 ∈ fl) (h2 : f2 ∈ fl) (hg : f1.gen = f2.gen) (hk : f1.key = f2.key) : f1 = f2 := by
  induction fl with
  | nil => cases h1
  | cons a t ih =>
    rw [List.pairwise_cons] at h
    rcases List.mem_cons.1 h1 with e1 | m1 <;> rcases List.mem_cons.1 h2 with e2 | m2
    · rw [e1, e2]
    · subst e1; exact absurd ⟨hg, hk⟩ (h.1 f2 m2)
    · subst e2; exact absurd ⟨hg.symm, hk.symm⟩ (h.1 f1 m1)
    · exact ih h.2 m1 m2

theorem tryBackends_all_none {α β : Type} {f : α → Option β} {l : List α} (h : ∀ x ∈ l, f x = none) :
    tryBackends f l = (none, l.length) := by
  induction l with
  | nil => rfl
  | cons p ps ih =>
    rw [tryBackends, h p List.mem_cons_self, ih fun x hx => h x (List.mem_cons_of_mem _ hx)]; rfl

theorem tryBackends_first {α β : Type} {f : α → Option β} {pre : List α} {a : α} {b : β} (post : List α)
    (hpre : ∀ x ∈ pre, f x = none) (hfa : f a = some b) :
    tryBackends f (pre ++ a :: post) = (some (a, b), pre.length + 1) := by
  induction pre with
  | nil => rw [List.nil_append, tryBackends, hfa]; rfl
  | cons p ps ih =>
    rw [List.cons_append, tryBackends, hpre p List.mem_cons_self, ih fun x hx => hpre x (List.mem_cons_of_mem _ hx)]; rfl

theorem first_success_or_none {α β : Type} (f : α → Option β) (l : List α) :
    (∀ x ∈ l, f x = none) ∨ ∃ pre a b post, l = pre ++ a :: post ∧ (∀ x ∈ pre, f x = none) ∧ f a = some b := by
  induction l with
  | nil => exact Or.inl fun _ h => nomatch h
  | cons x t ih =>
    cases hx : f x with
    | some b => exact Or.inr ⟨[], x, b, t, rfl, fun _ h => (nomatch h), hx⟩
    | none =>
      rcases ih with h | ⟨pre, a, b, post, rfl, hpre, hfa⟩
      · exact Or.inl (List.forall_mem_cons.2 ⟨hx, h⟩)
      · exact Or.inr ⟨x :: pre, a, b, post, rfl, List.forall_mem_cons.2 ⟨hx, hpre⟩, hfa⟩

theorem resolve_all_none {α σ : Type} {status : α → Option σ} {cands : List α} (fb : Option σ)
    (h : ∀ a ∈ cands, status a = none) :
    resolve status cands fb = match fb with | some f => .fallback f | none => .error := by
  unfold resolve; rw [tryBackends_all_none h]; rfl

theorem resolve_first {α σ : Type} {status : α → Option σ} {pre : List α} {a : α} {st : σ} (post : List α)
    (fb : Option σ) (hpre : ∀ x ∈ pre, status x = none) (hfa : status a = some st) :
    resolve status (pre ++ a :: post) fb = .backend st := by
  unfold resolve; rw [tryBackends_first post hpre hfa]

/-! ### classified attempts: the walk ignores the class of a failure -/

theorem Attempt.toOption_eq_none {β : Type} {a : Attempt β} : a.toOption = none ↔ ∃ c, a = .fail c := by
  cases a with
  | ok b => exact ⟨nofun, nofun⟩
  | fail c => exact ⟨fun _ => ⟨c, rfl⟩, fun _ => rfl⟩

theorem tryBackendsE_neverStop {α β : Type} (f : α → Attempt β) (l : List α) :
    tryBackendsE neverStop f l = tryBackends (fun a => (f a).toOption) l := by
  induction l with
  | nil => rfl
  | cons a t ih =>
    simp only [tryBackendsE, tryBackends]
    cases f a with
    | ok b => simp [Attempt.toOption]
    | fail c => simp [Attempt.toOption, neverStop, ih]

end Gate.C32
