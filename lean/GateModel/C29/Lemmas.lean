import GateModel.C29.Model
import GateModel.C29.Spec
/-
C29 helper lemmas, in this order: a two-character `ReplaceAll` pass; the regex text the two passes build and its
parser; the lazy matcher against glob semantics; first-match search; `ClearVirtualHost`; numerals and the
single-pass parameter substitution.
-/
namespace Gate.C29
open Gate

section scan
variable {α : Type} [DecidableEq α]

theorem scanReplace_skip (ps : List (List α × List α)) (a r : List α) :
    scanReplace ps a.length (a ++ r) = scanReplace ps 0 r := by
  induction a with
  | nil => rfl
  | cons x a ih => exact ih

/-- two-character needle, no match at the current position -/
theorem replace2_no (a b : α) (rep : List α) (c : α) (t : List α)
    (h : ¬ (c = a ∧ t.head? = some b)) :
    replaceAll [a, b] rep (c :: t) = c :: replaceAll [a, b] rep t := by
  have hp : List.isPrefixOf [a, b] (c :: t) = false := by
    rw [Bool.eq_false_iff, ne_eq, List.isPrefixOf_iff_prefix]
    intro hp
    cases t with
    | nil => cases hp with | intro r hr => cases hr
    | cons d t =>
      rw [List.cons_prefix_cons, List.cons_prefix_cons] at hp
      exact h ⟨hp.1.symm, congrArg some hp.2.1.symm⟩
  simp only [replaceAll, scanReplace, List.find?, hp]

/-- two-character needle, match at the current position -/
theorem replace2_yes (a b : α) (rep : List α) (t : List α) :
    replaceAll [a, b] rep (a :: b :: t) = rep ++ replaceAll [a, b] rep t := by
  simp [replaceAll, scanReplace, List.isPrefixOf]

theorem replace2_nil (a b : α) (rep : List α) : replaceAll [a, b] rep [] = [] := rfl

/-- a stretch of text without the needle's first character is copied -/
theorem replace2_copy (a b : α) (rep x t : List α) (h : ∀ c ∈ x, c ≠ a) :
    replaceAll [a, b] rep (x ++ t) = x ++ replaceAll [a, b] rep t := by
  induction x with
  | nil => rfl
  | cons c x ih =>
    rw [List.cons_append, replace2_no _ _ _ _ _ (fun hc => h c List.mem_cons_self hc.1),
      ih (fun d hd => h d (List.mem_cons_of_mem _ hd))]
    rfl

/-- an escaped character other than the needle's second one is copied with its escape, provided the text does
    not go on with the needle's second character (that matters only when the escaped character is itself the
    escape) -/
theorem replace2_esc (a b : α) (rep : List α) (c : α) (t : List α) (hc : c ≠ b)
    (ht : t.head? ≠ some b) :
    replaceAll [a, b] rep (a :: c :: t) = a :: c :: replaceAll [a, b] rep t := by
  rw [replace2_no _ _ _ _ _ (fun h => by cases h.2; exact hc rfl), replace2_no _ _ _ _ _ (fun h => ht h.2)]

end scan

def renderElem : Elem → Str
  | .lit c => if isMeta c then ['\\', c] else [c]
  | .any => ['(', '.', ')']
  | .star => ['(', '.', '*', '?', ')']

/-- canonical text of an element sequence -/
def render (es : List Elem) : Str := es.flatMap renderElem

/-- the text after the first `ReplaceAll` (`?` done, `*` still escaped) -/
def render1 : Str → Str
  | [] => []
  | c :: t => (if c = '?' then ['(', '.', ')'] else if isMeta c then ['\\', c] else [c]) ++ render1 t

theorem notMeta_ne {c d : Char} (h : ¬ isMeta c = true) (hd : isMeta d = true) : c ≠ d :=
  fun e => h (e ▸ hd)

theorem quoteMeta_head (t : Str) (x : Char) (hx : isMeta x = true) (hx' : x ≠ '\\') :
    (quoteMeta t).head? ≠ some x := by
  cases t with
  | nil => exact nofun
  | cons c t =>
    rw [quoteMeta]
    split
    · exact fun e => hx' (Option.some.inj e).symm
    · next hc => exact fun e => notMeta_ne hc hx (Option.some.inj e)

theorem replaceAll_question (p : Str) : replaceAll ['\\', '?'] ['(', '.', ')'] (quoteMeta p) = render1 p := by
  induction p with
  | nil => rfl
  | cons c t ih =>
    rw [quoteMeta, render1]
    by_cases hq : c = '?'
    · rw [hq, if_pos (by decide +kernel), if_pos rfl, replace2_yes, ih]
    · rw [if_neg hq]
      split
      · rw [replace2_esc _ _ _ _ _ hq (quoteMeta_head t '?' (by decide +kernel) (by decide +kernel)), ih]; rfl
      · next hc => rw [replace2_no _ _ _ _ _ (fun h => notMeta_ne hc (by decide +kernel) h.1), ih]; rfl

theorem render1_head (t : Str) : (render1 t ++ ['$']).head? ≠ some '*' := by
  cases t with
  | nil => decide +kernel
  | cons c t =>
    rw [render1]
    split
    · exact fun e => absurd (Option.some.inj e) (by decide +kernel)
    · split
      · exact fun e => absurd (Option.some.inj e) (by decide +kernel)
      · next hc => exact fun e => notMeta_ne hc (by decide +kernel) (Option.some.inj e)

theorem replaceAll_star (p : Str) :
    replaceAll ['\\', '*'] ['(', '.', '*', '?', ')'] (render1 p ++ ['$']) = render (elems p) ++ ['$'] := by
  induction p with
  | nil => rfl
  | cons c t ih =>
    rw [render1, elems, render, List.flatMap_cons, ← render, List.append_assoc, List.append_assoc]
    by_cases hq : c = '?'
    · rw [if_pos hq, if_pos hq, replace2_copy _ _ _ _ _ (by decide +kernel), ih]; rfl
    · rw [if_neg hq, if_neg hq]
      by_cases hs : c = '*'
      · rw [hs, if_pos (by decide +kernel), if_pos rfl]
        exact (replace2_yes _ _ _ _).trans (congrArg _ ih)
      · rw [if_neg hs, renderElem]
        split
        · rw [← ih]; exact replace2_esc _ _ _ _ _ hs (render1_head t)
        · next hc => rw [← ih]; exact replace2_no _ _ _ _ _ (fun h => notMeta_ne hc (by decide +kernel) h.1)

def rxPrefix (dotAll : Bool) : Str := if dotAll then ['(', '?', 's', ')', '^'] else ['^']

/-- the text built by the two `ReplaceAll` calls is the canonical text of the glob's elements -/
theorem globToRegex_eq (d : Bool) (p : Str) :
    globToRegex d p = rxPrefix d ++ render (elems p) ++ ['$'] := by
  have es : "\\?".toList = ['\\', '?'] ∧ "(.)".toList = ['(', '.', ')'] ∧ "\\*".toList = ['\\', '*'] ∧
      "(.*?)".toList = ['(', '.', '*', '?', ')'] ∧ "$".toList = ['$'] ∧ "(?s)^".toList = ['(', '?', 's', ')', '^'] ∧
      "^".toList = ['^'] := by decide +kernel
  obtain ⟨e1, e2, e3, e4, e5, e6, e7⟩ := es
  rw [globToRegex, e1, e2, e3, e4, e5, e6, e7, replaceAll_question, List.append_assoc]
  show replaceAll _ _ (rxPrefix d ++ _) = _
  rw [replace2_copy _ _ _ _ _ (by cases d <;> decide +kernel), replaceAll_star, List.append_assoc]

/-- the parser reads the canonical text back as the element sequence -/
theorem parseBody_render (es : List Elem) : parseBody (render es ++ ['$']) = some es := by
  induction es with
  | nil => rfl
  | cons e es ih =>
    have hcons : render (e :: es) ++ ['$'] = renderElem e ++ (render es ++ ['$']) := by
      rw [render, List.flatMap_cons, List.append_assoc]; rfl
    rw [hcons]
    cases e with
    | lit c =>
      by_cases hm : isMeta c = true
      · rw [renderElem, if_pos hm]
        show parseBody ('\\' :: c :: (render es ++ ['$'])) = _
        rw [parseBody, if_neg (by decide +kernel), if_pos rfl]
        simp only [hm, if_true, ih, Option.map_some]
      · have hm' : isMeta c = false := Bool.not_eq_true _ ▸ hm
        rw [renderElem, if_neg hm]
        show parseBody (c :: (render es ++ ['$'])) = _
        unfold parseBody
        simp only [notMeta_ne hm (show isMeta '$' = true by decide +kernel),
          notMeta_ne hm (show isMeta '\\' = true by decide +kernel),
          notMeta_ne hm (show isMeta '(' = true by decide +kernel), if_false, hm', Bool.false_eq_true, ih,
          Option.map_some]
    | any =>
      show parseBody ('(' :: '.' :: ')' :: (render es ++ ['$'])) = _
      rw [parseBody, if_neg (by decide +kernel), if_neg (by decide +kernel), if_pos rfl]
      simp only [ih, Option.map_some]
    | star =>
      show parseBody ('(' :: '.' :: '*' :: '?' :: ')' :: (render es ++ ['$'])) = _
      rw [parseBody, if_neg (by decide +kernel), if_neg (by decide +kernel), if_pos rfl]
      simp only [ih, Option.map_some]

/-- a successful lazy star took a text `g` of characters `.` accepts, the continuation succeeded on the rest,
    and it fails after every shorter text: `g` is the shortest text after which it succeeds -/
theorem starLoop_some (ok : Char → Bool) (k : Str → Option Groups) (s : Str) (gs : Groups)
    (h : starLoop ok k s = some gs) :
    ∃ g rest tail, s = g ++ rest ∧ gs = g :: tail ∧ k rest = some tail ∧ (∀ c ∈ g, ok c = true) ∧
      ∀ g' rest', s = g' ++ rest' → (k rest').isSome → g.length ≤ g'.length := by
  fun_induction starLoop ok k s generalizing gs with
  | case1 =>
    obtain ⟨tail, hk, rfl⟩ := Option.map_eq_some_iff.mp h
    exact ⟨[], [], tail, rfl, rfl, hk, nofun, fun _ _ _ _ => Nat.zero_le _⟩
  | case2 c t gs' hk =>
    exact ⟨[], c :: t, gs', rfl, (Option.some.inj h).symm, hk, nofun, fun _ _ _ _ => Nat.zero_le _⟩
  | case3 c t hk hc ih =>
    obtain ⟨gs0, h0, rfl⟩ := Option.map_eq_some_iff.mp h
    obtain ⟨g, rest, tail, rfl, rfl, hk', hok, hmin⟩ := ih gs0 h0
    refine ⟨c :: g, rest, tail, rfl, rfl, hk', List.forall_mem_cons.mpr ⟨hc, hok⟩, fun g' rest' hs hr => ?_⟩
    cases g' with
    | nil => rw [← List.nil_append rest', ← hs, hk] at hr; cases hr
    | cons c' g1 => exact Nat.succ_le_succ (hmin g1 rest' (List.cons.inj hs).2 hr)
  | case4 => cases h

theorem starLoop_of_isSome (ok : Char → Bool) (k : Str → Option Groups) (s : Str) (h : (k s).isSome) :
    (starLoop ok k s).isSome := by
  cases s with
  | nil => rw [starLoop, Option.isSome_map]; exact h
  | cons c t =>
    rw [starLoop]
    cases hk : k (c :: t) with
    | none => rw [hk] at h; cases h
    | some v => rfl

theorem starLoop_complete (ok : Char → Bool) (k : Str → Option Groups) (g rest : Str)
    (hk : (k rest).isSome) (hok : ∀ c ∈ g, ok c = true) : (starLoop ok k (g ++ rest)).isSome := by
  induction g with
  | nil => exact starLoop_of_isSome ok k rest hk
  | cons c g ih =>
    rw [List.cons_append, starLoop]
    cases k (c :: (g ++ rest)) with
    | some v => rfl
    | none =>
      simp only [hok c List.mem_cons_self, if_true, Option.isSome_map]
      exact ih fun x hx => hok x (List.mem_cons_of_mem _ hx)

def okAll : Char → Bool := fun _ => true

theorem rxMatch_sound (ok : Char → Bool) (es : List Elem) (s : Str) (gs : Groups)
    (h : rxMatch ok es s = some gs) : inst es gs = some s := by
  induction es generalizing s gs with
  | nil =>
    cases s with
    | nil => cases h; rfl
    | cons c t => cases h
  | cons e es ih =>
    cases e with
    | lit c =>
      cases s with
      | nil => cases h
      | cons x t =>
        rw [rxMatch] at h
        split at h
        · next hx => simp [inst, ih t gs h, hx]
        · cases h
    | any =>
      cases s with
      | nil => cases h
      | cons x t =>
        rw [rxMatch] at h
        split at h
        · obtain ⟨gs', h', rfl⟩ := Option.map_eq_some_iff.mp h
          simp [inst, ih t gs' h']
        · cases h
    | star =>
      simp only [rxMatch] at h
      obtain ⟨g, rest, tail, rfl, rfl, hk, _, _⟩ := starLoop_some ok _ s gs h
      simp [inst, ih rest tail hk]

theorem inst_lit {c : Char} {p : List Elem} {gs : Groups} {s : Str} (h : inst (.lit c :: p) gs = some s) :
    ∃ t, s = c :: t ∧ inst p gs = some t := by
  cases gs <;> simp only [inst, Option.map_eq_some_iff] at h <;> obtain ⟨t, h1, rfl⟩ := h <;> exact ⟨t, rfl, h1⟩

theorem inst_any {p : List Elem} {gs : Groups} {s : Str} (h : inst (.any :: p) gs = some s) :
    ∃ x t gs', gs = [x] :: gs' ∧ s = x :: t ∧ inst p gs' = some t := by
  match gs, h with
  | [x] :: gs', h =>
    simp only [inst, Option.map_eq_some_iff] at h
    obtain ⟨t, h1, rfl⟩ := h
    exact ⟨x, t, gs', rfl, rfl, h1⟩
  | [] :: _, h => cases h
  | (_ :: _ :: _) :: _, h => cases h
  | [], h => cases h

theorem inst_star {p : List Elem} {gs : Groups} {s : Str} (h : inst (.star :: p) gs = some s) :
    ∃ g t gs', gs = g :: gs' ∧ s = g ++ t ∧ inst p gs' = some t := by
  cases gs with
  | nil => cases h
  | cons g gs' =>
    simp only [inst, Option.map_eq_some_iff] at h
    obtain ⟨t, h1, rfl⟩ := h
    exact ⟨g, t, gs', rfl, rfl, h1⟩

theorem rxMatch_complete (es : List Elem) (s : Str) (gs : Groups)
    (h : inst es gs = some s) : (rxMatch okAll es s).isSome := by
  induction es generalizing s gs with
  | nil =>
    cases gs with
    | nil => cases h; rfl
    | cons g gs => cases h
  | cons e es ih =>
    cases e with
    | lit c =>
      obtain ⟨t, rfl, h1⟩ := inst_lit h
      simp [rxMatch, ih t gs h1]
    | any =>
      obtain ⟨x, t, gs', rfl, rfl, h1⟩ := inst_any h
      simp [rxMatch, okAll, ih t gs' h1]
    | star =>
      obtain ⟨g, t, gs', rfl, rfl, h1⟩ := inst_star h
      simp only [rxMatch]
      exact starLoop_complete okAll _ g t (ih t gs' h1) (by simp [okAll])

theorem starLens_lit (c : Char) (p : List Elem) (gs : Groups) : starLens (.lit c :: p) gs = starLens p gs := by
  cases gs <;> rfl

theorem rxMatch_minimal (es : List Elem) (s : Str) (gs gs' : Groups)
    (h : rxMatch okAll es s = some gs) (h' : inst es gs' = some s) :
    lexLe (starLens es gs) (starLens es gs') := by
  induction es generalizing s gs gs' with
  | nil => exact True.intro
  | cons e es ih =>
    cases e with
    | lit c =>
      obtain ⟨t, rfl, h1⟩ := inst_lit h'
      simp only [rxMatch, if_true] at h
      rw [starLens_lit, starLens_lit]
      exact ih t gs gs' h h1
    | any =>
      obtain ⟨x, t, gs1', rfl, rfl, h1⟩ := inst_any h'
      simp only [rxMatch, okAll, if_true, Option.map_eq_some_iff] at h
      obtain ⟨gs1, hm, rfl⟩ := h
      exact ih t gs1 gs1' hm h1
    | star =>
      obtain ⟨g', t', gs1', rfl, rfl, h1⟩ := inst_star h'
      simp only [rxMatch] at h
      obtain ⟨g, rest, tail, hs, rfl, hk, _, hmin⟩ := starLoop_some okAll _ _ gs h
      -- the lazy star took the shortest text after which the rest matches; a rival of equal length splits alike
      have hle := hmin g' t' rfl (rxMatch_complete es t' gs1' h1)
      by_cases hlt : g.length < g'.length
      · exact Or.inl hlt
      · have heq : g.length = g'.length := by omega
        obtain ⟨rfl, rfl⟩ := List.append_inj hs.symm heq
        exact Or.inr ⟨heq, ih rest tail gs1' hk h1⟩

theorem starLoop_congr (ok1 ok2 : Char → Bool) (k1 k2 : Str → Option Groups) (s : Str)
    (hok : ∀ c ∈ s, ok1 c = ok2 c) (hk : ∀ t, (∀ c ∈ t, c ∈ s) → k1 t = k2 t) :
    starLoop ok1 k1 s = starLoop ok2 k2 s := by
  induction s with
  | nil => simp [starLoop, hk [] (by simp)]
  | cons c t ih =>
    unfold starLoop
    rw [hk (c :: t) (fun _ h => h), hok c (by simp)]
    rw [ih (fun x hx => hok x (by simp [hx])) (fun u hu => hk u (fun x hx => by simp [hu x hx]))]

/-- the two variants agree on texts in which `.` behaves the same -/
theorem rxMatch_congr (ok1 ok2 : Char → Bool) (es : List Elem) (s : Str)
    (hok : ∀ c ∈ s, ok1 c = ok2 c) : rxMatch ok1 es s = rxMatch ok2 es s := by
  induction es generalizing s with
  | nil => rfl
  | cons e es ih =>
    cases e with
    | lit c =>
      cases s with
      | nil => rfl
      | cons x t => simp only [rxMatch]; rw [ih t (fun y hy => hok y (by simp [hy]))]
    | any =>
      cases s with
      | nil => rfl
      | cons x t =>
        simp only [rxMatch]
        rw [ih t (fun y hy => hok y (by simp [hy])), hok x (by simp)]
    | star =>
      simp only [rxMatch]
      exact starLoop_congr ok1 ok2 _ _ s hok (fun t ht => ih t (fun c hc => hok c (ht c hc)))

theorem starAccepts_eq (k : Str → Bool) (k' : Str → Option Groups) (hk : ∀ s, k s = (k' s).isSome) (s : Str) :
    starAccepts k s = (starLoop okAll k' s).isSome := by
  induction s with
  | nil => simp [starAccepts, starLoop, hk]
  | cons c t ih =>
    simp only [starAccepts, starLoop, hk, ih]
    cases k' (c :: t) <;> simp [okAll]

theorem globAccepts_eq (es : List Elem) (s : Str) : globAccepts es s = (rxMatch okAll es s).isSome := by
  induction es generalizing s with
  | nil => cases s <;> rfl
  | cons e es ih =>
    cases e with
    | lit c =>
      cases s with
      | nil => rfl
      | cons x t =>
        simp only [globAccepts, rxMatch, ih]
        by_cases hx : x = c <;> simp [hx]
    | any =>
      cases s with
      | nil => rfl
      | cons x t => simp [globAccepts, rxMatch, ih, okAll]
    | star =>
      simp only [globAccepts, rxMatch]
      exact starAccepts_eq _ _ (fun s => ih s) s

section first
variable {α β : Type} (f : α → Option β)

/-- the first element on which `f` answers, with its index counted from `j` -/
def firstSome : Nat → List α → Option (Nat × α × β)
  | _, [] => none
  | j, a :: l => match f a with
    | some b => some (j, a, b)
    | none => firstSome (j + 1) l

theorem firstSome_eq_none (j : Nat) (l : List α) : firstSome f j l = none ↔ ∀ a ∈ l, f a = none := by
  fun_induction firstSome f j l with
  | case1 => simp
  | case2 j a l b ha => simp [ha]
  | case3 j a l ha ih => simp [ha, ih]

theorem firstSome_eq_some (j0 : Nat) (l : List α) (j : Nat) (a : α) (b : β) :
    firstSome f j0 l = some (j, a, b) ↔
      ∃ k, j = j0 + k ∧ l[k]? = some a ∧ f a = some b ∧ ∀ k' < k, ∀ x, l[k']? = some x → f x = none := by
  fun_induction firstSome f j0 l with
  | case1 => simp
  | case2 j0 x l b' hx =>
    simp only [Option.some.injEq, Prod.mk.injEq]
    constructor
    · rintro ⟨rfl, rfl, rfl⟩; exact ⟨0, rfl, rfl, hx, fun _ h => absurd h (Nat.not_lt_zero _)⟩
    · rintro ⟨k, rfl, ha, hb, hlt⟩
      cases k with
      | zero => cases ha; exact ⟨rfl, rfl, Option.some.inj (hx.symm.trans hb)⟩
      | succ k => have := hlt 0 (Nat.succ_pos k) x rfl; rw [hx] at this; cases this
  | case3 j0 x l hx ih =>
    rw [ih]
    constructor
    · rintro ⟨k, rfl, ha, hb, hlt⟩
      refine ⟨k + 1, by omega, ha, hb, fun k' hk' y hy => ?_⟩
      cases k' with
      | zero => cases hy; exact hx
      | succ k' => exact hlt k' (Nat.lt_of_succ_lt_succ hk') y hy
    · rintro ⟨k, rfl, ha, hb, hlt⟩
      cases k with
      | zero => cases ha; rw [hx] at hb; cases hb
      | succ k => exact ⟨k, by omega, ha, hb, fun k' hk' y hy => hlt (k' + 1) (Nat.succ_lt_succ hk') y hy⟩
end first

theorem findInHosts_eq (m : Bytes → Option Groups) (j : Nat) (ps : List Bytes) :
    findInHosts m j ps = firstSome m j ps := by
  induction ps generalizing j with
  | nil => rfl
  | cons p ps ih => unfold findInHosts firstSome; cases m p <;> simp only [ih]

theorem findRouteFrom_eq (m : Bytes → Option Groups) (i : Nat) (rs : List Route) :
    findRouteFrom m i rs = (firstSome (fun r => findInHosts m 0 r.hosts) i rs).map (fun x => (x.1, x.2.2)) := by
  induction rs generalizing i with
  | nil => rfl
  | cons r rs ih => unfold findRouteFrom firstSome; cases findInHosts m 0 r.hosts <;> simp only [ih, Option.map]

theorem findInHosts_none (m : Bytes → Option Groups) (j0 : Nat) (ps : List Bytes) :
    findInHosts m j0 ps = none ↔ ∀ q ∈ ps, m q = none := by
  rw [findInHosts_eq, firstSome_eq_none]

theorem findInHosts_some (m : Bytes → Option Groups) (j0 : Nat) (ps : List Bytes) (j : Nat) (p : Bytes) (gs : Groups) :
    findInHosts m j0 ps = some (j, p, gs) ↔
      ∃ k, j = j0 + k ∧ ps[k]? = some p ∧ m p = some gs ∧ ∀ k' < k, ∀ q, ps[k']? = some q → m q = none := by
  rw [findInHosts_eq, firstSome_eq_some]

theorem findRouteFrom_none (m : Bytes → Option Groups) (i0 : Nat) (rs : List Route) :
    findRouteFrom m i0 rs = none ↔ ∀ r ∈ rs, ∀ q ∈ r.hosts, m q = none := by
  simp only [findRouteFrom_eq, Option.map_eq_none_iff, firstSome_eq_none, findInHosts_none]

/-- the characterisation of `FindRouteWithGroups`' answer: the lexicographically first (route, host pattern) that matches -/
def IsFirstMatch (m : Bytes → Option Groups) (rs : List Route) (i j : Nat) (p : Bytes) (gs : Groups) : Prop :=
  ∃ r, rs[i]? = some r ∧ r.hosts[j]? = some p ∧ m p = some gs ∧
    (∀ j' < j, ∀ q, r.hosts[j']? = some q → m q = none) ∧
    (∀ i' < i, ∀ r', rs[i']? = some r' → ∀ q ∈ r'.hosts, m q = none)

theorem findRouteFrom_some (m : Bytes → Option Groups) (i0 : Nat) (rs : List Route) (i j : Nat) (p : Bytes) (gs : Groups) :
    findRouteFrom m i0 rs = some (i, j, p, gs) ↔ ∃ k, i = i0 + k ∧ IsFirstMatch m rs k j p gs := by
  simp only [findRouteFrom_eq, Option.map_eq_some_iff, Prod.exists, Prod.mk.injEq, firstSome_eq_some,
    findInHosts_some, findInHosts_none, Nat.zero_add, IsFirstMatch]
  constructor
  · rintro ⟨_, r, _, _, _, ⟨k, hk, hr, ⟨_, rfl, h⟩, hprev⟩, rfl, rfl, rfl, rfl⟩
    exact ⟨k, hk, r, hr, h.1, h.2.1, h.2.2, hprev⟩
  · rintro ⟨k, hk, r, hr, h1, h2, h3, hprev⟩
    exact ⟨i, r, j, p, gs, ⟨k, hk, hr, ⟨j, rfl, h1, h2, h3⟩, hprev⟩, rfl, rfl, rfl, rfl⟩

section clear
variable {α : Type} [DecidableEq α]

/-- the kept text is everything before the first separator, and no separator starts inside it -/
theorem beforeFirst_spec (sep s : List α) :
    (∃ rest, s = beforeFirst sep s ++ rest ∧ (rest = [] ∨ sep.isPrefixOf rest = true)) ∧
    ∀ k, k < (beforeFirst sep s).length → sep.isPrefixOf (s.drop k) = false := by
  fun_induction beforeFirst sep s with
  | case1 => exact ⟨⟨[], rfl, Or.inl rfl⟩, nofun⟩
  | case2 c t h => exact ⟨⟨c :: t, rfl, Or.inr h⟩, nofun⟩
  | case3 c t h ih =>
    obtain ⟨⟨rest, h1, h2⟩, ih2⟩ := ih
    refine ⟨⟨rest, congrArg (c :: ·) h1, h2⟩, fun k hk => ?_⟩
    cases k with
    | zero => exact Bool.eq_false_iff.mpr h
    | succ k => exact ih2 k (Nat.lt_of_succ_lt_succ hk)

theorem trimLeft_spec (d : α) (s : List α) :
    ∃ a, s = a ++ trimLeft d s ∧ (∀ x ∈ a, x = d) ∧ (trimLeft d s).head? ≠ some d := by
  fun_induction trimLeft d s with
  | case1 => exact ⟨[], rfl, nofun, nofun⟩
  | case2 t ih =>
    obtain ⟨a, h1, h2, h3⟩ := ih
    exact ⟨d :: a, congrArg (d :: ·) h1, List.forall_mem_cons.mpr ⟨rfl, h2⟩, h3⟩
  | case3 c t h => exact ⟨[], rfl, nofun, fun e => h (Option.some.inj e)⟩

theorem trim_spec (d : α) (s : List α) :
    ∃ a b, s = a ++ trim d s ++ b ∧ (∀ x ∈ a, x = d) ∧ (∀ x ∈ b, x = d) ∧
      (trim d s).head? ≠ some d ∧ (trim d s).getLast? ≠ some d := by
  obtain ⟨a, h1, h2, h3⟩ := trimLeft_spec d s
  obtain ⟨b, g1, g2, g3⟩ := trimLeft_spec d (trimLeft d s).reverse
  have hu : trimLeft d s = trim d s ++ b.reverse := by
    have := congrArg List.reverse g1
    simpa [trim] using this
  refine ⟨a, b.reverse, ?_, h2, ?_, ?_, ?_⟩
  · rw [List.append_assoc, ← hu]; exact h1
  · intro x hx; exact g2 x (by simpa using hx)
  · intro hh
    apply h3
    rw [hu]
    cases ht : trim d s with
    | nil => simp [ht] at hh
    | cons y ys => simpa [ht] using hh
  · simpa [trim] using g3

end clear

section dec
variable {α : Type} [DecidableEq α]

theorem decimalF_fuel (digit : Nat → α) (f f' n : Nat) (h : n < f) (h' : n < f') :
    decimalF digit f n = decimalF digit f' n := by
  induction f generalizing f' n with
  | zero => omega
  | succ f ih =>
    cases f' with
    | zero => omega
    | succ f' =>
      unfold decimalF
      by_cases hn : n < 10
      · rw [if_pos hn, if_pos hn]
      · rw [if_neg hn, if_neg hn, ih f' (n / 10) (by omega) (by omega)]

/-- unfolding of `decimal` without fuel -/
theorem decimal_eq (digit : Nat → α) (n : Nat) :
    decimal digit n = if n < 10 then [digit n] else decimal digit (n / 10) ++ [digit (n % 10)] := by
  unfold decimal
  rw [decimalF]
  by_cases hn : n < 10
  · rw [if_pos hn, if_pos hn]
  · rw [if_neg hn, if_neg hn, decimalF_fuel digit n (n / 10 + 1) (n / 10) (by omega) (by omega)]

theorem decimal_all (digit : Nat → α) (P : α → Prop) (hP : ∀ d, d < 10 → P (digit d)) (n : Nat) :
    ∀ x ∈ decimal digit n, P x := by
  induction n using Nat.strongRecOn with
  | _ n ih =>
    rw [decimal_eq]
    by_cases hn : n < 10
    · simp only [hn, if_true, List.mem_singleton]; rintro x rfl; exact hP n hn
    · simp only [hn, if_false, List.mem_append, List.mem_singleton]
      rintro x (hx | rfl)
      · exact ih (n / 10) (by omega) x hx
      · exact hP _ (by omega)

end dec

abbrev par (k : Nat) : Bytes := param dollarByte digitByte k
abbrev dec (k : Nat) : Bytes := decimal digitByte k

theorem digitByte_isDigit (d : Nat) (hd : d < 10) : isDigitByte (digitByte d) = true :=
  (by decide +kernel : ∀ x : Fin 10, isDigitByte (digitByte x.val) = true) ⟨d, hd⟩

/-- the number a digit string denotes -/
def numVal (l : Bytes) : Nat := l.foldl (fun a b => 10 * a + (b.toNat - 48)) 0

theorem numVal_dec (n : Nat) : numVal (dec n) = n := by
  have hd : ∀ d, d < 10 → (digitByte d).toNat - 48 = d := fun d hd =>
    (by decide +kernel : ∀ x : Fin 10, (digitByte x.val).toNat - 48 = x.val) ⟨d, hd⟩
  induction n using Nat.strongRecOn with
  | _ n ih =>
    rw [dec, decimal_eq]
    split
    · exact (Nat.zero_add _).trans (hd n ‹_›)
    · rw [numVal, List.foldl_append, ← numVal, ih (n / 10) (by omega)]
      show 10 * (n / 10) + _ = n
      rw [hd _ (Nat.mod_lt _ (by omega))]; omega

/-- a numeral that is a prefix of another numeral denotes a number that is not larger -/
theorem dec_prefix_le (i k : Nat) (h : dec i <+: dec k) : i ≤ k := by
  obtain ⟨t, ht⟩ := h
  have mono : ∀ (t : Bytes) x, x ≤ t.foldl (fun a b => 10 * a + (b.toNat - 48)) x := by
    intro t
    induction t with
    | nil => exact fun x => Nat.le_refl x
    | cons b t ih => exact fun x => Nat.le_trans (by show x ≤ 10 * x + _; omega) (ih _)
  rw [← numVal_dec i, ← numVal_dec k, ← ht, numVal, numVal, List.foldl_append]
  exact mono t _

theorem prefix_of_digits (a b rest : Bytes) (ha : ∀ x ∈ a, isDigitByte x = true)
    (hr : ∀ x, rest.head? = some x → isDigitByte x = false) (h : a <+: b ++ rest) : a <+: b := by
  induction b generalizing a with
  | nil =>
    cases a with
    | nil => exact List.prefix_refl _
    | cons x a' =>
      simp only [List.nil_append] at h
      obtain ⟨t, ht⟩ := h
      have hx := ha x (by simp)
      have : rest.head? = some x := by rw [← ht]; rfl
      rw [hr x this] at hx; cases hx
  | cons y b' ih =>
    cases a with
    | nil => exact List.nil_prefix
    | cons x a' =>
      simp only [List.cons_append] at h
      rw [List.cons_prefix_cons] at h ⊢
      exact ⟨h.1, ih a' (fun z hz => ha z (by simp [hz])) h.2⟩

/-- a higher-numbered parameter is not a prefix where `$k` stands, unless a digit follows -/
theorem par_not_prefix (j k : Nat) (rest : Bytes) (hjk : k < j)
    (hr : ∀ x, rest.head? = some x → isDigitByte x = false) :
    (par j).isPrefixOf (par k ++ rest) = false := by
  apply Bool.eq_false_iff.mpr
  intro h
  rw [List.isPrefixOf_iff_prefix] at h
  simp only [par, param, List.cons_append, List.cons_prefix_cons, true_and] at h
  have h2 := prefix_of_digits (dec j) (dec k) rest
    (decimal_all digitByte (fun x => isDigitByte x = true) digitByte_isDigit j) hr h
  have := dec_prefix_le j k h2
  omega

theorem mem_paramPairsFrom (i : Nat) (gs : List Bytes) (p : Bytes × Bytes)
    (h : p ∈ paramPairsFrom dollarByte digitByte i gs) : ∃ j, i ≤ j ∧ j < i + gs.length ∧ p.1 = par j := by
  induction gs generalizing i with
  | nil => simp [paramPairsFrom] at h
  | cons g gs ih =>
    simp only [paramPairsFrom, List.mem_append, List.mem_singleton] at h
    rcases h with h | rfl
    · obtain ⟨j, h1, h2, h3⟩ := ih (i + 1) h
      exact ⟨j, by omega, by simp only [List.length_cons]; omega, h3⟩
    · exact ⟨i, by omega, by simp only [List.length_cons]; omega, rfl⟩

theorem find_param (gs : List Bytes) (i k : Nat) (rest : Bytes) (hik : i ≤ k) (hk : k < i + gs.length)
    (hr : ∀ x, rest.head? = some x → isDigitByte x = false) :
    (paramPairsFrom dollarByte digitByte i gs).find? (fun p => p.1.isPrefixOf (par k ++ rest)) =
      some (par k, gs.getD (k - i) []) := by
  induction gs generalizing i with
  | nil => exact absurd hk (by rw [List.length_nil]; omega)
  | cons g gs ih =>
    rw [paramPairsFrom, List.find?_append]
    by_cases hki : k = i
    · -- all pairs before the last are for higher indices, so none is a prefix here; the last one is `$k` itself
      subst hki
      have hnone : (paramPairsFrom dollarByte digitByte (k + 1) gs).find?
          (fun p => p.1.isPrefixOf (par k ++ rest)) = none := by
        rw [List.find?_eq_none]
        intro p hp
        obtain ⟨j, h1, _, h3⟩ := mem_paramPairsFrom (k + 1) gs p hp
        rw [h3, par_not_prefix j k rest (by omega) hr]
        exact Bool.false_ne_true
      have hpre : (par k).isPrefixOf (par k ++ rest) = true :=
        List.isPrefixOf_iff_prefix.mpr (List.prefix_append _ _)
      rw [hnone, Option.none_or, Nat.sub_self]
      exact List.find?_cons_of_pos (l := []) hpre
    · rw [ih (i + 1) (by omega) (by rw [List.length_cons] at hk; omega), Option.some_or,
        show k - i = (k - (i + 1)) + 1 by omega]
      rfl

theorem no_param_at_literal (gs : List Bytes) (i : Nat) (b : UInt8) (t : Bytes) (hb : b ≠ dollarByte) :
    (paramPairsFrom dollarByte digitByte i gs).find? (fun p => p.1.isPrefixOf (b :: t)) = none := by
  rw [List.find?_eq_none]
  intro p hp
  obtain ⟨j, _, _, h3⟩ := mem_paramPairsFrom i gs p hp
  rw [h3]
  simp only [par, param, List.isPrefixOf]
  simp [beq_false_of_ne (Ne.symm hb)]

theorem renderToks_head_not_digit (n : Nat) (k : Nat) (ts : List Tok)
    (hu : unambiguous n (.ref k :: ts) = true) :
    ∀ x, (renderToks ts).head? = some x → isDigitByte x = false := by
  intro x hx
  cases ts with
  | nil => cases hx
  | cons t ts =>
    cases t with
    | lit b =>
      cases hx
      simp only [unambiguous, Bool.and_eq_true, Bool.not_eq_true'] at hu
      exact hu.2
    | ref k' =>
      -- a reference renders with `$` in front
      cases hx
      decide +kernel

theorem unambiguous_tail (n : Nat) (t : Tok) (ts : List Tok) (hu : unambiguous n (t :: ts) = true) :
    unambiguous n ts = true := by
  cases t with
  | lit b => simp only [unambiguous, Bool.and_eq_true] at hu; exact hu.2
  | ref k => simp only [unambiguous, Bool.and_eq_true] at hu; exact hu.1.2

/-- single-pass substitution expands an unambiguous tokenised template to literals and referenced groups -/
theorem scan_tokens (groups : List Bytes) (toks : List Tok) (hu : unambiguous groups.length toks = true) :
    scanReplace (paramPairs dollarByte digitByte groups) 0 (renderToks toks) = expandToks groups toks := by
  induction toks with
  | nil => rfl
  | cons t ts ih =>
    have ih' := ih (unambiguous_tail _ t ts hu)
    cases t with
    | lit b =>
      have hb : b ≠ dollarByte := by
        simp only [unambiguous, Bool.and_eq_true, bne_iff_ne, ne_eq] at hu
        exact hu.1
      simp only [renderToks, expandToks, List.flatMap_cons, renderTok, expandTok, List.cons_append,
        List.nil_append]
      simp only [scanReplace, paramPairs, no_param_at_literal groups 1 b _ hb]
      congr 1
    | ref k =>
      have hk : 1 ≤ k ∧ k ≤ groups.length := by
        simp only [unambiguous, Bool.and_eq_true, decide_eq_true_eq] at hu
        exact ⟨hu.1.1.1, hu.1.1.2⟩
      have hf : (paramPairs dollarByte digitByte groups).find?
          (fun p => p.1.isPrefixOf (dollarByte :: (dec k ++ renderToks ts))) = some (par k, groups.getD (k - 1) []) :=
        find_param groups 1 k (renderToks ts) hk.1 (by omega) (renderToks_head_not_digit _ k ts hu)
      simp only [renderToks, expandToks, List.flatMap_cons, renderTok, expandTok, hk, and_self, if_true]
      show scanReplace _ 0 (dollarByte :: (dec k ++ renderToks ts)) = _
      simp only [scanReplace, hf]
      have hl : (par k).length - 1 = (dec k).length := by simp [par, param]
      rw [hl, scanReplace_skip, ih']
      rfl

end Gate.C29
