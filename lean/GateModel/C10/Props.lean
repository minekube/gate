import GateModel.C10.Lemmas
/-
C10 — offline identities match vanilla and only valid usernames are admitted.
-/
namespace Gate.C10.Props
open Gate Gate.Hash Gate.Utf8 Gate.C10

/-- gate's `OfflinePlayerUUID` is vanilla's `UUID.nameUUIDFromBytes("OfflinePlayer:" + name)`, for every byte
    string as username (MD5 as implemented in Md5.lean) -/
theorem offline_uuid_eq_vanilla (username : Bytes) :
    offlinePlayerUUID username = vanillaOfflineUUID username := by
  unfold offlinePlayerUUID vanillaOfflineUUID javaNameUUIDFromBytes offlinePrefix
  rw [stampV3_eq]
  simp only [List.modify_modify_eq]
  rfl

/-- bit-level shape of the stamped hash (any 16-byte `h`, in particular every MD5 value) -/
theorem uuid_is_v3 (h : Bytes) (hlen : h.length = 16) :
    (stampV3 h).length = 16 ∧
    (∀ i, i ≠ 6 → i ≠ 8 → (stampV3 h)[i]? = h[i]?) ∧
    (∃ b u : UInt8, h[6]? = some b ∧ (stampV3 h)[6]? = some u ∧ u >>> 4 = 3 ∧ u &&& 0x0f = b &&& 0x0f) ∧
    (∃ b u : UInt8, h[8]? = some b ∧ (stampV3 h)[8]? = some u ∧ u >>> 6 = 2 ∧ u &&& 0x3f = b &&& 0x3f) := by
  rw [stampV3_eq]
  have h6 : 6 < h.length := by omega
  have h8 : 8 < h.length := by omega
  refine ⟨by simp only [List.length_modify, hlen], ?_,
    ⟨h[6], (h[6] &&& 0x0f) ||| 0x30, List.getElem?_eq_getElem h6, ?_, version_bits h[6]⟩,
    ⟨h[8], (h[8] &&& 0x3f) ||| 0x80, List.getElem?_eq_getElem h8, ?_, variant_bits h[8]⟩⟩
  · intro i n6 n8
    rw [List.getElem?_modify_ne _ _ (Ne.symm n8), List.getElem?_modify_ne _ _ (Ne.symm n6)]
  · rw [List.getElem?_modify_ne _ _ (by decide), List.getElem?_modify_eq, List.getElem?_eq_getElem h6]
    rfl
  · rw [List.getElem?_modify_eq, List.getElem?_modify_ne _ _ (by decide), List.getElem?_eq_getElem h8]
    rfl

/-- the same for the UUID of every username -/
theorem offline_uuid_is_v3 (username : Bytes) :
    (offlinePlayerUUID username).length = 16 ∧
    (∃ u : UInt8, (offlinePlayerUUID username)[6]? = some u ∧ u >>> 4 = 3) ∧
    (∃ u : UInt8, (offlinePlayerUUID username)[8]? = some u ∧ u >>> 6 = 2) := by
  obtain ⟨h1, _, ⟨_, u6, _, h6, h6v, _⟩, ⟨_, u8, _, h8, h8v, _⟩⟩ :=
    uuid_is_v3 (md5 (offlinePrefix ++ username)) (md5_length _)
  exact ⟨h1, ⟨u6, h6, h6v⟩, ⟨u8, h8, h8v⟩⟩

/-- the username check of the login handler: the regex found in the source (regenerated), under Go `regexp`
    semantics, accepts a byte string iff it is 2..16 bytes all from A-Z a-z 0-9 `_` — a trailing "\n", 17
    characters, 1 character, non-ASCII and invalid UTF-8 are all refused -/
theorem name_filter (s : Bytes) : nameOK s = true ↔ validUsername s := by
  rw [nameOK_eq, matchRep_iff]
  unfold validUsername
  constructor
  · rintro ⟨h1, h2, h3⟩
    have hascii := ascii_of_decodeRunes s (fun r hr => inClass_source_lt r (h3 r hr))
    have hdec := decodeRunes_ascii s hascii
    rw [hdec] at h1 h2 h3
    simp only [List.length_map] at h1 h2
    refine ⟨h1, h2, fun b hb => ?_⟩
    rw [← inClass_source_byte]
    exact h3 b.toNat (List.mem_map.mpr ⟨b, hb, rfl⟩)
  · rintro ⟨h1, h2, h3⟩
    have hdec := decodeRunes_ascii s (fun b hb => allowed_ascii b (h3 b hb))
    rw [hdec]
    simp only [List.length_map]
    refine ⟨h1, h2, fun r hr => ?_⟩
    obtain ⟨b, hb, rfl⟩ := List.mem_map.mp hr
    rw [inClass_source_byte]
    exact h3 b hb

/-- only valid usernames are admitted … -/
theorem admitted_only_valid (fwdNone : Bool) (ov : Option Profile) (u id nm be : Bytes)
    (h : offlineLogin fwdNone ov u = .success id nm be) : validUsername u :=
  (name_filter u).mp (offlineLogin_success h).1

/-- … and every valid username is admitted -/
theorem valid_admitted (fwdNone : Bool) (ov : Option Profile) (u : Bytes) (h : validUsername u) :
    ∃ id nm be, offlineLogin fwdNone ov u = .success id nm be := by
  have hok := (name_filter u).mpr h
  obtain ⟨h1, h2, _⟩ := h
  unfold offlineLogin
  rw [if_neg (by rw [maxUsernameLen_eq]; omega), if_neg (by simp [hok])]
  exact ⟨_, _, _, rfl⟩

theorem invalid_never_admitted (fwdNone : Bool) (ov : Option Profile) (u : Bytes) (h : ¬ validUsername u) :
    offlineLogin fwdNone ov u = .closed ∨ offlineLogin fwdNone ov u = .invalidName := by
  have hok : nameOK u = false := Bool.eq_false_iff.2 fun hn => h ((name_filter u).mp hn)
  unfold offlineLogin
  split
  · exact .inl rfl
  · rw [if_pos (by simp [hok])]; exact .inr rfl

/-! the same with a signed profile key attached to the login start packet (protocols 1.19–1.19.2):
    no key state lets an invalid username through, and a valid/absent key does not block a valid one -/
theorem keyed_admitted_only_valid (key : KeyState) (fwdNone : Bool) (ov : Option Profile) (u id nm be : Bytes)
    (h : offlineLoginKeyed key fwdNone ov u = .success id nm be) : validUsername u := by
  unfold offlineLoginKeyed at h
  cases hl : offlineLogin fwdNone ov u with
  | success a b c => exact admitted_only_valid fwdNone ov u a b c hl
  | closed | invalidName | badKey => rw [hl] at h; cases h

theorem keyed_valid_admitted (key : KeyState) (hk : key = .absent ∨ key = .valid) (fwdNone : Bool)
    (ov : Option Profile) (u : Bytes) (h : validUsername u) :
    offlineLoginKeyed key fwdNone ov u = offlineLogin fwdNone ov u
    ∧ ∃ id nm be, offlineLoginKeyed key fwdNone ov u = .success id nm be := by
  obtain ⟨id, nm, be, hl⟩ := valid_admitted fwdNone ov u h
  have : offlineLoginKeyed key fwdNone ov u = .success id nm be := by
    unfold offlineLoginKeyed
    rw [hl]
    rcases hk with rfl | rfl <;> rfl
  exact ⟨by rw [this, hl], id, nm, be, this⟩

/-- the username is judged before the key: an invalid name is refused as such, whatever the key -/
theorem keyed_invalid_name_first (key : KeyState) (fwdNone : Bool) (ov : Option Profile) (u : Bytes)
    (h : ¬ validUsername u) :
    offlineLoginKeyed key fwdNone ov u = .closed ∨ offlineLoginKeyed key fwdNone ov u = .invalidName := by
  unfold offlineLoginKeyed
  rcases invalid_never_admitted fwdNone ov u h with hl | hl <;> rw [hl]
  · exact .inl rfl
  · exact .inr rfl

/-- an offline-mode player keeps its name and gets vanilla's offline UUID, in every forwarding mode -/
theorem offline_identity (fwdNone : Bool) (u id nm be : Bytes)
    (h : offlineLogin fwdNone none u = .success id nm be) :
    nm = u ∧ be = u ∧ id = vanillaOfflineUUID u := by
  obtain ⟨_, hp, rfl⟩ := offlineLogin_success h
  cases hp
  exact ⟨rfl, rfl, offline_uuid_eq_vanilla u⟩

/-- forwarding disabled: the backend derives the id from the login name it receives; for an offline-mode
    player that is the same UUID the proxy uses and announces to the client -/
theorem none_forwarding_backend_uuid (u id nm be : Bytes)
    (h : offlineLogin true none u = .success id nm be) : backendDerivedUUID be = id := by
  obtain ⟨_, hbe, hid⟩ := offline_identity true u id nm be h
  rw [hbe, hid]; rfl

/-- with a profile override the client is told the override's id and name; the backend is sent that name -/
theorem override_identity (fwdNone : Bool) (p : Profile) (u id nm be : Bytes)
    (h : offlineLogin fwdNone (some p) u = .success id nm be) : id = p.id ∧ nm = p.name ∧ be = p.name := by
  obtain ⟨_, hp, rfl⟩ := offlineLogin_success h
  cases hp
  exact ⟨rfl, rfl, rfl⟩

/-- consequently, with forwarding `none`, a plugin-chosen id is NOT what the backend derives
    (the `playerID` recomputed in `startLoginCompletion` is not the one written to LoginSuccess).
    Outside C10's statement (the identity is no longer the offline-mode one); recorded as behaviour. -/
theorem override_can_diverge :
    ∃ p u id nm be, offlineLogin true (some p) u = .success id nm be ∧ backendDerivedUUID be ≠ id :=
  ⟨⟨List.replicate 16 1, "Other".toUTF8.toList⟩, "Notch".toUTF8.toList, List.replicate 16 1,
    "Other".toUTF8.toList, "Other".toUTF8.toList, by decide +kernel, by decide +kernel⟩

/-- the regex gate is the first thing `handleServerLogin` does -/
theorem source_shape_regex_gate_first :
    Gate.Gen.C10.handleServerLoginCalls.take 5 =
      ["l.assertState", "return", "playerNameRegex.MatchString", "l.inbound.disconnect", "return"]
    ∧ "profile.NewOffline" ∈ Gate.Gen.C10.handleServerLoginCalls := by decide +kernel

/-- LoginSuccess is built from `player.ID()` / `player.Username()`; the backend login from `player.Username()` -/
theorem source_shape_login_success :
    ["player.ID", "player.Username", "player.GameProfile"] <:+: Gate.Gen.C10.completeLoginCalls
    ∧ "s.player.Username" ∈ Gate.Gen.C10.startHandshakeCalls := by
  decide +kernel

/-- `md5.Sum` is the only function `OfflinePlayerUUID` calls, and `NewOffline` takes the id from it -/
theorem source_shape_offline_uuid :
    Gate.Gen.C10.offlinePlayerUUIDCalls = ["[]byte", "md5.Sum", "uint8", "return"]
    ∧ Gate.Gen.C10.newOfflineCalls = ["uuid.OfflinePlayerUUID", "return"] := by decide +kernel

theorem source_regex_is : parsePat Gate.Gen.C10.playerNameRegex = some sourcePat := parse_source

example : toHex (offlinePlayerUUID "Notch".toUTF8.toList) = "b50ad385829d3141a2167e7d7539ba7f" := by decide +kernel
example : nameOK "Notch".toUTF8.toList = true := by decide +kernel
example : nameOK "ab\n".toUTF8.toList = false := by decide +kernel
example : nameOK "aé".toUTF8.toList = false := by decide +kernel
example : nameOK "abcdefghijklmnopq".toUTF8.toList = false := by decide +kernel
example : validUsername "jeb_".toUTF8.toList := by decide +kernel
example : ∃ id nm be, offlineLogin true none "Notch".toUTF8.toList = .success id nm be :=
  valid_admitted _ _ _ (by decide +kernel)

end Gate.C10.Props
