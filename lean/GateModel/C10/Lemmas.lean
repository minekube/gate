import GateModel.C10.Model
import GateModel.C10.Spec
/-
C10 helper lemmas: byte-level facts by exhaustive table, the `^C{m,n}$` automaton, the pattern in the
source, ASCII transfer between bytes and runes.
-/
namespace Gate.C10
open Gate Gate.Hash Gate.Utf8

theorem stamp8_eq : (fun (b : UInt8) => (b &&& 0x3f) ||| 0x80)
    = ((· ||| (0x80 : UInt8)) ∘ (· &&& (0x3f : UInt8))) := by
  funext b; rfl

theorem version_bits : ∀ b : UInt8, ((b &&& 0x0f) ||| 0x30) >>> 4 = 3 ∧ ((b &&& 0x0f) ||| 0x30) &&& 0x0f = b &&& 0x0f := by
  apply forall_uint8; decide +kernel

theorem variant_bits : ∀ b : UInt8, ((b &&& 0x3f) ||| 0x80) >>> 6 = 2 ∧ ((b &&& 0x3f) ||| 0x80) &&& 0x3f = b &&& 0x3f := by
  apply forall_uint8; decide +kernel

theorem stampV3_eq (h : Bytes) :
    stampV3 h = (h.modify 6 (fun b => (b &&& 0x0f) ||| 0x30)).modify 8 (fun b => (b &&& 0x3f) ||| 0x80) := by
  unfold stampV3 setByte
  rfl

theorem matchRep_iff (rs : List (Nat × Nat)) (m n : Nat) (l : List Nat) :
    matchRep rs m n l = true ↔ m ≤ l.length ∧ l.length ≤ n ∧ ∀ r ∈ l, inClass rs r = true := by
  induction l generalizing m n with
  | nil => simp [matchRep]
  | cons r t ih =>
    cases n with
    | zero => simp [matchRep]
    | succ n =>
      simp only [matchRep, Bool.and_eq_true, ih, List.length_cons, List.mem_cons, forall_eq_or_imp]
      constructor
      · rintro ⟨hr, h1, h2, h3⟩; exact ⟨by omega, by omega, hr, h3⟩
      · rintro ⟨h1, h2, hr, h3⟩; exact ⟨hr, by omega, by omega, h3⟩

/-- the pattern found in the source, parsed -/
def sourcePat : NamePat := ⟨[(65, 90), (97, 122), (48, 57), (95, 95)], 2, 16⟩

theorem parse_source : parsePat Gate.Gen.C10.playerNameRegex = some sourcePat := by decide +kernel

theorem inClass_source_lt (r : Nat) (h : inClass sourcePat.ranges r = true) : r < 128 := by
  simp [inClass, sourcePat] at h
  omega

theorem inClass_source_byte (b : UInt8) : inClass sourcePat.ranges b.toNat = allowedByte b := by
  rw [Bool.eq_iff_iff]
  simp [inClass, sourcePat, allowedByte]
  omega

theorem allowed_ascii (b : UInt8) (h : allowedByte b = true) : b.toNat < 128 := by
  rw [← inClass_source_byte] at h
  exact inClass_source_lt _ h

theorem nameOK_eq (s : Bytes) : nameOK s = matchRep sourcePat.ranges 2 16 (decodeRunes s) := by
  unfold nameOK
  rw [parse_source]
  rfl

/-- a successful offline login: the name passed the filter, and what client and backend are told is the
    override's profile or else the offline one -/
theorem offlineLogin_success {fwdNone : Bool} {ov : Option Profile} {u id nm be : Bytes}
    (h : offlineLogin fwdNone ov u = .success id nm be) :
    nameOK u = true ∧ Profile.mk id nm = ov.getD (newOffline u) ∧ be = nm := by
  unfold offlineLogin at h
  split at h
  · cases h
  · split at h
    · cases h
    · rename_i hok
      cases h
      exact ⟨by simpa using hok, rfl, rfl⟩

theorem maxUsernameLen_eq : maxUsernameLen = 16 := by decide

end Gate.C10
