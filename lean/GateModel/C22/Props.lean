import GateModel.C22.Lemmas
import GateModel.Gen.C22
/-
C22 — commands run on the proxy or reach the backend exactly once.

The decision theorems hold for EVERY dispatch function `disp` (brigodier is a parameter), every command line, every
event outcome (allow / deny / forward / SetCommand), every protocol family and flag combination.  `f.repaired = true`
is the code after fixes/C22-command-forwarding.diff.  A handler produces at most one backend packet by
construction (`Out.backend : Option _`: each packet-creating function returns one packet or nil and the chat queue
writes it once — C21), so "exactly once" is "backend = some _".

Reading of the statement (see checks/C22.json):
  "names a registered proxy command the player may use"  = brigodier does not answer `unknown command`
       (`Disp.ran` / `Disp.syntaxErr`); by `ran_only_usable_nodes` / `ran_below_usable_root_literal` that implies a root literal
       named by the first word whose requirement — and the requirement of the executed node — the player passes;
  "executed by the proxy" = a handler ran (`invoked`), or brigodier reported a syntax error to the player;
  "rewritten as the event requested" = the packet's command text is `commandToRun` (= SetCommand's text, else the original).
`lockedRewrite` (forceKeyAuthentication and a rewrite of a signed command) is answered by disconnecting the player.
-/
namespace Gate.C22.Props
open Gate.C22

def subseq : List String → List String → Bool
  | [], _ => true
  | _ :: _, [] => false
  | a :: as, b :: bs => if a = b then subseq as bs else subseq (a :: as) bs

/-- executeCommand maps the dispatcher's errors in this order: ErrForward / unknown command → not run;
    syntax error → reported to the player; anything else → error -/
theorem executeCommand_shape :
    subseq ["cmdMgr.Do", "errors.Is", "errors.Is", "return", "errors.As", "player.SendMessage", "return", "return", "return"]
      Gate.Gen.C22.executeCommandCalls = true := by decide +kernel

/-- the event is fired once, before the packet-creating function is queued -/
theorem event_fired_before_queueing :
    subseq ["c.eventMgr.Fire", "go:{", "packetCreator", "f.Complete", "}", "c.player.chatQueue.QueuePacket"]
      Gate.Gen.C22.queueCommandResultCalls = true := by decide +kernel

theorem manager_do_shape : Gate.Gen.C22.managerDoCalls = ["m.Parse", "m.Execute", "return"] := by decide +kernel

/-- The proxy runs a command handler exactly when the event neither denied nor forwarded the command and the
    dispatcher resolves the command line (as rewritten by the event) to that handler. -/
theorem proxy_runs_iff (disp : String → Disp) (fam : Family) (f : Flags) (cmd : String) (ev : Ev) (h : Nat) :
    (decide disp fam f cmd ev).invoked = some h ↔
      (ev.denied = false ∧ ev.forward = false ∧ ∃ k, disp (commandToRun cmd ev) = .ran h k) := by
  rw [(decide_unforwarded disp fam f cmd ev).1, ← execute_handler]
  cases ev.denied <;> cases ev.forward <;> simp

/-- A denied command never reaches the backend (and is not run by the proxy). -/
theorem denied_never_forwarded (disp : String → Disp) (fam : Family) (f : Flags) (cmd : String) (ev : Ev)
    (hden : ev.denied = true) :
    (decide disp fam f cmd ev).backend = none ∧ (decide disp fam f cmd ev).invoked = none := by
  have ⟨hi, hb⟩ := decide_unforwarded disp fam f cmd ev
  rw [hi, hden]
  exact ⟨hb (.inl hden), rfl⟩

/-- Otherwise (the event forwards it, or the dispatcher does not know it, or its handler asks to forward it) and
    unless denied, the backend receives one command packet carrying the command the event asked for. -/
theorem otherwise_exactly_one_backend_packet (disp : String → Disp) (fam : Family) (f : Flags) (cmd : String) (ev : Ev)
    (hr : f.repaired = true) (hden : ev.denied = false)
    (hto : ev.forward = true ∨ disp (commandToRun cmd ev) = .unknown ∨ ∃ h, disp (commandToRun cmd ev) = .ran h .fwd)
    (hlock : lockedRewrite fam f cmd ev = false) :
    ∃ k, (decide disp fam f cmd ev).backend = some (k, commandToRun cmd ev) := by
  have := forwarded disp fam f cmd ev hr hden (hto.imp_right (execute_notRun _).2)
  rwa [hlock] at this

/-- A command the proxy takes (its handler ran to completion or failed, or brigodier reported a syntax error to the
    player) is not also sent to the backend. -/
theorem consumed_not_forwarded (disp : String → Disp) (fam : Family) (f : Flags) (cmd : String) (ev : Ev)
    (hfwd : ev.forward = false)
    (hc : disp (commandToRun cmd ev) = .syntaxErr ∨
          ∃ h, disp (commandToRun cmd ev) = .ran h .ok ∨ disp (commandToRun cmd ev) = .ran h .fail) :
    (decide disp fam f cmd ev).backend = none := by
  refine (decide_unforwarded disp fam f cmd ev).2 (.inr ⟨hfwd, ?_⟩)
  rcases hc with e | ⟨h, e | e⟩ <;> rw [e] <;> exact Exec.noConfusion

/-- Whatever reaches the backend carries the command line the event requested (the original if no handler changed it). -/
theorem rewritten_as_requested (disp : String → Disp) (fam : Family) (f : Flags) (cmd : String) (ev : Ev)
    (hr : f.repaired = true) :
    ∀ bk t, (decide disp fam f cmd ev).backend = some (bk, t) → t = commandToRun cmd ev := by
  intro bk t hb
  by_cases hto : ev.denied = false ∧
      (ev.forward = true ∨ (execute (disp (commandToRun cmd ev))).1 = .notRun)
  · have := forwarded disp fam f cmd ev hr hto.1 hto.2
    split at this
    · rw [this.1] at hb; cases hb
    · obtain ⟨k, hk⟩ := this
      rw [hk] at hb; cases hb; rfl
  · rw [(decide_unforwarded disp fam f cmd ev).2 (by
      cases hd : ev.denied <;> cases hf : ev.forward <;> simp_all)] at hb
    cases hb

/-- With forceKeyAuthentication, rewriting a signed command that would go to the backend disconnects the player instead. -/
theorem locked_rewrite_disconnects (disp : String → Disp) (fam : Family) (f : Flags) (cmd : String) (ev : Ev)
    (hr : f.repaired = true) (hden : ev.denied = false)
    (hto : ev.forward = true ∨ disp (commandToRun cmd ev) = .unknown ∨ ∃ h, disp (commandToRun cmd ev) = .ran h .fwd)
    (hlock : lockedRewrite fam f cmd ev = true) :
    (decide disp fam f cmd ev).backend = none ∧ (decide disp fam f cmd ev).disc = true := by
  have := forwarded disp fam f cmd ev hr hden (hto.imp_right (execute_notRun _).2)
  rwa [hlock] at this

/-! ### what "the dispatcher resolves the line" means for the modelled brigodier -/

/-- the proxy only ever runs handlers of nodes whose requirement the player passes -/
theorem ran_only_usable_nodes (t : Tree) (perms : List Nat) (line : String) (h : Nat) (k : HKind)
    (hd : dispatch t perms line = .ran h k) :
    ∃ nd ∈ t, nd.exec = some (h, k) ∧ usable perms nd = true := by
  have hc := dispatchOf_ran _ h k hd
  rcases parseNodes_cmd t perms (line.length + 1) 0 line.toList none false with e | ⟨nd, hnd, he, hu⟩
  · rw [hc] at e
    cases e
  · exact ⟨nd, hnd, by rw [he, hc], hu⟩

/-- … and only below a root literal that the first word of the line names and the player may use -/
theorem ran_below_usable_root_literal (t : Tree) (perms : List Nat) (line : String) (h : Nat) (k : HKind)
    (hroot : ∀ x ∈ children t 0, x.2.isLit = true) (hd : dispatch t perms line = .ran h k) :
    ∃ x ∈ children t 0, x.2.kind = .lit (firstWord line) ∧ usable perms x.2 = true := by
  have hc := dispatchOf_ran _ h k hd
  rcases parseNodes_succ_inv t perms line.length 0 line.toList none false with e | ⟨x, hx, hu, hl, _⟩
  · rw [hc] at e
    cases e
  · exact ⟨x, hx, hl (hroot x hx), hu⟩

/-! ### what the code did before fixes/C22-command-forwarding.diff (`repaired = false`) -/

/-- legacy clients: a command rewritten by the event that is not a proxy command reached the backend UNCHANGED -/
theorem legacy_rewrite_forwards_original_fails :
    (decide (fun _ => .unknown) .legacy ⟨false, false, false, false, false⟩ "h" ⟨false, false, some "home"⟩).backend
      = some (.legacyChat, "h") := by decide

/-- 1.19–1.19.2 clients with a LinkedV2 key and forceKeyAuthentication off: a signed command that the event
    rewrote and forwarded reached nobody (no backend packet, no disconnect, not run) -/
theorem keyed_forwarded_rewrite_lost_fails :
    decide (fun _ => .unknown) .keyed ⟨true, true, false, false, false⟩ "h" ⟨false, true, some "home"⟩ = {} := by
  decide

/-- the hypotheses of `otherwise_exactly_one_backend_packet` are satisfiable (here: the repaired keyed path) -/
example : ∃ k, (decide (fun _ => .unknown) .keyed ⟨true, true, false, false, true⟩ "h" ⟨false, true, some "home"⟩).backend
    = some (k, "home") :=
  otherwise_exactly_one_backend_packet (fun _ => .unknown) .keyed ⟨true, true, false, false, true⟩ "h"
    ⟨false, true, some "home"⟩ rfl rfl (Or.inl rfl) (by decide)

example : (decide (fun _ => .unknown) .keyed ⟨true, true, false, false, true⟩ "h" ⟨false, true, some "home"⟩).backend
    = some (.keyed false, "home") := by decide

example : lockedRewrite .session ⟨true, false, true, false, true⟩ "msg a b" ⟨false, true, some "w a b"⟩ = true := by decide

/-- the dispatch model on a small tree: `server` (executable) with a word argument; `admin` needs permission 1 -/
example : dispatch [⟨0, .lit "server", none, some (1, .ok)⟩, ⟨1, .word, none, some (2, .ok)⟩,
                    ⟨0, .lit "admin", some 1, some (3, .ok)⟩] [] "server lobby" = .ran 2 .ok := by decide
example : dispatch [⟨0, .lit "server", none, some (1, .ok)⟩, ⟨1, .word, none, some (2, .ok)⟩,
                    ⟨0, .lit "admin", some 1, some (3, .ok)⟩] [] "admin" = .unknown := by decide
example : dispatch [⟨0, .lit "server", none, some (1, .ok)⟩, ⟨1, .word, none, some (2, .ok)⟩,
                    ⟨0, .lit "admin", some 1, some (3, .ok)⟩] [1] "admin" = .ran 3 .ok := by decide
example : dispatch [⟨0, .lit "server", none, some (1, .ok)⟩, ⟨1, .word, none, some (2, .ok)⟩,
                    ⟨0, .lit "admin", some 1, some (3, .ok)⟩] [] "server a b" = .syntaxErr := by decide

end Gate.C22.Props
