import GateModel.C22.Model
/-
C22 — about the dispatch model: what one level of `parseNodes` picks (`parseNodes_succ_inv`), from which whatever
handler `dispatch` runs belongs to a usable node below a usable root literal named by the first word of the line.
About the decision logic: the shape the four command handlers share (`decide_unforwarded`, `forwarded`).
-/
namespace Gate.C22

theorem mem_children (t : Tree) (n : Nat) (x : Nat × FNode) (h : x ∈ children t n) : x.2 ∈ t := by
  simp only [children, List.mem_map, List.mem_filter] at h
  obtain ⟨⟨nd, i⟩, ⟨hm, _⟩, rfl⟩ := h
  exact List.mem_of_getElem? (List.mem_zipIdx_iff_getElem?.mp hm)

/-- one level of `parseNodes`: either no child parses and the command stays, or it picks a child of `n` that the
    source may use and that, if a literal, is named by the first word of the input; then it stops with that child's
    command or goes on below it -/
theorem parseNodes_succ_inv (t : Tree) (perms : List Nat) (fuel n : Nat) (rem : List Char)
    (cmd : Option (Nat × HKind)) (parsed : Bool) :
    (parseNodes t perms (fuel + 1) n rem cmd parsed).cmd = cmd ∨
    ∃ x ∈ children t n, usable perms x.2 = true ∧
      (x.2.isLit = true → x.2.kind = .lit (String.ofList (rem.takeWhile (· != ' ')))) ∧
      ((parseNodes t perms (fuel + 1) n rem cmd parsed).cmd = x.2.exec ∨
       ∃ rem', parseNodes t perms (fuel + 1) n rem cmd parsed = parseNodes t perms fuel x.1 rem' x.2.exec true) := by
  generalize hr : parseNodes t perms (fuel + 1) n rem cmd parsed = r
  simp only [parseNodes] at hr
  split at hr
  · left; rw [← hr]
  · rename_i id nd hf
    obtain ⟨hrel, huse⟩ := List.mem_filter.mp (List.mem_of_find?_eq_some hf)
    -- an argument child is a child, and not a literal
    have hargs : ∀ {k : NKind} {x : Nat × FNode}, x ∈ (children t n).filter (fun x => !x.2.isLit) →
        x ∈ children t n ∧ (x.2.isLit = true → x.2.kind = k) := by
      intro k x hx
      have := List.mem_filter.mp hx
      exact ⟨this.1, fun h => by simp [h] at this⟩
    obtain ⟨hch, hlit⟩ : (id, nd) ∈ children t n ∧
        (nd.isLit = true → nd.kind = .lit (String.ofList (rem.takeWhile (· != ' ')))) := by
      split at hrel
      · exact hargs hrel
      · split at hrel
        · rename_i l hfl
          obtain rfl := List.mem_singleton.mp hrel
          exact ⟨(List.mem_filter.mp (List.mem_of_find?_eq_some hfl)).1, fun _ => by simpa using List.find?_some hfl⟩
        · exact hargs hrel
    split at hr
    · left; rw [← hr]
    · right
      refine ⟨(id, nd), hch, huse, hlit, ?_⟩
      split at hr
      · exact .inr ⟨_, hr.symm⟩
      · exact .inl (by rw [← hr])

theorem parseNodes_cmd (t : Tree) (perms : List Nat) :
    ∀ (fuel n : Nat) (rem : List Char) (cmd : Option (Nat × HKind)) (parsed : Bool),
      (parseNodes t perms fuel n rem cmd parsed).cmd = cmd ∨
      ∃ nd ∈ t, nd.exec = (parseNodes t perms fuel n rem cmd parsed).cmd ∧ usable perms nd = true := by
  intro fuel
  induction fuel with
  | zero => intro n rem cmd parsed; left; simp [parseNodes]
  | succ fuel ih =>
    intro n rem cmd parsed
    rcases parseNodes_succ_inv t perms fuel n rem cmd parsed with h | ⟨x, hx, hu, _, h | ⟨rem', h⟩⟩
    · exact .inl h
    · exact .inr ⟨x.2, mem_children t n x hx, h.symm, hu⟩
    · rw [h]
      rcases ih x.1 rem' x.2.exec true with h' | h'
      · exact .inr ⟨x.2, mem_children t n x hx, h'.symm, hu⟩
      · exact .inr h'

theorem dispatchOf_ran (r : PR) (h : Nat) (k : HKind) (hd : dispatchOf r = .ran h k) : r.cmd = some (h, k) := by
  unfold dispatchOf at hd
  split at hd
  · split at hd
    · cases hd
    · split at hd <;> cases hd
  · split at hd
    · rename_i h' k' hc
      cases hd; exact hc
    · cases hd

/-- the first word of a command line -/
def firstWord (line : String) : String := String.ofList (line.toList.takeWhile (· != ' '))

/-- the dispatcher's answers that leave the command line to the backend -/
theorem execute_notRun (d : Disp) : (execute d).1 = .notRun ↔ d = .unknown ∨ ∃ h, d = .ran h .fwd := by
  rcases d with _ | _ | ⟨h, _ | _ | _⟩ <;> simp [execute]

theorem execute_handler (d : Disp) (h : Nat) : (execute d).2.1 = some h ↔ ∃ k, d = .ran h k := by
  rcases d with _ | _ | ⟨h', _ | _ | _⟩ <;> simp [execute]

section handlers
variable (disp : String → Disp) (fam : Family) (f : Flags) (cmd : String) (ev : Ev)

/-! The four handlers share one shape: a denied command is consumed; a command the event forwards, or one the
dispatcher does not run (`Exec.notRun`), takes the family's forwarding path; otherwise the proxy takes the command.
The two lemmas below read the outcome off that shape, family by family; the decision theorems of `Props` follow
without looking at a handler again. -/

/-- which handler ran; and nothing goes to the backend unless the command line is forwarded -/
theorem decide_unforwarded :
    (decide disp fam f cmd ev).invoked =
      (if ev.denied || ev.forward then none else (execute (disp (commandToRun cmd ev))).2.1) ∧
    (ev.denied = true ∨ ev.forward = false ∧ (execute (disp (commandToRun cmd ev))).1 ≠ .notRun →
      (decide disp fam f cmd ev).backend = none) := by
  cases fam <;> rw [decide] <;> first | unfold decideLegacy | unfold decideKeyed | unfold decideSession
  all_goals
    cases ev.denied
    · rw [if_neg Bool.false_ne_true]
      cases ev.forward
      · rw [if_neg Bool.false_ne_true]
        generalize execute (disp (commandToRun cmd ev)) = e
        obtain ⟨x, h, m⟩ := e
        cases x <;> simp [apply_ite Out.invoked, apply_ite Out.backend]
      · rewrite [if_pos rfl]; simp [apply_ite Out.invoked]
    · rewrite [if_pos rfl]; simp [apply_ite Out.invoked, apply_ite Out.backend]

/-- a forwarded command line reaches the backend as the event left it, unless that is a locked rewrite, which
    disconnects the player -/
theorem forwarded (hr : f.repaired = true) (hden : ev.denied = false)
    (hto : ev.forward = true ∨ (execute (disp (commandToRun cmd ev))).1 = .notRun) :
    if lockedRewrite fam f cmd ev then
      (decide disp fam f cmd ev).backend = none ∧ (decide disp fam f cmd ev).disc = true
    else ∃ k, (decide disp fam f cmd ev).backend = some (k, commandToRun cmd ev) := by
  obtain ⟨sg, kv, fk, p, rp⟩ := f
  cases hr
  cases fam <;> rw [decide] <;> simp only [lockedRewrite] <;>
    first | unfold decideLegacy | unfold decideKeyed | unfold decideSession
  all_goals
    rw [hden, if_neg Bool.false_ne_true]
    cases hf : ev.forward
    · rw [if_neg Bool.false_ne_true]
      replace hto := hto.resolve_left (hf ▸ Bool.false_ne_true)
      generalize execute (disp (commandToRun cmd ev)) = e at hto
      obtain ⟨x, h, m⟩ := e
      cases hto
      by_cases hc : commandToRun cmd ev = cmd <;> cases sg <;> cases kv <;> cases fk <;>
        simp [hc, Flags.keyedLocked]
    · rw [if_pos rfl]
      by_cases hc : commandToRun cmd ev = cmd <;> cases sg <;> cases kv <;> cases fk <;>
        simp [hc, Flags.keyedLocked]

end handlers

end Gate.C22
