import GateModel.C28.Lemmas
/-
C28: every step of the (repaired) proxy model preserves the invariant and the simulation relation
`Sim` with the vanilla client that is fed the packets of that step.
-/
namespace Gate.C28

theorem get_handle_single (fl : Caps) (c : Client) (acts : List Action) (e : PEntry) (u : UUID) :
    AL.get (Client.handle fl c (.upsert acts [e])) u = if u = e.uid then ptC fl acts e (AL.get c u) else AL.get c u := by
  rw [get_handle_upsert]
  by_cases h : u = e.uid
  · rw [if_pos h, forKey_cons_eq u e [] h.symm]; rfl
  · rw [if_neg h, forKey_cons_ne u e [] (Ne.symm h)]; rfl

theorem staleRef_false {s : State} {r : Ref} {a : Attrs} (hr : AL.get s.heap r = some a)
    (h : staleRef s r = false) : AL.get s.map a.uid = none ∨ AL.get s.map a.uid = some r := by
  cases hm : AL.get s.map a.uid with
  | none => exact Or.inl rfl
  | some r' =>
    simp [staleRef, hr, hm] at h
    exact Or.inr (congrArg some h)

/-- a change of the object `r` that is not announced keeps the relation if every key that holds `r` shows the
    client the same view as before -/
theorem heap_set_sim_silent (fl : Caps) {s : State} {c : Client} (hs : Sim fl s c) {r : Ref} {a a' : Attrs}
    (hr : AL.get s.heap r = some a) (hv : ∀ u, AL.get s.map u = some r → view fl a' = view fl a) :
    Sim fl { s with heap := AL.set s.heap r a' } c := by
  intro u
  rw [heap_set_reported]
  by_cases hm : AL.get s.map u = some r
  · rw [if_pos hm, ← hs u, reported_of hm, hr, Option.map_some, Option.map_some, hv u hm]
  · rw [if_neg hm]; exact hs u

theorem setRef_sim (fl : Caps) {s : State} {c : Client} (hi : Inv s) (hs : Sim fl s c) (r : Ref) (f : Field)
    (hst : staleRef s r = false)
    (hnil : ∀ a, AL.get s.heap r = some a → a.uid = nilUUID → AL.get s.map nilUUID = some r →
      fieldPacket fl a.uid f = none) :
    Inv (setRef fl s r f).1 ∧ Sim fl (setRef fl s r f).1 (Client.handleAll fl c (setRef fl s r f).2.2) := by
  unfold setRef
  cases hr : AL.get s.heap r with
  | none => exact ⟨hi, hs⟩
  | some a =>
    have hinv' : Inv { s with heap := AL.set s.heap r (a.setField f) } :=
      heap_set_inv hi hr (setField_uid a f) (by rw [setField_chatTN]; exact hi.noTN r a hr)
    have hv := view_setField fl a f
    simp only
    cases hp : fieldPacket fl a.uid f with
    | none =>
      rw [hp] at hv
      exact ⟨hinv', heap_set_sim_silent fl hs hr fun _ _ => hv⟩
    | some p =>
      rw [hp] at hv
      by_cases hnl : a.uid = nilUUID
      · simp only [hnl, if_true]
        -- the setter fails; no key holds `r`, since that key would be the all-zero uuid, excluded by `hnil`
        refine ⟨hinv', heap_set_sim_silent fl hs hr fun u hm => ?_⟩
        have := hnil a hr hnl (by rw [← hnl, hi.uid_eq hm hr]; exact hm)
        rw [hp] at this; cases this
      · simp only [hnl, if_false]
        refine ⟨hinv', fun u => ?_⟩
        obtain ⟨act, e, rfl, heu, hadd, hv⟩ := hv
        simp only [Client.handleAll, List.foldl_cons, List.foldl_nil]
        rw [heap_set_reported, get_handle_single]
        by_cases hm : AL.get s.map u = some r
        · rw [if_pos hm, if_pos (by rw [heu, hi.uid_eq hm hr]), ← hs u, reported_of hm, hr]
          simp [ptC, hv]
        · rw [if_neg hm]
          by_cases hue : u = e.uid
          · rw [if_pos hue]
            -- `r` is no stale handle, so its key holds nothing: the packet, having no `add`, does nothing
            rcases staleRef_false hr hst with h0 | h1
            · have : AL.get s.map u = none := by rw [hue, heu]; exact h0
              rw [← hs u, reported_none this, Option.map_none, ptC_none_noadd fl _ _ hadd]
            · exact absurd (by rw [hue, heu]; exact h1) hm
          · rw [if_neg hue]; exact hs u

theorem applyActions_nil (fl : Caps) (e : PEntry) (ci : CEntry) : applyActions fl [] e ci = ci := rfl

theorem get_handle_noActions (fl : Caps) (c : Client) (es : List PEntry) (u : UUID) :
    AL.get (Client.handle fl c (.upsert [] es)) u = AL.get c u := by
  rw [get_handle_upsert]
  exact foldl_fixed (fun e => by cases AL.get c u <;> rfl) _

theorem profileReplaced_false {s : State} {h hp : Ref} {a p : Attrs} (hh : AL.get s.heap h = some a)
    (hm : AL.get s.map a.uid = some hp) (hpp : AL.get s.heap hp = some p) (hf : profileReplaced s h = false) :
    p.name = a.name ∧ p.props = a.props := by
  simpa [profileReplaced, hh, hm, hpp] using hf

/-- `m[a.uid] = h` together with an update packet for that key which takes the client from its view of the
    previous entry to its view of `a` -/
theorem map_set_sim (fl : Caps) {s : State} {c : Client} (hs : Sim fl s c) {h : Ref} {a : Attrs}
    (hh : AL.get s.heap h = some a) (acts : List Action) (e : PEntry) (he : e.uid = a.uid)
    (hv : ptC fl acts e ((reported s a.uid).map (view fl)) = some (view fl a)) :
    Sim fl { s with map := AL.set s.map a.uid h } (Client.handle fl c (.upsert acts [e])) := by
  intro u
  rw [map_set_reported hh, get_handle_single, he]
  by_cases hu : u = a.uid
  · rw [if_pos hu, if_pos hu, ← hs u, hu, hv]; rfl
  · rw [if_neg hu, if_neg hu]; exact hs u

theorem addOne_sim (fl : Caps) {s : State} {c : Client} (hi : Inv s) (hs : Sim fl s c) (h : Ref)
    (hpr : profileReplaced s h = false) :
    match addOne repaired fl s h with
    | (s', .err) => s' = s
    | (_, .panic) => False
    | (s', .pkt none) => Inv s' ∧ Sim fl s' c
    | (s', .pkt (some p)) => Inv s' ∧ Sim fl s' (Client.handle fl c p) ∧ (p.noActions = true → Sim fl s' c) := by
  unfold addOne
  cases hh : AL.get s.heap h with
  | none => simp
  | some a =>
    simp only
    by_cases hnl : a.uid = nilUUID
    · simp [hnl]
    · simp only [hnl, if_false]
      have hinv' : Inv { s with map := AL.set s.map a.uid h } := map_set_inv hi hh (fun _ _ => hnl)
      have hTN : a.chatTN = false := hi.noTN h a hh
      cases hprev : AL.get s.map a.uid with
      | none =>
        simp only [hTN, Bool.false_eq_true, if_false]
        have hsim := map_set_sim fl hs hh (newActs repaired fl a) (newEntry a) rfl (by
          rw [reported_none hprev]
          exact (ptC_none_add fl _ _ (by simp [newActs])).trans (congrArg some (view_newEntry fl a)))
        refine ⟨hinv', hsim, ?_⟩
        intro hna; simp [Packet.noActions, newActs] at hna
      | some hp =>
        simp only
        by_cases heq : hp = h
        · subst heq
          simp only [if_true, repaired, Bool.false_eq_true, if_false]
          refine ⟨hinv', fun u => ?_⟩
          rw [map_set_reported hh]
          by_cases hu : u = a.uid
          · rw [if_pos hu, ← hs u, hu, reported_of hprev, hh]
          · rw [if_neg hu]; exact hs u
        · simp only [heq, if_false]
          obtain ⟨p, hpp, hpu⟩ := hi.keyed a.uid hp hprev
          have hTNp : p.chatTN = false := hi.noTN hp p hpp
          simp only [hpp, hTN, hTNp, Bool.not_false, Bool.and_false, Bool.false_eq_true, if_false]
          obtain ⟨hn, hpr'⟩ := profileReplaced_false hh hprev hpp hpr
          have hsim := map_set_sim fl hs hh (updActs fl p a) (updEntry p a) rfl (by
            rw [reported_of hprev, hpp]
            exact congrArg some (view_updEntry fl p a hpu hn hpr'))
          refine ⟨hinv', hsim, ?_⟩
          intro hna u
          have hempty : updActs fl p a = [] := by
            simp only [Packet.noActions, List.isEmpty_iff] at hna; exact hna
          have := hsim u
          rw [hempty, get_handle_noActions] at this
          exact this

theorem addHazards_nil_cons {fl : Caps} {s : State} {h : Ref} {hs : List Ref}
    (hz : addHazards repaired fl s (h :: hs) = []) :
    profileReplaced s h = false ∧
      ∀ s' o, addOne repaired fl s h = (s', AddOut.pkt o) → addHazards repaired fl s' hs = [] := by
  unfold addHazards at hz
  constructor
  · cases hpr : profileReplaced s h with
    | false => rfl
    | true =>
      exfalso
      cases ha : AL.get s.heap h with
      | none => simp [profileReplaced, ha] at hpr
      | some a =>
        -- the hazard list then starts with `a.uid`, whatever `addOne` returns
        simp only [hpr, if_true, ha] at hz
        rcases hres : addOne repaired fl s h with ⟨s', out⟩
        rw [hres] at hz
        cases out <;> simp at hz
  · intro s' o hres
    rw [hres] at hz
    simp only at hz
    exact (List.append_eq_nil_iff.mp hz).2

theorem addMany_sim (fl : Caps) (hs : List Ref) {s : State} {c : Client} (hi : Inv s) (hsim : Sim fl s c)
    (hz : addHazards repaired fl s hs = []) :
    Inv (addMany repaired fl s hs).1 ∧
      Sim fl (addMany repaired fl s hs).1 (Client.handleAll fl c (addMany repaired fl s hs).2.2) ∧
      (addMany repaired fl s hs).2.1 ≠ Res.panic := by
  induction hs generalizing s c with
  | nil => exact ⟨hi, hsim, by simp [addMany]⟩
  | cons h hs ih =>
    obtain ⟨hpr, hrest⟩ := addHazards_nil_cons hz
    have h1 := addOne_sim fl hi hsim h hpr
    rw [addMany]
    rcases hres : addOne repaired fl s h with ⟨s', out⟩
    rw [hres] at h1
    cases out with
    | err =>
      simp only at h1 ⊢
      subst h1
      exact ⟨hi, hsim, by simp⟩
    | panic => exact absurd h1 id
    | pkt o =>
      have hz' := hrest s' o hres
      cases o with
      | none =>
        simp only at h1 ⊢
        exact ih h1.1 h1.2 hz'
      | some p =>
        simp only at h1 ⊢
        obtain ⟨hi', hs', hno⟩ := h1
        by_cases hna : p.noActions = true
        · have := ih hi' (hno hna) hz'
          simp only [hna, if_true]
          exact this
        · have := ih hi' hs' hz'
          simp only [hna]
          simpa [Client.handleAll] using this

theorem handleAll_nil (fl : Caps) (c : Client) : Client.handleAll fl c [] = c := rfl
theorem handleAll_single (fl : Caps) (c : Client) (p : Packet) : Client.handleAll fl c [p] = Client.handle fl c p := rfl
theorem handleAll_cons (fl : Caps) (c : Client) (p : Packet) (ps : List Packet) :
    Client.handleAll fl c (p :: ps) = Client.handleAll fl (Client.handle fl c p) ps := rfl
theorem handleAll_append (fl : Caps) (c : Client) (ps qs : List Packet) :
    Client.handleAll fl c (ps ++ qs) = Client.handleAll fl (Client.handleAll fl c ps) qs := by
  simp [Client.handleAll, List.foldl_append]

theorem beRemove_sim (fl : Caps) {s : State} {c : Client} (hi : Inv s) (hs : Sim fl s c) (ids : List UUID) :
    Inv { s with map := ids.foldl AL.erase s.map } ∧
      Sim fl { s with map := ids.foldl AL.erase s.map } (Client.handleAll fl c [.remove ids]) := by
  refine ⟨map_erase_inv hi ids, fun u => ?_⟩
  rw [handleAll_single, get_handle_remove, map_erase_reported]
  by_cases hm : u ∈ ids
  · rw [if_pos hm, if_pos hm]; rfl
  · rw [if_neg hm, if_neg hm]; exact hs u

theorem removeAll_sim (fl : Caps) {s : State} {c : Client} (hi : Inv s) (hs : Sim fl s c) (ids : List UUID) :
    Inv (removeAll s ids).1 ∧ Sim fl (removeAll s ids).1 (Client.handleAll fl c (removeAll s ids).2.2) := by
  unfold removeAll
  by_cases he : ids.isEmpty = true
  · rw [if_pos he]
    refine ⟨map_clear_inv hi, fun u => ?_⟩
    have hrep : reported { s with map := [] } u = none := rfl
    simp only
    rw [hrep]
    have hnone : u ∉ AL.keys s.map → AL.get c u = none := fun hn => by
      rw [← hs u, reported_none ((AL.get_eq_none_iff _ _).mpr hn)]; rfl
    by_cases hk : (AL.keys s.map).isEmpty = true
    · rw [if_pos hk, handleAll_nil]
      have : AL.keys s.map = [] := List.isEmpty_iff.mp hk
      exact (hnone (by rw [this]; simp)).symm
    · rw [if_neg hk, handleAll_single, get_handle_remove]
      by_cases hm : u ∈ AL.keys s.map
      · rw [if_pos hm]; rfl
      · rw [if_neg hm, hnone hm]; rfl
  · rw [if_neg he]; exact beRemove_sim fl hi hs ids


/-- the effect of one entry of a backend update on what the proxy reports for that entry's key -/
def ptG (acts : List Action) (e : PEntry) : Option Attrs → Option Attrs
  | some a => some (applyBackend repaired acts e a)
  | none => if acts.contains .add then some (applyBackend repaired acts e (beDefault e)) else none

theorem ptG_none (acts : List Action) (e : PEntry) :
    ptG acts e none = if acts.contains .add then some (applyBackend repaired acts e (beDefault e)) else none := rfl

theorem applyBackend_uid (v : Variant) (acts : List Action) (e : PEntry) (a : Attrs) :
    (applyBackend v acts e a).uid = a.uid := rfl

theorem applyBackend_chatTN (acts : List Action) (e : PEntry) (a : Attrs) (h : a.chatTN = false) :
    (applyBackend repaired acts e a).chatTN = false := by
  simp [applyBackend, repaired, h]

theorem procEntry_sim {s : State} (hi : Inv s) (acts : List Action) (e : PEntry) :
    Inv (procEntry repaired acts s e) ∧
      ∀ u, reported (procEntry repaired acts s e) u = if u = e.uid then ptG acts e (reported s u) else reported s u := by
  unfold procEntry
  cases hm : AL.get s.map e.uid with
  | some r =>
    obtain ⟨a, ha, hau⟩ := hi.keyed e.uid r hm
    simp only [ha]
    refine ⟨heap_set_inv hi ha (applyBackend_uid _ _ _ _) (applyBackend_chatTN _ _ _ (hi.noTN r a ha)), fun u => ?_⟩
    rw [heap_set_reported]
    by_cases hu : u = e.uid
    · subst hu
      rw [if_pos hm, if_pos rfl, reported_of hm, ha]; rfl
    · rw [if_neg hu]
      by_cases hmu : AL.get s.map u = some r
      · exact absurd (hi.unique hmu hm) hu
      · rw [if_neg hmu]
  | none =>
    simp only
    cases hadd : acts.contains Action.add with
    | false =>
      simp only [Bool.false_eq_true, if_false]
      refine ⟨hi, fun u => ?_⟩
      by_cases hu : u = e.uid
      · subst hu
        rw [if_pos rfl, reported_none hm, ptG_none, hadd]; rfl
      · rw [if_neg hu]
    | true =>
      simp only [if_true]
      have hfresh : AL.get s.heap (Ref.be s.nbe) = none := hi.fresh s.nbe (Nat.le_refl _)
      obtain ⟨i1, r1⟩ := heap_alloc hi hfresh (applyBackend_chatTN acts e (beDefault e) rfl) (n := s.nbe + 1)
        (fun k hk => ⟨Nat.le_of_succ_le hk, fun e' => by cases e'; exact Nat.not_succ_le_self _ hk⟩)
      have hh := AL.get_set_self s.heap (Ref.be s.nbe) (applyBackend repaired acts e (beDefault e))
      refine ⟨map_set_inv i1 hh (fun _ h => nomatch h), fun u => (map_set_reported (s := { s with
        heap := AL.set s.heap (Ref.be s.nbe) (applyBackend repaired acts e (beDefault e)), nbe := s.nbe + 1 }) hh u).trans ?_⟩
      show (if u = e.uid then _ else _) = _
      by_cases hu : u = e.uid
      · rw [hu, if_pos rfl, if_pos rfl, reported_none hm, ptG_none, hadd]; rfl
      · rw [if_neg hu, if_neg hu, r1 u]

theorem ptG_view (fl : Caps) (acts : List Action) (e : PEntry) (x : Option Attrs) :
    (ptG acts e x).map (view fl) = ptC fl acts e (x.map (view fl)) := by
  cases x with
  | some a => simp [ptG, ptC, view_applyBackend]
  | none =>
    simp only [ptG, ptC, Option.map_none]
    cases hadd : acts.contains Action.add
    · simp
    · simp [view_applyBackend, view_beDefault]

theorem setRef_res (fl : Caps) (s : State) (r : Ref) (f : Field) : (setRef fl s r f).2.1 ≠ Res.panic := by
  unfold setRef
  cases AL.get s.heap r with
  | none => simp
  | some a =>
    simp only
    cases fieldPacket fl a.uid f with
    | none => simp
    | some p => by_cases h : a.uid = nilUUID <;> simp [h]

theorem step_sim (fl : Caps) {s : State} {c : Client} (hi : Inv s) (hs : Sim fl s c) (op : Op)
    (hok : opOk fl s op = true) :
    Inv (step repaired fl s op).1 ∧
      Sim fl (step repaired fl s op).1 (Client.handleAll fl c (step repaired fl s op).2.2) ∧
      (step repaired fl s op).2.1 ≠ Res.panic := by
  cases op with
  | new h a =>
    simp only [step]
    cases hg : AL.get s.heap (Ref.api h) with
    | some b => simp only [Option.isSome_some, if_true]; exact ⟨hi, hs, nofun⟩
    | none =>
      simp only [Option.isSome_none, Bool.false_eq_true, if_false]
      obtain ⟨h1, h2⟩ := heap_alloc (a := { a with chatTN := false }) hi hg rfl (n := s.nbe)
        (fun k hk => ⟨hk, Ref.noConfusion⟩)
      exact ⟨h1, fun u => (congrArg _ (h2 u)).trans (hs u), nofun⟩
  | add hs' =>
    simp only [step]
    simp only [opOk, List.isEmpty_iff] at hok
    exact addMany_sim fl _ hi hs hok
  | set h f =>
    simp only [step]
    simp only [opOk, Bool.not_eq_true'] at hok
    have := setRef_sim fl hi hs (Ref.api h) f hok (fun a _ hnl hm => absurd rfl (hi.apiNonNil _ _ hm))
    exact ⟨this.1, this.2, setRef_res _ _ _ _⟩
  | setCur u f =>
    simp only [step]
    cases hm : AL.get s.map u with
    | none => exact ⟨hi, hs, nofun⟩
    | some r =>
      simp only
      obtain ⟨a, ha, hau⟩ := hi.keyed u r hm
      have hst : staleRef s r = false := by simp [staleRef, ha, hau, hm]
      simp only [opOk, Bool.not_eq_true', nilSetHazard] at hok
      have := setRef_sim fl hi hs r f hst (fun a' ha' hnl hmn => by
        rw [ha] at ha'; cases ha'
        have hu0 : u = nilUUID := by rw [← hau, hnl]
        cases hfp : fieldPacket fl a.uid f with
        | none => rfl
        | some p =>
          exfalso
          rw [hau] at hfp
          rw [hm, hfp] at hok
          simp [hu0] at hok)
      exact ⟨this.1, this.2, setRef_res _ _ _ _⟩
  | removeAll ids =>
    simp only [step]
    have := removeAll_sim fl hi hs ids
    refine ⟨this.1, this.2, ?_⟩
    unfold removeAll; by_cases h : ids.isEmpty = true <;> simp [h]
  | beUpsert acts es =>
    simp only [step]
    -- `ProcessUpdate` on the decoded packet, then the packet is forwarded
    obtain ⟨hi', h⟩ := lookup_foldl (I := Inv) (fun _ e hi => procEntry_sim hi (canonActs acts) e) es s hi
    refine ⟨hi', fun u => ?_, nofun⟩
    rw [handleAll_single, get_handle_upsert, h u, ← hs u]
    exact (List.foldl_hom (Option.map (view fl)) fun x e => (ptG_view fl (canonActs acts) e x).symm).symm
  | beRemove ids =>
    simp only [step]
    have := beRemove_sim fl hi hs ids
    exact ⟨this.1, this.2, nofun⟩

theorem run_sim (fl : Caps) (ops : List Op) {s : State} {c : Client} (hi : Inv s) (hs : Sim fl s c)
    (hok : histOk fl s ops = true) :
    Inv (run repaired fl s ops).1 ∧
      Sim fl (run repaired fl s ops).1 (Client.handleAll fl c (run repaired fl s ops).2) ∧
      ∀ r ∈ results repaired fl s ops, r ≠ Res.panic := by
  induction ops generalizing s c with
  | nil => exact ⟨hi, hs, by simp [results]⟩
  | cons op ops ih =>
    simp only [histOk, Bool.and_eq_true] at hok
    obtain ⟨h1, h2, h3⟩ := step_sim fl hi hs op hok.1
    obtain ⟨i1, i2, i3⟩ := ih h1 h2 hok.2
    simp only [run, results]
    refine ⟨i1, ?_, ?_⟩
    · rw [handleAll_append]; exact i2
    · intro r hr
      simp only [List.mem_cons] at hr
      rcases hr with rfl | hr
      · exact h3
      · exact i3 r hr

theorem sim_init (fl : Caps) : Sim fl State.init [] := fun _ => rfl

end Gate.C28
