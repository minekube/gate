import GateModel.C28.Simulation
/-
C28 — The tab-list model matches what the client was told.

Proxy side: `Model.lean` (gate's 1.19.3+ `TabList`: `Add`/`add` diffing, `RemoveAll`, the entry setters,
`ProcessUpdate`/`ProcessRemove` + forward), run over an arbitrary history of API calls and backend packets.
Client side: `Spec.lean` (a vanilla client's player-info map under the decoded packets it received).
`reported s u` is `Entries()[u]`; `view` is how a client of the viewer's protocol sees such an entry
(latency in milliseconds, `GameType.byId`, list order / hat only if the protocol has the field).

`entries_eq_client_partial` is the property for every history that avoids three recorded hazards
(`histOk`, a decidable condition evaluated along the run); each hazard is shown to be a real counter-example
(`…_fails_…`), so the unrestricted statement is false for the code as it is — see findings/C28.json.
The four defects that were repaired are kept as `original` variant witnesses.
-/
namespace Gate.C28.Props
open Gate.C28

/-- gate's `GreaterEqual(Minecraft_1_21_2 / _1_21_4)` switches (regenerated numbers) are exactly the
    protocol numbers from which a vanilla client has the list-order / hat field. -/
theorem flags_match_vanilla (p : Int) : flagsOf p = capsOf p := by
  unfold flagsOf capsOf
  rfl

/-- `tablist.New` uses the modelled `TabList` from protocol 761 (1.19.3) on. -/
theorem modern_from_1_19_3 : modernFrom = 761 := rfl

/-- final proxy state and the client state after a history started on an empty tab list -/
def proxyAfter (p : Int) (ops : List Op) : State := (run repaired (flagsOf p) State.init ops).1
def clientAfter (p : Int) (ops : List Op) : Client :=
  Client.handleAll (capsOf p) [] (run repaired (flagsOf p) State.init ops).2

/-- **Main theorem.** For every viewer protocol and every history of API calls (`new`/`Add`/setters via kept
    handles or via `Entries()`/`RemoveAll`) and backend packets (update/remove, forwarded) that does not run
    into a recorded hazard, for every uuid: the proxy reports an entry iff the client holds one, and they
    agree on profile (id, name, properties), display name, latency, game mode, listed flag, list order and hat. -/
theorem entries_eq_client_partial (p : Int) (ops : List Op) (hok : histOk (flagsOf p) State.init ops = true) (u : UUID) :
    (reported (proxyAfter p ops) u).map (view (capsOf p)) = AL.get (clientAfter p ops) u := by
  have h := (run_sim (flagsOf p) ops Inv.init (sim_init _) hok).2.1 u
  unfold proxyAfter clientAfter
  rw [← flags_match_vanilla]
  exact h

/-- exactly the same set of entries -/
theorem same_entries_partial (p : Int) (ops : List Op) (hok : histOk (flagsOf p) State.init ops = true) (u : UUID) :
    (reported (proxyAfter p ops) u).isSome = (AL.get (clientAfter p ops) u).isSome := by
  rw [← entries_eq_client_partial p ops hok u]; simp

/-- every reported entry is stored under its own profile id -/
theorem keys_are_profile_ids (p : Int) (ops : List Op) (hok : histOk (flagsOf p) State.init ops = true)
    (u : UUID) (a : Attrs) (h : reported (proxyAfter p ops) u = some a) : a.uid = u := by
  have hi := (run_sim (flagsOf p) ops Inv.init (sim_init _) hok).1
  unfold proxyAfter reported at h
  cases hm : AL.get (run repaired (flagsOf p) State.init ops).1.map u with
  | none => rw [hm] at h; cases h
  | some r => rw [hm] at h; exact hi.uid_eq hm h

/-- with the repairs no tab-list call panics (the nil packet of an unchanged entry, the typed-nil chat session) -/
theorem api_never_panics (p : Int) (ops : List Op) (hok : histOk (flagsOf p) State.init ops = true) :
    ∀ r ∈ results repaired (flagsOf p) State.init ops, r ≠ Res.panic :=
  (run_sim (flagsOf p) ops Inv.init (sim_init _) hok).2.2

/-- Histories made of backend packets, `RemoveAll` and setters on current entries with a non-zero uuid
    never meet a hazard: for them the property holds unconditionally. -/
def backendish : Op → Bool
  | .beUpsert _ _ => true | .beRemove _ => true | .removeAll _ => true | .new _ _ => true
  | .setCur u _ => u ≠ nilUUID
  | _ => false

theorem backendish_histOk (fl : Caps) (ops : List Op) (s : State) (h : ops.all backendish = true) :
    histOk fl s ops = true := by
  induction ops generalizing s with
  | nil => rfl
  | cons op ops ih =>
    simp only [List.all_cons, Bool.and_eq_true] at h
    simp only [histOk, Bool.and_eq_true]
    obtain ⟨h1, h2⟩ := h
    refine ⟨?_, ih _ h2⟩
    cases op with
    | setCur u f =>
      simp [backendish] at h1
      simp [opOk, nilSetHazard, h1]
    | add _ => simp [backendish] at h1
    | set _ _ => simp [backendish] at h1
    | _ => rfl

theorem entries_eq_client_backend (p : Int) (ops : List Op) (h : ops.all backendish = true) (u : UUID) :
    (reported (proxyAfter p ops) u).map (view (capsOf p)) = AL.get (clientAfter p ops) u :=
  entries_eq_client_partial p ops (backendish_histOk _ ops _ h) u

/-- The client's two-phase handling of an update packet (all `putIfAbsent`s first, then all actions) acts on
    each key like handling the packet's entries for that key one after the other. -/
theorem client_two_phase_eq_sequential (caps : Caps) (c : Client) (acts : List Action) (es : List PEntry) (u : UUID) :
    AL.get (Client.handle caps c (.upsert acts es)) u =
      (forKey u es).foldl (fun x e => ptC caps acts e x) (AL.get c u) := get_handle_upsert caps c acts es u

/-- order and multiplicity of the action list are irrelevant to the client -/
theorem client_ignores_action_order (caps : Caps) (acts acts' : List Action) (e : PEntry) (ci : CEntry)
    (h : ∀ a, acts.contains a = acts'.contains a) :
    applyActions caps acts e ci = applyActions caps acts' e ci := by
  simp only [applyActions_eq, applyRec, h]

/-! ### recorded hazards: the unrestricted property is false for the code as it is -/

def aliceNew (h : Nat) (name : String) (lat : Int) : Op :=
  .new h { uid := 1, name := name, props := "-", display := none, latency := lat, gameMode := 0, listed := true,
           order := 0, chatTN := false, hat := true }

/-- `Add` of a second entry with the same uuid but another profile name: the proxy reports "bob", the client
    still holds "alice" (no ADD_PLAYER is sent for an existing uuid). -/
theorem entries_eq_client_fails_profile_replaced :
    let ops := [aliceNew 1 "alice" 0, .add [1], aliceNew 2 "bob" 0, .add [2]]
    (reported (proxyAfter 767 ops) 1).map (view (capsOf 767)) ≠ AL.get (clientAfter 767 ops) 1 := by
  decide +kernel

/-- a setter on a handle the list no longer holds: the client applies the update to the current entry -/
theorem entries_eq_client_fails_stale_handle :
    let ops := [aliceNew 1 "alice" 1000000, .add [1], aliceNew 2 "alice" 2000000, .add [2], .set 1 (.latency 9000000)]
    (reported (proxyAfter 767 ops) 1).map (view (capsOf 767)) ≠ AL.get (clientAfter 767 ops) 1 := by
  decide +kernel

/-- a backend entry under the all-zero uuid: `Entries()[0].SetLatency` changes the proxy's entry, fails, sends nothing -/
theorem entries_eq_client_fails_nil_uuid_setter :
    let ops := [Op.beUpsert [.add] [{ uid := 0, name := "nil" }], .setCur 0 (.latency 8000000)]
    (reported (proxyAfter 767 ops) 0).map (view (capsOf 767)) ≠ AL.get (clientAfter 767 ops) 0 := by
  decide +kernel

/-- these three histories are exactly what `histOk` excludes -/
example : histOk (flagsOf 767) State.init [aliceNew 1 "alice" 0, .add [1], aliceNew 2 "bob" 0, .add [2]] = false := by decide +kernel
example : histOk (flagsOf 767) State.init
    [aliceNew 1 "alice" 1000000, .add [1], aliceNew 2 "alice" 2000000, .add [2], .set 1 (.latency 9000000)] = false := by decide +kernel
example : histOk (flagsOf 767) State.init [Op.beUpsert [.add] [{ uid := 0, name := "nil" }], .setCur 0 (.latency 8000000)] = false := by
  decide +kernel

/-! ### the four repaired defects, as witnesses on the `original` variant -/

/-- DESIGN §11 row 16: `add` returns a nil packet for an unchanged entry and `Add` dereferences it -/
theorem add_unchanged_entry_panics_original :
    results original (flagsOf 767) State.init [aliceNew 1 "alice" 0, .add [1], .add [1]] = [.ok, .ok, .panic] := by
  decide +kernel

/-- DESIGN §11 row 16: a backend UPDATE_HAT is not applied to the proxy's entry -/
theorem backend_hat_fails_original :
    let ops := [Op.beUpsert [.add, .hat] [{ uid := 2, name := "carl", hat := false }]]
    (reported (run original (flagsOf 769) State.init ops).1 2).map (view (capsOf 769)) ≠
      AL.get (Client.handleAll (capsOf 769) [] (run original (flagsOf 769) State.init ops).2) 2 := by
  decide +kernel

/-- a backend INITIALIZE_CHAT without session leaves a typed-nil chat session: re-adding that entry panics
    after the map was updated and before anything is sent — the proxy reports an entry the client never got -/
theorem typed_nil_chat_fails_original :
    let ops := [aliceNew 1 "alice" 0, .add [1], Op.beUpsert [.chat] [{ uid := 1 }], .removeAll [1], .add [1]]
    results original (flagsOf 767) State.init ops = [.ok, .ok, .ok, .ok, .panic] ∧
    (reported (run original (flagsOf 767) State.init ops).1 1).isSome = true ∧
    AL.get (Client.handleAll (capsOf 767) [] (run original (flagsOf 767) State.init ops).2) 1 = none := by
  decide +kernel

/-- a new API entry with `ShowHat() == false`: nothing is sent, the client shows the hat -/
theorem new_entry_hat_false_fails_original :
    let ops := [Op.new 1 { uid := 1, name := "alice", props := "-", display := none, latency := 0, gameMode := 0,
                           listed := true, order := 0, chatTN := false, hat := false }, .add [1]]
    (reported (run original (flagsOf 769) State.init ops).1 1).map (view (capsOf 769)) ≠
      AL.get (Client.handleAll (capsOf 769) [] (run original (flagsOf 769) State.init ops).2) 1 := by
  decide +kernel

/-! ### tie to the source (facts regenerated by tools/gofacts) -/

def before (a b : String) (cs : List String) : Bool := cs.idxOf a < cs.idxOf b && cs.idxOf b < cs.length

open Gate.Gen.C28 in
/-- backend player-info packets are first applied to the tab list, then forwarded; the forward writes the
    original payload -/
theorem src_backend_process_then_forward :
    before "b.serverConn.player.tabList.ProcessUpdate" "b.forwardToPlayer" handleUpsertCalls ∧
    before "b.serverConn.player.tabList.ProcessRemove" "b.forwardToPlayer" handleRemoveCalls ∧
    "b.serverConn.player.Write" ∈ forwardToPlayerCalls := by decide +kernel

open Gate.Gen.C28 in
/-- `processUpdateForEntry` applies every field action, the hat included -/
theorem src_process_update_applies_all_fields :
    "e.SetGameModeInternal" ∈ processUpdateForEntryCalls ∧ "e.SetLatencyInternal" ∈ processUpdateForEntryCalls ∧
    "e.SetDisplayNameInternal" ∈ processUpdateForEntryCalls ∧ "e.SetListedInternal" ∈ processUpdateForEntryCalls ∧
    "e.SetListOrderInternal" ∈ processUpdateForEntryCalls ∧ "e.SetShowHatInternal" ∈ processUpdateForEntryCalls ∧
    "e.SetChatSessionInternal" ∈ processUpdateForEntryCalls := by decide +kernel

open Gate.Gen.C28 in
/-- shape of the API paths the model mirrors: `Add` = `add` per entry, buffer, flush; `RemoveAll` = delete
    then buffer; setters emit through `WritePacket`; `equalLocked` is `DeepEqual` under try-locks -/
theorem src_api_shape :
    before "t.add" "t.Viewer.BufferPacket" addCalls ∧ before "t.Viewer.BufferPacket" "t.Viewer.Flush" addCalls ∧
    before "t.Lock" "equalLocked" addOneCalls ∧ before "t.Unlock" "equalLocked" addOneCalls ∧
    before "t.deleteEntries" "t.Viewer.BufferPacket" removeAllCalls ∧
    "t.Viewer.WritePacket" ∈ emitActionRawCalls ∧
    equalWithLockerCalls = ["x.TryRLock", "defer:x.RUnlock", "y.TryLock", "defer:y.Unlock", "reflect.DeepEqual", "return"] ∧
    "delete" ∈ processRemoveCalls ∧ before "t.Lock" "t.processUpdateForEntry" processUpdateCalls := by decide +kernel

/-- a history that mixes every kind of op satisfies the hypothesis of the main theorem -/
example : histOk (flagsOf 769) State.init
    [aliceNew 1 "alice" 1500000, .add [1], .add [1], .set 1 (.gameMode 3),
     .beUpsert [.latency, .add, .hat] [{ uid := 1, latency := 7, hat := false }, { uid := 2, name := "bob", latency := 9 }],
     .setCur 2 (.order 4), aliceNew 2 "alice" 0, .add [2, 1], .beRemove [2], .removeAll []] = true := by decide +kernel

/-- … and the theorem then says something non-trivial: both sides hold "alice" with latency 7 ms, spectator, no hat -/
example :
    let ops := [aliceNew 1 "alice" 1500000, .add [1], .set 1 (.gameMode 3),
                Op.beUpsert [.latency, .add, .hat] [{ uid := 1, latency := 7, hat := false }]]
    AL.get (clientAfter 769 ops) 1 =
      some { uid := 1, name := "alice", props := "-", display := none, latency := 7, gameType := 3, listed := true,
             order := 0, hat := false } := by decide +kernel

end Gate.C28.Props
