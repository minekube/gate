import GateModel.C28.View
/-
C28 helper lemmas: lookup semantics of association lists, the client's packet handling seen key by key,
the proxy's steps seen key by key, and the invariants of the proxy state.
-/
namespace Gate.C28

namespace AL
variable {κ : Type} [DecidableEq κ] {α : Type}

@[simp] theorem get_nil (x : κ) : get ([] : List (κ × α)) x = none := rfl

theorem get_set (m : List (κ × α)) (k : κ) (v : α) (x : κ) :
    get (set m k v) x = if x = k then some v else get m x := by
  fun_induction set m k v with
  | case1 => rfl
  | case2 k v' m v =>
    unfold get
    split <;> rfl
  | case3 k' v' m k v h ih =>
    unfold get
    rw [ih]
    by_cases hx : x = k'
    · rw [if_pos hx, if_neg (fun e => h (e.symm.trans hx)), if_pos hx]
    · rw [if_neg hx, if_neg hx]

theorem get_set_self (m : List (κ × α)) (k : κ) (v : α) : get (set m k v) k = some v := by
  simp [get_set]

theorem get_set_ne (m : List (κ × α)) (k : κ) (v : α) (x : κ) (h : x ≠ k) : get (set m k v) x = get m x := by
  simp [get_set, h]

theorem get_erase (m : List (κ × α)) (k : κ) (x : κ) :
    get (erase m k) x = if x = k then none else get m x := by
  induction m with
  | nil => simp [erase, get]
  | cons p m ih =>
    obtain ⟨k', v'⟩ := p
    unfold erase at ih ⊢
    by_cases h : k' = k
    · subst h
      rw [List.filter_cons_of_neg (by simp), ih, get]
      by_cases hx : x = k' <;> simp [hx]
    · rw [List.filter_cons_of_pos (by simpa using h), get, get, ih]
      by_cases hx : x = k'
      · rw [if_pos hx, if_pos hx, if_neg (fun e => h (hx.symm.trans e))]
      · rw [if_neg hx, if_neg hx]

theorem get_foldl_erase (ids : List κ) (m : List (κ × α)) (x : κ) :
    get (ids.foldl erase m) x = if x ∈ ids then none else get m x := by
  induction ids generalizing m with
  | nil => simp
  | cons i ids ih =>
    simp only [List.foldl_cons, ih, get_erase, List.mem_cons]
    by_cases h1 : x ∈ ids <;> by_cases h2 : x = i <;> simp [h1, h2]

theorem get_eq_none_iff (m : List (κ × α)) (x : κ) : get m x = none ↔ x ∉ keys m := by
  induction m with
  | nil => simp [keys]
  | cons p m ih =>
    obtain ⟨k', v'⟩ := p
    unfold keys at ih ⊢
    simp only [get, List.map_cons, List.mem_cons, not_or]
    by_cases hx : x = k'
    · simp [hx]
    · simp only [hx, if_false, not_false_eq_true, true_and]; exact ih

end AL

/-- the closed form of the client's loop over an action list: every selected field is overwritten -/
def applyRec (caps : Caps) (acts : List Action) (e : PEntry) (ci : CEntry) : CEntry :=
  { ci with
    gameType := if acts.contains .gameMode then gameTypeById e.gameMode else ci.gameType
    listed := if acts.contains .listed then e.listed else ci.listed
    latency := if acts.contains .latency then e.latency else ci.latency
    display := if acts.contains .display then e.display else ci.display
    order := if acts.contains .order && caps.ord then e.order else ci.order
    hat := if acts.contains .hat && caps.hat then e.hat else ci.hat }

theorem applyAction_eq (caps : Caps) (e : PEntry) (ci : CEntry) (a : Action) :
    applyAction caps e ci a = applyRec caps [a] e ci := by
  obtain ⟨o, h⟩ := caps
  cases a <;> first | rfl | (cases o <;> cases h <;> rfl)

theorem ite_or_eq {α : Type} (p q : Bool) (v w : α) :
    (if (p || q) = true then v else w) = if q = true then v else if p = true then v else w := by
  cases p <;> cases q <;> rfl

/-- applying the actions of any list one after the other: later actions on the same field win, and all
    write the same value, so only membership matters -/
theorem foldl_applyAction (caps : Caps) (e : PEntry) (L : List Action) (ci : CEntry) :
    L.foldl (applyAction caps e) ci = applyRec caps L e ci := by
  induction L generalizing ci with
  | nil => rfl
  | cons a L ih =>
    rw [List.foldl_cons, ih, applyAction_eq]
    simp only [applyRec, List.contains_cons, List.contains_nil, Bool.or_false, Bool.and_or_distrib_right, ite_or_eq]

theorem contains_canonActs (acts : List Action) (a : Action) : (canonActs acts).contains a = acts.contains a := by
  have : a ∈ allActions := by cases a <;> decide
  rw [Bool.eq_iff_iff]
  simp only [canonActs, List.contains_iff_mem, List.mem_filter, this, true_and]

theorem applyActions_eq (caps : Caps) (acts : List Action) (e : PEntry) (ci : CEntry) :
    applyActions caps acts e ci = applyRec caps acts e ci := by
  unfold applyActions enumSet
  rw [foldl_applyAction]
  simp only [applyRec, contains_canonActs]

/-- the effect of one entry of an update packet on what the client holds for that entry's key -/
def ptC (caps : Caps) (acts : List Action) (e : PEntry) : Option CEntry → Option CEntry
  | some ci => some (applyActions caps acts e ci)
  | none => if acts.contains .add then some (applyActions caps acts e (newInfo e)) else none

theorem ptC_none_noadd (fl : Caps) (acts : List Action) (e : PEntry) (h : acts.contains Action.add = false) :
    ptC fl acts e none = none := by
  show (if acts.contains Action.add = true then _ else none) = none
  rw [h]; rfl

theorem ptC_none_add (fl : Caps) (acts : List Action) (e : PEntry) (h : acts.contains Action.add = true) :
    ptC fl acts e none = some (applyActions fl acts e (newInfo e)) := by
  show (if acts.contains Action.add = true then _ else none) = _
  rw [h]; rfl

theorem get_putIfAbsent (c : Client) (e : PEntry) (u : UUID) :
    AL.get (putIfAbsent c e) u = if u = e.uid then (AL.get c u).or (some (newInfo e)) else AL.get c u := by
  unfold putIfAbsent
  cases h : AL.get c e.uid <;> by_cases hu : u = e.uid <;> simp [h, hu, AL.get_set]

theorem get_updateEntry (caps : Caps) (acts : List Action) (c : Client) (e : PEntry) (u : UUID) :
    AL.get (updateEntry caps acts c e) u =
      if u = e.uid then (AL.get c u).map (applyActions caps acts e) else AL.get c u := by
  unfold updateEntry
  cases h : AL.get c e.uid <;> by_cases hu : u = e.uid <;> simp [h, hu, AL.get_set]

/-- the entries of a packet that concern key `u` -/
def forKey (u : UUID) (es : List PEntry) : List PEntry := es.filter (fun e => decide (e.uid = u))

theorem forKey_cons_eq (u : UUID) (e : PEntry) (es : List PEntry) (h : e.uid = u) :
    forKey u (e :: es) = e :: forKey u es := by simp [forKey, h]
theorem forKey_cons_ne (u : UUID) (e : PEntry) (es : List PEntry) (h : e.uid ≠ u) :
    forKey u (e :: es) = forKey u es := by simp [forKey, h]

/-- A loop over a packet's entries in which each entry `e` changes only what is looked up under `e.uid`, and
    that by `g e`: seen at one key, only the entries for that key act, in order.  `I` is an invariant of the
    loop under which the steps have this form. -/
theorem lookup_foldl {σ β : Type} {look : σ → UUID → Option β} {step : σ → PEntry → σ}
    {g : PEntry → Option β → Option β} {I : σ → Prop}
    (h : ∀ c e, I c → I (step c e) ∧ ∀ u, look (step c e) u = if u = e.uid then g e (look c u) else look c u)
    (es : List PEntry) (c : σ) (hc : I c) :
    I (es.foldl step c) ∧ ∀ u, look (es.foldl step c) u = (forKey u es).foldl (fun x e => g e x) (look c u) := by
  induction es generalizing c with
  | nil => exact ⟨hc, fun u => rfl⟩
  | cons e es ih =>
    obtain ⟨h1, h2⟩ := h c e hc
    obtain ⟨i1, i2⟩ := ih _ h1
    refine ⟨i1, fun u => ?_⟩
    rw [List.foldl_cons, i2 u, h2 u]
    by_cases hu : u = e.uid
    · rw [if_pos hu, forKey_cons_eq u e es hu.symm, List.foldl_cons]
    · rw [if_neg hu, forKey_cons_ne u e es (fun x => hu x.symm)]

theorem get_foldl_keyed {step : Client → PEntry → Client} {g : PEntry → Option CEntry → Option CEntry}
    (h : ∀ c e u, AL.get (step c e) u = if u = e.uid then g e (AL.get c u) else AL.get c u)
    (es : List PEntry) (c : Client) (u : UUID) :
    AL.get (es.foldl step c) u = (forKey u es).foldl (fun x e => g e x) (AL.get c u) :=
  (lookup_foldl (I := fun _ => True) (fun c e _ => ⟨trivial, h c e⟩) es c trivial).2 u

theorem foldl_fixed {α β : Type} {f : α → β → α} {a : α} (h : ∀ b, f a b = a) (l : List β) : l.foldl f a = a := by
  induction l with
  | nil => rfl
  | cons b l ih => rw [List.foldl_cons, h, ih]

/-- The client's two-phase handling of an update packet (first `putIfAbsent` for all new entries, then the
    actions of all entries) equals, key by key, handling the entries one after the other. -/
theorem get_handle_upsert (caps : Caps) (c : Client) (acts : List Action) (es : List PEntry) (u : UUID) :
    AL.get (Client.handle caps c (.upsert acts es)) u =
      (forKey u es).foldl (fun x e => ptC caps acts e x) (AL.get c u) := by
  simp only [Client.handle, get_foldl_keyed (get_updateEntry caps acts)]
  -- on an entry that exists both loops apply the actions, and `putIfAbsent` does nothing
  have hupd : ∀ (L : List PEntry) (ci : CEntry),
      L.foldl (fun x e => x.map (applyActions caps acts e)) (some ci) =
        L.foldl (fun x e => ptC caps acts e x) (some ci) := fun L ci =>
    (List.foldl_hom some (g₁ := fun ci e => applyActions caps acts e ci) fun _ _ => rfl).trans
      (List.foldl_hom some fun _ _ => rfl).symm
  have hput : ∀ (L : List PEntry) (ci : CEntry),
      L.foldl (fun x e => x.or (some (newInfo e))) (some ci) = some ci := fun L ci => foldl_fixed (fun _ => rfl) L
  cases hadd : acts.contains Action.add
  · rw [if_neg Bool.false_ne_true]
    cases AL.get c u with
    | some ci => exact hupd _ ci
    | none =>
      exact (foldl_fixed (fun _ => rfl) _).trans (foldl_fixed (fun e => ptC_none_noadd caps acts e hadd) _).symm
  · rw [if_pos rfl, get_foldl_keyed (g := fun e x => x.or (some (newInfo e))) get_putIfAbsent]
    cases AL.get c u with
    | some ci => rw [hput]; exact hupd _ ci
    | none =>
      cases forKey u es with
      | nil => rfl
      | cons e L =>
        -- the first entry for `u` creates what the client holds; from there on both loops meet an existing entry
        show L.foldl _ (Option.map _ (L.foldl _ (some (newInfo e)))) = L.foldl _ (ptC caps acts e none)
        rw [hput, ptC_none_add caps acts e hadd]
        exact hupd L _

theorem get_handle_remove (caps : Caps) (c : Client) (ids : List UUID) (u : UUID) :
    AL.get (Client.handle caps c (.remove ids)) u = if u ∈ ids then none else AL.get c u := by
  simp only [Client.handle, AL.get_foldl_erase]

structure Inv (s : State) : Prop where
  /-- every map entry points to a live object whose profile id is the key -/
  keyed : ∀ u r, AL.get s.map u = some r → ∃ a, AL.get s.heap r = some a ∧ a.uid = u
  /-- objects `ProcessUpdate` will allocate do not exist yet -/
  fresh : ∀ k, s.nbe ≤ k → AL.get s.heap (Ref.be k) = none
  /-- (repaired code) no object carries a typed-nil chat session -/
  noTN : ∀ r a, AL.get s.heap r = some a → a.chatTN = false
  /-- `add` never stores an API object under the all-zero uuid -/
  apiNonNil : ∀ u h, AL.get s.map u = some (Ref.api h) → u ≠ nilUUID

theorem Inv.init : Inv State.init :=
  ⟨fun _ _ h => by simp [State.init] at h, fun _ _ => rfl, fun _ _ h => by simp [State.init] at h,
   fun _ _ h => by simp [State.init] at h⟩

theorem Inv.uid_eq {s : State} (hi : Inv s) {u : UUID} {r : Ref} {a : Attrs}
    (hm : AL.get s.map u = some r) (hr : AL.get s.heap r = some a) : a.uid = u := by
  obtain ⟨b, hb, hbu⟩ := hi.keyed u r hm
  rw [hr] at hb; cases hb; exact hbu

theorem Inv.unique {s : State} (hi : Inv s) {u u' : UUID} {r : Ref}
    (h : AL.get s.map u = some r) (h' : AL.get s.map u' = some r) : u = u' := by
  obtain ⟨a, ha, hu⟩ := hi.keyed u r h
  exact hu.symm.trans (hi.uid_eq h' ha)

theorem reported_of {s : State} {u : UUID} {r : Ref} (h : AL.get s.map u = some r) :
    reported s u = AL.get s.heap r := by simp [reported, h]

theorem reported_none {s : State} {u : UUID} (h : AL.get s.map u = none) : reported s u = none := by
  simp [reported, h]

/-- mutating the object `r` (keeping its profile id): only the key that holds `r` sees it -/
theorem heap_set_reported (s : State) (r : Ref) (a' : Attrs) (u : UUID) :
    reported { s with heap := AL.set s.heap r a' } u =
      if AL.get s.map u = some r then some a' else reported s u := by
  unfold reported
  cases hm : AL.get s.map u with
  | none => simp
  | some r' =>
    by_cases h : r' = r
    · subst h; simp [AL.get_set]
    · simp [AL.get_set, h]

theorem heap_set_inv {s : State} (hi : Inv s) {r : Ref} {a a' : Attrs}
    (hr : AL.get s.heap r = some a) (hu : a'.uid = a.uid) (htn : a'.chatTN = false) :
    Inv { s with heap := AL.set s.heap r a' } := by
  refine ⟨?_, ?_, ?_, hi.apiNonNil⟩
  · intro u r' h
    obtain ⟨b, hb, hbu⟩ := hi.keyed u r' h
    by_cases e : r' = r
    · subst e; exact ⟨a', AL.get_set_self _ _ _, hu.trans (hi.uid_eq h hr)⟩
    · exact ⟨b, (AL.get_set_ne _ _ _ _ e).trans hb, hbu⟩
  · intro k hk
    have := hi.fresh k hk
    rw [AL.get_set_ne _ _ _ _ (fun e => by rw [e, hr] at this; cases this)]
    exact this
  · intro r' b hb
    rw [AL.get_set] at hb
    split at hb
    · cases hb; exact htn
    · exact hi.noTN r' b hb

/-- a new object at a reference nothing holds yet: the invariant stays and no reported entry changes -/
theorem heap_alloc {s : State} (hi : Inv s) {r : Ref} {a : Attrs} {n : Nat} (hn : AL.get s.heap r = none)
    (htn : a.chatTN = false) (hf : ∀ k, n ≤ k → s.nbe ≤ k ∧ Ref.be k ≠ r) :
    Inv { s with heap := AL.set s.heap r a, nbe := n } ∧
      ∀ u, reported { s with heap := AL.set s.heap r a, nbe := n } u = reported s u := by
  have hne : ∀ u r', AL.get s.map u = some r' → r' ≠ r := fun u r' hm e => by
    obtain ⟨b, hb, _⟩ := hi.keyed u r' hm
    rw [e, hn] at hb; cases hb
  refine ⟨⟨?_, ?_, ?_, hi.apiNonNil⟩, fun u => ?_⟩
  · intro u r' hm
    obtain ⟨b, hb, hbu⟩ := hi.keyed u r' hm
    exact ⟨b, (AL.get_set_ne _ _ _ _ (hne u r' hm)).trans hb, hbu⟩
  · intro k hk
    exact (AL.get_set_ne _ _ _ _ (hf k hk).2).trans (hi.fresh k (hf k hk).1)
  · intro r' b hb
    rw [AL.get_set] at hb
    split at hb
    · cases hb; exact htn
    · exact hi.noTN r' b hb
  · refine (heap_set_reported s r a u).trans (if_neg fun hm => hne u r hm rfl)

/-- `m[a.uid] = h` for a live object `h` with attributes `a` -/
theorem map_set_reported {s : State} {h : Ref} {a : Attrs} (hh : AL.get s.heap h = some a) (u : UUID) :
    reported { s with map := AL.set s.map a.uid h } u = if u = a.uid then some a else reported s u := by
  unfold reported
  by_cases e : u = a.uid
  · subst e; simp [AL.get_set, hh]
  · simp [AL.get_set, e]

theorem map_set_inv {s : State} (hi : Inv s) {h : Ref} {a : Attrs} (hh : AL.get s.heap h = some a)
    (hn : ∀ n, h = Ref.api n → a.uid ≠ nilUUID) :
    Inv { s with map := AL.set s.map a.uid h } := by
  refine ⟨fun u r hm => ?_, hi.fresh, hi.noTN, fun u n hm => ?_⟩ <;> rw [AL.get_set] at hm <;> split at hm
  · next e => cases hm; exact ⟨a, hh, e.symm⟩
  · exact hi.keyed u r hm
  · next e => cases hm; exact e ▸ hn n rfl
  · exact hi.apiNonNil u n hm

theorem map_erase_reported (s : State) (ids : List UUID) (u : UUID) :
    reported { s with map := ids.foldl AL.erase s.map } u = if u ∈ ids then none else reported s u := by
  unfold reported
  simp only [AL.get_foldl_erase]
  by_cases e : u ∈ ids <;> simp [e]

theorem map_shrink_inv {s : State} (hi : Inv s) {m : List (UUID × Ref)}
    (h : ∀ u r, AL.get m u = some r → AL.get s.map u = some r) : Inv { s with map := m } :=
  ⟨fun u r hm => hi.keyed u r (h u r hm), hi.fresh, hi.noTN, fun u n hm => hi.apiNonNil u n (h u _ hm)⟩

theorem map_erase_inv {s : State} (hi : Inv s) (ids : List UUID) :
    Inv { s with map := ids.foldl AL.erase s.map } :=
  map_shrink_inv hi fun u r hm => by
    rw [AL.get_foldl_erase] at hm
    split at hm
    · cases hm
    · exact hm

theorem map_clear_inv {s : State} (hi : Inv s) : Inv { s with map := [] } :=
  map_shrink_inv hi fun _ _ hm => nomatch hm

def Sim (fl : Caps) (s : State) (c : Client) : Prop := ∀ u, (reported s u).map (view fl) = AL.get c u

theorem msOf_mul (ms : Int) : msOf (ms * 1000000) = ms := by
  unfold msOf; exact Int.mul_tdiv_cancel ms (by decide)

theorem gameTypeById_neg_one : gameTypeById (-1) = 0 := by decide
theorem gameTypeById_256 : gameTypeById 256 = 0 := by decide

theorem view_beDefault (fl : Caps) (e : PEntry) : view fl (beDefault e) = newInfo e := by
  simp only [view, beDefault, ite_self]
  rfl

/-- `o`: the client's protocol has the field, `c`: the packet carries it.  A field the protocol lacks shows
    its default `z` whatever is written to it. -/
theorem ite_caps {α : Type} (o c : Bool) (x y z : α) :
    (if o = true then (if c = true then x else y) else z) =
      if (c && o) = true then x else if o = true then y else z := by
  cases o <;> cases c <;> rfl

theorem view_applyBackend (fl : Caps) (acts : List Action) (e : PEntry) (a : Attrs) :
    view fl (applyBackend repaired acts e a) = applyActions fl acts e (view fl a) := by
  rw [applyActions_eq]
  simp only [view, applyBackend, applyRec, repaired, apply_ite msOf, apply_ite gameTypeById, msOf_mul,
    Bool.not_false, Bool.and_true, ite_caps]

/-- a setter's packet, if the client's protocol has the field, carries the one action that takes the client's
    view of the entry to the view of the updated entry; if not, the view does not change -/
theorem view_setField (fl : Caps) (a : Attrs) (f : Field) :
    match fieldPacket fl a.uid f with
    | none => view fl (a.setField f) = view fl a
    | some p => ∃ act e, p = .upsert [act] [e] ∧ e.uid = a.uid ∧ [act].contains Action.add = false ∧
        view fl (a.setField f) = applyActions fl [act] e (view fl a) := by
  obtain ⟨o, h⟩ := fl
  cases f
  case order v =>
    cases o
    · rfl
    · exact ⟨_, _, rfl, rfl, rfl, rfl⟩
  case hat v =>
    cases h
    · rfl
    · exact ⟨_, _, rfl, rfl, rfl, rfl⟩
  all_goals exact ⟨_, _, rfl, rfl, rfl, rfl⟩

theorem setField_uid (a : Attrs) (f : Field) : (a.setField f).uid = a.uid := by cases f <;> rfl
theorem setField_chatTN (a : Attrs) (f : Field) : (a.setField f).chatTN = a.chatTN := by cases f <;> rfl

/-- a brand-new entry: the packet `add` builds makes the client hold exactly what the proxy reports -/
theorem view_newEntry (fl : Caps) (a : Attrs) :
    applyActions fl (newActs repaired fl a) (newEntry a) (newInfo (newEntry a)) = view fl a := by
  rw [applyActions_eq]
  simp only [view, applyRec, newActs, newEntry, newInfo, baseEntry, repaired, Bool.and_eq_true,
    List.contains_iff_mem, List.mem_append, List.mem_ite_nil_right, List.mem_cons, List.mem_nil_iff, reduceCtorEq,
    or_false, false_or, and_false, and_true, or_true, if_true, and_self, and_assoc]
  -- a field that is not sent has the value a fresh `PlayerInfo` starts with
  congr 1
  · cases a.display <;> rfl
  · split
    · rfl
    · rename_i h
      by_cases h1 : a.gameMode = -1
      · rw [h1, gameTypeById_neg_one]
      · rw [Decidable.not_not.mp (fun h2 => h ⟨h1, h2⟩), gameTypeById_256]
  · by_cases h0 : a.order = 0
    · rw [if_neg (fun h => h.1 h0), h0, ite_self]
    · simp only [ne_eq, h0, not_false_eq_true, true_and]

/-- A field is put into the diff packet iff it changed (`x ≠ y`) and the client has it (`c`); sent or not,
    a client that has the field ends with the new value `y`. -/
theorem ite_diff {α : Type} [DecidableEq α] (c : Prop) [Decidable c] (x y d : α) :
    (if x ≠ y ∧ c then y else if c then x else d) = if c then y else d := by
  by_cases h : x = y
  · rw [h, if_neg (fun h => h.1 rfl)]
  · by_cases hc : c
    · rw [if_pos ⟨h, hc⟩, if_pos hc]
    · rw [if_neg (fun h => hc h.2), if_neg hc, if_neg hc]

/-- an existing entry with the same profile: the diff packet moves the client from the old entry's view
    to the new entry's view -/
theorem view_updEntry (fl : Caps) (p a : Attrs) (hu : p.uid = a.uid) (hn : p.name = a.name) (hp : p.props = a.props) :
    applyActions fl (updActs fl p a) (updEntry p a) (view fl p) = view fl a := by
  rw [applyActions_eq]
  simp only [view, applyRec, updActs, updEntry, baseEntry, Bool.and_eq_true, List.contains_iff_mem,
    List.mem_append, List.mem_ite_nil_right, List.mem_cons, List.mem_nil_iff, reduceCtorEq, or_false,
    false_or, and_false, and_true, and_self, and_assoc, hu, hn, hp]
  congr 1
  -- a field that is not sent did not change
  iterate 4
    split
    · rfl
    · rename_i h; rw [Decidable.not_not.mp h]
  · exact ite_diff _ _ _ _
  · exact ite_diff _ _ _ _

end Gate.C28
