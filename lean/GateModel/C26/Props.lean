import GateModel.C26.Lemmas
import GateModel.Gen.C26
/-
C26 — the BungeeCord plugin channel behaves like BungeeCord (as ported by Velocity).

`process` is the model of the REPAIRED `bungee_message.go` (fixes/C26-*.diff applied to
/repo), `spec` the hand transcription of Velocity's `BungeeCordMessageResponder`, `adapt` the model of the
repaired provider adapter `bungee.go`, `specAdapt` what Velocity writes per connection.  All theorems hold for
every proxy state (arbitrary lookup functions), every channel and every request byte string.

Hypotheses, all stated explicitly and shown satisfiable below:
  `NamesOk st`   names that are joined/compared are non-empty (gate's `joiner` drops the separator after an empty
                 first element; an empty server name would equal the "no current server" marker);
  `hjson`        the JSON decoder gate picks by the caller's protocol for KickPlayerRaw is the one default JSON decoder;
  `NoPanic ext`  the external component decoders do not panic.
What the reference leaves undefined (not claimed): `utfTooLong`, `badComponent`, `emptyForward` exceptions, and channel
ids that match only case-insensitively.
-/
namespace Gate.C26.Props
open Gate Gate.C26
set_option linter.unusedVariables false

/-- Wherever Velocity's responder completes normally, the repaired responder reports the message handled and makes
    exactly the same provider calls (same connection, same bytes, same order), without panicking. -/
theorem process_refines_spec (ext : Ext) (st : St) (chan data : Bytes) (effs : List Effect)
    (hn : NamesOk st) (hjson : ext.jsonFor st.caller.protocol = ext.jsonDefault)
    (h : spec ext st chan data = some (.ok effs)) :
    process ext st chan data = ⟨true, effs, false⟩ :=
  agrees_process ext st chan data _ h ⟨hn, hjson⟩

/-- Where Velocity throws because the request is truncated or the addressed player has no live backend connection,
    the repaired responder does nothing (no response, no side effect, no panic). -/
theorem process_silent_where_reference_throws (ext : Ext) (st : St) (chan data : Bytes) (e : Exn)
    (he : e = .truncated ∨ e = .noServer) (h : spec ext st chan data = some (.error e)) :
    (process ext st chan data).effects = [] ∧ (process ext st chan data).panicked = false := by
  rcases he with rfl | rfl <;> exact agrees_process ext st chan data _ h

/-- No request makes the repaired responder panic ("no crash"), whatever the state. -/
theorem process_never_panics (ext : Ext) (st : St) (chan data : Bytes) (hp : NoPanic ext) :
    (process ext st chan data).panicked = false := by
  unfold process processV
  split
  · rfl
  · split
    · rfl
    · exact no_panic_sub ext st _ _ hp

/-- A message on any other channel is not processed at all. -/
theorem non_bungee_channel_ignored (ext : Ext) (st : St) (chan data : Bytes) (h : isBungee chan = false) :
    process ext st chan data = ⟨false, [], false⟩ := by
  simp [process, processV, h, Out.none]

/-- The reference is defined on both channel ids. -/
theorem spec_defined_on_bungee_channels (ext : Ext) (st : St) (data : Bytes) :
    (spec ext st cModern data).isSome ∧ (spec ext st cLegacy data).isSome := by
  simp [spec]

/-- `Forward <server> <rest>`: the target server is handed exactly the unread rest of the request. -/
theorem forward_payload_unchanged (ext : Ext) (st : St) (target rest : Bytes) (s : Server)
    (ht : target ≠ sALL ∧ target ≠ sONLINE) (hs : st.serverByName target = some s) (hl : target.length ≤ 65535) :
    process ext st cLegacy (writeUTF sForward ++ writeUTF target ++ rest) = ⟨true, [.broadcast s.name rest], false⟩ := by
  have ht' : (target == sALL || target == sONLINE) = false := by simp [ht.1, ht.2]
  rw [List.append_assoc, process_of_sub ext st _ _ (by decide) (readUTF_writeUTF sForward _ (by decide)),
    processSub_forward]
  simp only [readUTF_writeUTF target rest hl, prepareForward_repaired, isAllOrOnline_repaired, ht', hs]
  rfl

/-- … hence a BungeeCord-framed message (`writeUTF(channel) writeShort(len) data`) arrives with its channel name
    still length-prefixed. -/
theorem forward_keeps_length_prefixed_channel (ext : Ext) (st : St) (target channel data : Bytes) (s : Server)
    (ht : target ≠ sALL ∧ target ≠ sONLINE) (hs : st.serverByName target = some s) (hl : target.length ≤ 65535) :
    process ext st cLegacy (writeUTF sForward ++ writeUTF target ++ forwardFrame channel data) =
      ⟨true, [.broadcast s.name (forwardFrame channel data)], false⟩ :=
  forward_payload_unchanged ext st target _ s ht hs hl

/-- `Forward ALL|ONLINE`: the payload is handed to every listed server other than the caller's current one, and
    (server names being distinct) to each of them exactly once. -/
theorem forward_all_each_other_server_once (ext : Ext) (st : St) (target rest : Bytes) (s : Server)
    (ht : target = sALL ∨ target = sONLINE) (hnd : (st.servers.map (·.name)).Nodup)
    (hs : s ∈ st.servers) (hcur : ∀ c, st.caller.conn = some c → c.server ≠ s.name) (hne : s.name ≠ []) :
    ((processSub repaired ext st sForward (writeUTF target ++ rest)).effects.filter
        (fun e => match e with | .broadcast n _ => n == s.name | _ => false)).length = 1
    ∧ ∀ e ∈ (processSub repaired ext st sForward (writeUTF target ++ rest)).effects,
        ∃ s' ∈ st.servers, e = .broadcast s'.name rest := by
  have hl : target.length ≤ 65535 := by rcases ht with rfl | rfl <;> decide
  have ht' : (target == sALL || target == sONLINE) = true := by rcases ht with rfl | rfl <;> rfl
  have hscur : s.name ≠ (match st.caller.conn with | some c => c.server | none => ([] : Bytes)) := by
    cases hc : st.caller.conn with
    | none => exact hne
    | some c => exact fun h => hcur c hc h.symm
  rw [processSub_forward]
  simp only [readUTF_writeUTF target rest hl, prepareForward_repaired, isAllOrOnline_repaired, ht', if_true, Out.of]
  constructor
  · -- the servers named `s.name` are counted, and names are distinct
    have hcount : (st.servers.map (·.name)).count s.name = 1 := by
      rw [hnd.count, if_pos (List.mem_map_of_mem hs)]
    rw [List.count_eq_countP, List.countP_map] at hcount
    rw [← List.countP_eq_length_filter, List.countP_map, List.countP_filter, ← hcount]
    apply List.countP_congr
    intro x _
    by_cases hx : x.name = s.name
    · simp [hx]
      exact hscur
    · simp [hx]
  · intro e he
    simp only [List.mem_map, List.mem_filter] at he
    obtain ⟨x, ⟨hx, _⟩, rfl⟩ := he
    exact ⟨x, hx, rfl⟩

/-- ForwardToPlayer writes the payload on the NAMED player's backend connection, with the channel id chosen by
    that connection's protocol. -/
theorem forward_to_player_uses_named_players_connection (ext : Ext) (st : St) (name rest : Bytes) (p : Player) (c : Conn)
    (hr : readUTF (writeUTF name ++ rest) = some (name, rest))
    (hp : st.playerByName name = some p) (hc : p.conn = some c) (hrest : rest ≠ []) :
    processSub repaired ext st sForwardToPlayer (writeUTF name ++ rest) = Out.of [.respond c rest] := by
  rw [processSub_forwardToPlayer]
  simp only [hr, hp, prepareForward_repaired, repaired_targetConn, if_true, hc, sendOn_some _ _ hrest]

/-- GetPlayerServer reports the NAMED player's server (on the caller's connection). -/
theorem get_player_server_reports_named_players_server (ext : Ext) (st : St) (name r : Bytes) (p : Player) (pc cc : Conn)
    (hr : readUTF (writeUTF name) = some (name, r))
    (hp : st.playerByName name = some p) (hpc : p.conn = some pc) (hcc : st.caller.conn = some cc) :
    processSub repaired ext st sGetPlayerServer (writeUTF name) =
      Out.of [.respond cc (writeUTF sGetPlayerServer ++ writeUTF p.name ++ writeUTF pc.server)] := by
  rw [processSub_getPlayerServer]
  simp only [hr, hp, repaired_targetConn, if_true, hpc, hcc, List.append_assoc, sendOn_utf]

/-- Every request that names a player does nothing when that player is unknown. -/
theorem unknown_player_no_effect (ext : Ext) (st : St) (sub name rest : Bytes)
    (hsub : sub ∈ [sForwardToPlayer, sConnectOther, sIPOther, sUUIDOther, sKickPlayer, sKickPlayerRaw, sGetPlayerServer])
    (hr : readUTF (writeUTF name ++ rest) = some (name, rest)) (hp : st.playerByName name = none) :
    processSub repaired ext st sub (writeUTF name ++ rest) = Out.of [] := by
  simp only [List.mem_cons, List.not_mem_nil, or_false] at hsub
  rcases hsub with rfl | rfl | rfl | rfl | rfl | rfl | rfl
  · rw [processSub_forwardToPlayer]; simp only [hr, hp]
  · rw [processSub_connectOther]; simp only [hr, hp]
  · rw [processSub_ipOther]; simp only [hr, hp]
  · rw [processSub_uuidOther]; simp only [hr, hp]
  · rw [processSub_kickPlayer, processKick]; simp only [hr, hp]
  · rw [processSub_kickPlayerRaw, processKick]; simp only [hr, hp]
  · rw [processSub_getPlayerServer]; simp only [hr, hp]

/-- A chat message for an unknown player (target ≠ ALL) is dropped — no nil dereference. -/
theorem message_unknown_target_no_effect (ext : Ext) (st : St) (dec : Bytes → Dec) (target msg r : Bytes) (c : Comp)
    (hr1 : readUTF (writeUTF target ++ writeUTF msg) = some (target, writeUTF msg))
    (hr2 : readUTF (writeUTF msg) = some (msg, r)) (hd : dec msg = .ok c)
    (ht : target ≠ sALL) (hp : st.playerByName target = none) :
    processMessage repaired st dec (writeUTF target ++ writeUTF msg) = Out.of [] := by
  simp [processMessage, hr1, hr2, hd, decOut, ht, repaired, hp]

/-- Every request that names a server does nothing when that server is unknown. -/
theorem unknown_server_no_effect (ext : Ext) (st : St) (sub name rest : Bytes)
    (hsub : sub ∈ [sForward, sConnect, sPlayerCount, sPlayerList, sServerIP])
    (hr : readUTF (writeUTF name ++ rest) = some (name, rest))
    (hall : name ≠ sALL ∧ name ≠ sONLINE) (hs : st.serverByName name = none) :
    processSub repaired ext st sub (writeUTF name ++ rest) = Out.of [] := by
  have h1 : (name == sALL) = false := by simp [hall.1]
  have h2 : (name == sONLINE) = false := by simp [hall.2]
  simp only [List.mem_cons, List.not_mem_nil, or_false] at hsub
  rcases hsub with rfl | rfl | rfl | rfl | rfl
  · rw [processSub_forward]
    simp only [hr, hs, prepareForward_repaired, isAllOrOnline_repaired, h1, h2, Bool.or_false, Bool.false_eq_true,
      if_false]
  · rw [processSub_connect]; simp only [hr, hs]
  · rw [processSub_playerCount]; simp only [hr, hs, isAll_repaired, h1, Bool.false_eq_true, if_false]
  · rw [processSub_playerList]; simp only [hr, hs, h1, Bool.false_eq_true, if_false]
  · rw [processSub_serverIP]; simp only [hr, hs]

/-- side conditions under which an effect is within the reference's domain -/
def AdaptOk (online : List Player) : Effect → Prop
  | .broadcast _ d => d ≠ []
  | .connect p _ => (online.find? (·.name == p)).isSome
  | .msgServer _ _ => False
  | _ => True

/-- The repaired adapter writes, per effect, exactly the packets Velocity writes: a response on that player's backend
    connection; a Forward payload ONCE on the backend connection of a player that is LISTED on the target server AND
    currently connected to it (never to clients, never through a player whose current server is another one); a
    connection request / disconnect / chat message for the addressed player.  `listed` (the servers' player lists)
    and the players' current connections are independent relations. -/
theorem adapter_refines_reference (online : List Player) (listed : Bytes → List Player)
    (pick : List Player → Option Player) (e : Effect)
    (h : AdaptOk online e) : adapt repairedA online listed pick e = specAdapt online listed pick e := by
  cases e with
  | respond c d => rfl
  | broadcast s d =>
    cases d with
    | nil => exact absurd rfl h
    | cons _ _ => rfl
  | connect p s =>
    simp only [AdaptOk] at h
    cases hf : online.find? (·.name == p) with
    | none => simp [hf] at h
    | some pl => cases hc : pl.conn <;> simp [adapt, specAdapt, hf, hc]
  | kick p c => rfl
  | msgAll c => rfl
  | msgPlayer p c => rfl
  | msgServer s c => exact absurd h (by simp [AdaptOk])

/-- the repaired adapter hands a non-empty Forward to the carrier the picker chooses -/
private theorem adapt_broadcast (online : List Player) (listed : Bytes → List Player) (pick : List Player → Option Player)
    (srv data : Bytes) (hd : data ≠ []) :
    adapt repairedA online listed pick (.broadcast srv data) =
      match pick (carriers listed srv) with
      | some p => [.backendPlugin p.name cLegacy data]
      | none => [] := by
  cases data with
  | nil => exact absurd rfl hd
  | cons _ _ => rfl

/-- A Forward produces at most one packet; when some listed player is currently connected to the target server it is
    exactly one, and it travels on the backend connection of such a player — a connection TO THE TARGET SERVER —
    whatever the state of the two relations (in particular while another player is mid server switch). -/
theorem forward_reaches_backend_once (online : List Player) (listed : Bytes → List Player)
    (pick : List Player → Option Player) (hpick : ∀ l p, pick l = some p → p ∈ l) (srv data : Bytes) (hd : data ≠ []) :
    (adapt repairedA online listed pick (.broadcast srv data) = [] ∧ pick (carriers listed srv) = none) ∨
    (∃ p c, adapt repairedA online listed pick (.broadcast srv data) = [.backendPlugin p.name cLegacy data] ∧
        p ∈ listed srv ∧ p.conn = some c ∧ c.server = srv) := by
  rw [adapt_broadcast online listed pick srv data hd]
  cases hp : pick (carriers listed srv) with
  | none => exact .inl ⟨rfl, rfl⟩
  | some p =>
    have hm := hpick _ _ hp
    simp only [carriers, List.mem_filter, isOn] at hm
    cases hc : p.conn with
    | none => simp [hc] at hm
    | some c => exact .inr ⟨p, c, rfl, hm.1, hc, by simpa [hc] using hm.2⟩

/-- With a connected, listed player on the target the Forward IS delivered (the picker finds someone in a non-empty
    list). -/
theorem forward_delivered_when_someone_is_there (online : List Player) (listed : Bytes → List Player)
    (pick : List Player → Option Player) (hne : ∀ l, l ≠ [] → (pick l).isSome) (srv data : Bytes) (hd : data ≠ [])
    (p : Player) (c : Conn) (hl : p ∈ listed srv) (hc : p.conn = some c) (hs : c.server = srv) :
    (adapt repairedA online listed pick (.broadcast srv data)).length = 1 := by
  have hmem : p ∈ carriers listed srv := by simp [carriers, isOn, hl, hc, hs]
  have := hne (carriers listed srv) (List.ne_nil_of_mem hmem)
  rw [adapt_broadcast online listed pick srv data hd]
  cases hp : pick (carriers listed srv) with
  | none => simp [hp] at this
  | some q => rfl

/-! ### the code as found violates the property (kernel-checked witnesses) -/

deriving instance DecidableEq for Except

def wAlice : Bytes := [65,108,105,99,101]
def wBob : Bytes := [98,111,98]
def wLobby : Bytes := [108,111,98,98,121]
def wPvp : Bytes := [112,118,112]
def wChan : Bytes := [77,121,67,104,97,110,110,101,108]   -- "MyChannel"
def wHost : Bytes := [49,46,50,46,51,46,52]
def alice : Player := ⟨wAlice, [97], wHost, 50001, 765, some ⟨wAlice, wLobby, 765⟩⟩
def bob : Player := ⟨wBob, [98], wHost, 50002, 340, some ⟨wBob, wPvp, 393⟩⟩
def wSt : St := mkSt alice [alice, bob] 2 [⟨wLobby, wHost, 25566, 1, [wAlice]⟩, ⟨wPvp, wHost, 40000, 1, [wBob]⟩]
def wExt : Ext := ⟨fun m => .ok m, fun _ m => .ok m, fun m => .ok m, []⟩

/-- Forward: the code as found drops the channel name's length prefix (`00 09`). -/
theorem forward_framing_fails :
    spec wExt wSt cLegacy (writeUTF sForward ++ writeUTF wPvp ++ forwardFrame wChan [1,2,3]) =
      some (.ok [.broadcast wPvp (forwardFrame wChan [1,2,3])]) ∧
    processDefective wExt wSt cLegacy (writeUTF sForward ++ writeUTF wPvp ++ forwardFrame wChan [1,2,3]) =
      ⟨true, [.broadcast wPvp (wChan ++ [0,3,1,2,3])], false⟩ := by
  constructor <;> decide +kernel

/-- Forward with a length field ≥ 0x8000: the code as found panics (`make([]byte, -1)`). -/
theorem forward_negative_length_panics :
    (processDefective wExt wSt cLegacy (writeUTF sForward ++ writeUTF wPvp ++ writeUTF wChan ++ [0xff, 0xff])).panicked = true := by
  decide +kernel

/-- ForwardToPlayer bob: the code as found writes on the CALLER's (alice's lobby) connection. -/
theorem forward_to_player_wrong_connection_fails :
    spec wExt wSt cLegacy (writeUTF sForwardToPlayer ++ writeUTF wBob ++ forwardFrame wChan [1]) =
      some (.ok [.respond ⟨wBob, wPvp, 393⟩ (forwardFrame wChan [1])]) ∧
    (processDefective wExt wSt cLegacy (writeUTF sForwardToPlayer ++ writeUTF wBob ++ forwardFrame wChan [1])).effects =
      [.respond ⟨wAlice, wLobby, 765⟩ (wChan ++ [0,1,1])] := by
  constructor <;> decide +kernel

/-- GetPlayerServer bob: the code as found answers "lobby" (the caller's server) instead of "pvp". -/
theorem get_player_server_fails :
    spec wExt wSt cLegacy (writeUTF sGetPlayerServer ++ writeUTF wBob) =
      some (.ok [.respond ⟨wAlice, wLobby, 765⟩ (writeUTF sGetPlayerServer ++ writeUTF wBob ++ writeUTF wPvp)]) ∧
    (processDefective wExt wSt cLegacy (writeUTF sGetPlayerServer ++ writeUTF wBob)).effects =
      [.respond ⟨wAlice, wLobby, 765⟩ (writeUTF sGetPlayerServer ++ writeUTF wBob ++ writeUTF wLobby)] := by
  constructor <;> decide +kernel

/-- Message bob "hi": the reference messages player bob; the code as found looks up a SERVER "bob" and calls a
    method on the nil result — panic. -/
theorem message_to_player_panics :
    spec wExt wSt cLegacy (writeUTF sMessage ++ writeUTF wBob ++ writeUTF [104,105]) = some (.ok [.msgPlayer wBob [104,105]]) ∧
    (processDefective wExt wSt cLegacy (writeUTF sMessage ++ writeUTF wBob ++ writeUTF [104,105])).panicked = true := by
  constructor <;> decide +kernel

/-- Message pvp "hi": no player is called pvp, the reference does nothing; the code as found messages the server. -/
theorem message_target_is_server_fails :
    spec wExt wSt cLegacy (writeUTF sMessage ++ writeUTF wPvp ++ writeUTF [104,105]) = some (.ok []) ∧
    (processDefective wExt wSt cLegacy (writeUTF sMessage ++ writeUTF wPvp ++ writeUTF [104,105])).effects =
      [.msgServer wPvp [104,105]] := by
  constructor <;> decide +kernel

/-- PlayerCount "all": not a server, the reference is silent; the code as found answers for ALL. -/
theorem player_count_casefold_fails :
    spec wExt wSt cLegacy (writeUTF sPlayerCount ++ writeUTF [97,108,108]) = some (.ok []) ∧
    (processDefective wExt wSt cLegacy (writeUTF sPlayerCount ++ writeUTF [97,108,108])).effects ≠ [] := by
  constructor <;> decide +kernel

def wListed : Bytes → List Player := fun srv => [alice, bob].filter (isOn srv)

/-- The adapter as found delivers a Forward payload to every CLIENT on the target server and never to the backend. -/
theorem adapter_forward_to_clients_fails :
    adapt ⟨false, true⟩ [alice, bob] wListed List.head? (.broadcast wPvp [1]) = [.clientPlugin wBob cLegacy [1]] ∧
    specAdapt [alice, bob] wListed List.head? (.broadcast wPvp [1]) = [.backendPlugin wBob cLegacy [1]] := by
  constructor <;> decide +kernel

/-- Mid server switch: bob is current on pvp but still LISTED on lobby (and alice has left lobby's list).  An adapter
    that trusts the list sends `Forward lobby` through bob — i.e. to the pvp backend; the reference (and the repaired
    adapter) deliver nothing, since nobody listed on lobby is connected to it. -/
def wSwitching : Bytes → List Player := fun srv => if srv = wLobby then [bob] else if srv = wPvp then [bob] else []

theorem adapter_trusts_player_list_fails :
    adapt ⟨true, false⟩ [alice, bob] wSwitching List.head? (.broadcast wLobby [1]) = [.backendPlugin wBob cLegacy [1]] ∧
    bob.conn = some ⟨wBob, wPvp, 393⟩ ∧
    specAdapt [alice, bob] wSwitching List.head? (.broadcast wLobby [1]) = [] ∧
    adapt repairedA [alice, bob] wSwitching List.head? (.broadcast wLobby [1]) = [] := by
  refine ⟨?_, ?_, ?_, ?_⟩ <;> decide +kernel

/-- … and the repaired code agrees with the reference on every one of these witnesses. -/
theorem witnesses_repaired :
    process wExt wSt cLegacy (writeUTF sForward ++ writeUTF wPvp ++ forwardFrame wChan [1,2,3]) =
      ⟨true, [.broadcast wPvp (forwardFrame wChan [1,2,3])], false⟩ ∧
    (process wExt wSt cLegacy (writeUTF sForward ++ writeUTF wPvp ++ writeUTF wChan ++ [0xff, 0xff])).panicked = false ∧
    (process wExt wSt cLegacy (writeUTF sForwardToPlayer ++ writeUTF wBob ++ forwardFrame wChan [1])).effects =
      [.respond ⟨wBob, wPvp, 393⟩ (forwardFrame wChan [1])] ∧
    (process wExt wSt cLegacy (writeUTF sMessage ++ writeUTF wBob ++ writeUTF [104,105])) = ⟨true, [.msgPlayer wBob [104,105]], false⟩ ∧
    (process wExt wSt cLegacy (writeUTF sPlayerCount ++ writeUTF [97,108,108])).effects = [] := by
  refine ⟨?_, ?_, ?_, ?_, ?_⟩ <;> decide +kernel

/-! ### the model's shape is the source's shape (regenerated facts) -/

/-- `Process` switches on exactly the sub-channels of the model, in this order. -/
theorem dispatch_labels : Gate.Gen.C26.processCases = subNames.map (fun s => "\"" ++ s ++ "\"") ++ ["default"] := by
  decide +kernel
/-- the model's byte constants spell those names -/
theorem sub_bytes_spell_names : subBytes = subNames.map asc := by decide +kernel
/-- `prepareForwardMessage` only drains the reader (no re-framing). -/
theorem forward_is_verbatim_in_source : Gate.Gen.C26.prepareForwardCalls = ["io.ReadAll", "return"] := by decide +kernel
/-- ForwardToPlayer and GetPlayerServer ask for the NAMED player's server connection. -/
theorem target_connection_in_source :
    "r.PlayerServer" ∈ Gate.Gen.C26.forwardToPlayerCalls ∧ "r.sendResponse" ∈ Gate.Gen.C26.forwardToPlayerCalls ∧
    "r.PlayerServer" ∈ Gate.Gen.C26.getPlayerServerCalls ∧ "r.ConnectedServer" ∉ Gate.Gen.C26.getPlayerServerCalls := by
  decide +kernel
/-- Message looks its target up as a player and never calls `r.Server`. -/
theorem message_target_in_source :
    "r.PlayerByName" ∈ Gate.Gen.C26.message0Calls ∧ "player.SendMessage" ∈ Gate.Gen.C26.message0Calls ∧
    "r.Server" ∉ Gate.Gen.C26.message0Calls := by decide +kernel
/-- "ALL"/"ONLINE" are compared with `==` (no `strings.EqualFold`). -/
theorem exact_all_in_source :
    "strings.EqualFold" ∉ Gate.Gen.C26.playerCountCalls ∧ "strings.EqualFold" ∉ Gate.Gen.C26.forwardToServerCalls := by
  decide +kernel
/-- the adapter walks the server's player list, takes each player's CURRENT server connection, compares that
    connection's server with the target (`RegisteredServerEqual`) and only then sends through it
    (`conn.SendPluginMessage`) — not to the player list. -/
theorem adapter_forward_in_source :
    Gate.Gen.C26.adapterBroadcastCalls =
      ["return", "s.s.Players", "func:{", "p.CurrentServer", "conn.Server", "RegisteredServerEqual", "return",
       "conn.SendPluginMessage", "errors.Is", "return", "}", "s.s.Players().Range"] := by decide +kernel

/-! ### the hypotheses are satisfiable -/

example : NamesOk wSt := by
  refine ⟨?_, ?_, ?_⟩
  · decide
  · decide
  · intro n s h u hu
    simp only [wSt, mkSt] at h
    have hm := List.mem_of_find?_eq_some h
    simp only [List.mem_cons, List.not_mem_nil, or_false] at hm
    rcases hm with rfl | rfl <;> simp_all [wAlice, wBob]
example : wExt.jsonFor wSt.caller.protocol = wExt.jsonDefault := rfl
example : NoPanic wExt := ⟨by simp [wExt], by simp [wExt], by simp [wExt]⟩
example : AdaptOk [alice, bob] (.connect wBob wLobby) := by unfold AdaptOk; decide
example : readUTF (writeUTF wBob ++ [1]) = some (wBob, [1]) := by decide

end Gate.C26.Props
