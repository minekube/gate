import GateModel.C38.Model
/-
C38 — the reachable-state invariant `Inv` of the repaired loop, and the invariant `Phase` that holds from any
instant on after which the file no longer changes: the loop is done with the final content by a bound `B`.
-/
namespace Gate.C38
set_option linter.unusedSectionVars false
variable {α : Type} [DecidableEq α]

/-- an enabled step is a write by the environment or one of the loop's moves -/
theorem step?_inv {v : Variant} {cfg : Cfg} {s s' : St α} {o : Op α} (hs : step? v cfg s o = some s') :
    (∃ c, o = .write c ∧ s' = { s with file := c }) ∨ o.isWrite = false ∧
      (s' = s ∨ s' = { s with watcher := false } ∨ s' = reconcile cfg s ∨
       (∃ w, s.now = s.nextTick ∧ s' = reconcile cfg { s with nextTick := s.nextTick + cfg.R, watcher := w }) ∨
       (s.deb = some s.now ∧ s' = fire v cfg s) ∨
       (∃ d, s.now + d ≤ s.nextTick ∧ debAllows s (s.now + d) = true ∧ s' = { s with now := s.now + d })) := by
  cases o <;> simp only [step?] at hs <;> (try split at hs) <;> cases hs
  · exact .inl ⟨_, rfl, rfl⟩
  · exact .inr ⟨rfl, .inr (.inr (.inl rfl))⟩
  · exact .inr ⟨rfl, .inl rfl⟩
  · exact .inr ⟨rfl, .inr (.inl rfl)⟩
  · exact .inr ⟨rfl, .inr (.inr (.inr (.inl ⟨_, ‹_›, rfl⟩)))⟩
  · exact .inr ⟨rfl, .inr (.inr (.inr (.inr (.inl ⟨‹_›, rfl⟩))))⟩
  · exact .inr ⟨rfl, .inr (.inr (.inr (.inr (.inr ⟨_, ‹_ ∧ _›.1, ‹_ ∧ _›.2, rfl⟩))))⟩

theorem run?_induct {v : Variant} {cfg : Cfg} (P : St α → Prop) (ok : Op α → Prop)
    (hstep : ∀ s o s', P s → ok o → step? v cfg s o = some s' → P s') :
    ∀ (ops : List (Op α)) {s s' : St α}, P s → (∀ o ∈ ops, ok o) → run? v cfg s ops = some s' → P s'
  | [], s, s', h, _, hr => Option.some.inj hr ▸ h
  | o :: os, s, s', h, hw, hr => by
    simp only [run?] at hr
    split at hr
    · cases hr
    · rename_i s1 hs1
      exact run?_induct P ok hstep os (hstep s o s1 h (hw o (List.mem_cons_self ..)) hs1)
        (fun o' ho' => hw o' (List.mem_cons_of_mem _ ho')) hr

/-- every callback saw a content different from the one the previous callback saw (or from the content at
    start when it is the first) -/
def chainOK (e0 : α) : List (Nat × α) → Prop
  | [] => True
  | (_, c) :: rest => c ≠ lastSeenL e0 rest ∧ chainOK e0 rest

structure Inv (cfg : Cfg) (e0 : α) (s : St α) : Prop where
  tick_lo   : s.now ≤ s.nextTick
  tick_hi   : s.nextTick ≤ s.now + cfg.R
  deb_rng   : ∀ d, s.deb = some d → s.now ≤ d ∧ d ≤ s.now + cfg.D
  deb_none  : s.deb = none → s.observed = s.evaluated
  eval_last : s.evaluated = lastSeenL e0 s.calls
  chain     : chainOK e0 s.calls

theorem inv_init (cfg : Cfg) (e0 : α) : Inv cfg e0 (init cfg e0) := by
  refine ⟨?_, ?_, ?_, ?_, ?_, ?_⟩ <;> simp [init, lastSeenL, chainOK]

/-- `observed = current; schedule()`, the tail of `reconcile` and of the debounce-expiry case -/
theorem inv_schedule {cfg : Cfg} {e0 : α} {s : St α} (h : Inv cfg e0 s) :
    Inv cfg e0 { s with observed := s.file, deb := some (s.now + cfg.D) } := by
  refine ⟨h.tick_lo, h.tick_hi, fun d hd => ?_, (fun hd => nomatch hd), h.eval_last, h.chain⟩
  cases hd
  exact ⟨Nat.le_add_right .., Nat.le_refl _⟩

theorem inv_reconcile {cfg : Cfg} {e0 : α} {s : St α} (h : Inv cfg e0 s) : Inv cfg e0 (reconcile cfg s) := by
  unfold reconcile
  split
  · exact h
  · exact inv_schedule h

/-- the debounce expires: nothing to do, the callback runs, or the file has changed again and is re-scheduled -/
theorem fire_cases (cfg : Cfg) (s : St α) :
    (s.file = s.observed ∧ s.observed = s.evaluated ∧ fire .repaired cfg s = { s with deb := none }) ∨
    (s.file = s.observed ∧ s.observed ≠ s.evaluated ∧ fire .repaired cfg s =
      { s with deb := none, evaluated := s.observed, calls := (s.now, s.file) :: s.calls }) ∨
    (s.file ≠ s.observed ∧ fire .repaired cfg s = { s with observed := s.file, deb := some (s.now + cfg.D) }) := by
  by_cases hfo : s.file = s.observed
  · by_cases hoe : s.observed = s.evaluated
    · exact .inl ⟨hfo, hoe, by simp only [fire, runCallback, if_pos hfo, if_pos hoe]⟩
    · exact .inr (.inl ⟨hfo, hoe, by simp only [fire, runCallback, if_pos hfo, if_neg hoe]⟩)
  · exact .inr (.inr ⟨hfo, by simp only [fire, if_neg hfo]⟩)

theorem inv_fire {cfg : Cfg} {e0 : α} {s : St α} (h : Inv cfg e0 s) : Inv cfg e0 (fire .repaired cfg s) := by
  rcases fire_cases cfg s with ⟨_, hoe, e⟩ | ⟨hfo, hoe, e⟩ | ⟨_, e⟩ <;> rw [e]
  · exact ⟨h.tick_lo, h.tick_hi, (fun d hd => nomatch hd), fun _ => hoe, h.eval_last, h.chain⟩
  · refine ⟨h.tick_lo, h.tick_hi, (fun d hd => nomatch hd), fun _ => rfl, ?_, ?_, h.chain⟩
    · simpa [lastSeenL] using hfo.symm
    · intro hc
      apply hoe
      rw [h.eval_last, ← hc, hfo]
  · exact inv_schedule h

theorem inv_tick {cfg : Cfg} {e0 : α} {s : St α} (h : Inv cfg e0 s) (hn : s.now = s.nextTick) (w : Bool) :
    Inv cfg e0 { s with nextTick := s.nextTick + cfg.R, watcher := w } :=
  ⟨by simp only; omega, by simp only; omega, h.deb_rng, h.deb_none, h.eval_last, h.chain⟩

theorem inv_step {cfg : Cfg} {e0 : α} {s s' : St α} {o : Op α} (h : Inv cfg e0 s)
    (hs : step? .repaired cfg s o = some s') : Inv cfg e0 s' := by
  rcases step?_inv hs with ⟨c, _, rfl⟩ | ⟨_, rfl | rfl | rfl | ⟨w, hn, rfl⟩ | ⟨_, rfl⟩ | ⟨d, hg1, hg2, rfl⟩⟩
  · exact ⟨h.tick_lo, h.tick_hi, h.deb_rng, h.deb_none, h.eval_last, h.chain⟩
  · exact h
  · exact ⟨h.tick_lo, h.tick_hi, h.deb_rng, h.deb_none, h.eval_last, h.chain⟩
  · exact inv_reconcile h
  · exact inv_reconcile (inv_tick h hn w)
  · exact inv_fire h
  · -- time does not pass a pending deadline
    refine ⟨hg1, by simp only; have := h.tick_hi; omega, fun d' hd' => ?_, h.deb_none, h.eval_last, h.chain⟩
    have := h.deb_rng d' hd'
    simp only at hd'
    simp only [debAllows, hd', decide_eq_true_eq] at hg2
    simp only
    omega

theorem inv_run {cfg : Cfg} {e0 : α} (ops : List (Op α)) {s s' : St α} (h : Inv cfg e0 s)
    (hr : run? .repaired cfg s ops = some s') : Inv cfg e0 s' :=
  run?_induct (Inv cfg e0) (fun _ => True) (fun _ _ _ h _ hs => inv_step h hs) ops h (fun _ _ => trivial) hr

theorem run?_append (v : Variant) (cfg : Cfg) : ∀ (a b : List (Op α)) (s : St α),
    run? v cfg s (a ++ b) = (run? v cfg s a).bind (fun s' => run? v cfg s' b)
  | [], b, s => by simp [run?]
  | o :: a, b, s => by
    simp only [List.cons_append, run?]
    split
    · simp
    · exact run?_append v cfg a b _

theorem reconcile_observed (cfg : Cfg) (s : St α) : (reconcile cfg s).observed = (reconcile cfg s).file := by
  unfold reconcile
  split
  · rename_i h; exact h.symm
  · rfl

/-- a notification or a tick has just been handled: the loop has fingerprinted the file as it is now -/
theorem observed_after_poll {v : Variant} {cfg : Cfg} {s s' : St α}
    (h : step? v cfg s .event = some s' ∨ ∃ ok, step? v cfg s (.tick ok) = some s') : s'.observed = s'.file := by
  rcases h with h | ⟨ok, h⟩ <;> simp only [step?] at h <;> split at h <;> cases h
  all_goals exact reconcile_observed cfg _

/-! ### the phase in which the file no longer changes

`c` is the content of the file throughout the phase, `base` the callback log when it starts, `B` the instant by
which the loop is done with `c`. -/

/-- in the phase the callback ran at most once: for `c`, not later than `B` -/
def News (B : Nat) (c : α) (base : List (Nat × α)) (s : St α) : Prop :=
  s.calls = base ∨ ∃ t, s.calls = (t, c) :: base ∧ t ≤ B ∧ s.evaluated = c

structure Phase (cfg : Cfg) (e0 : α) (B : Nat) (c : α) (base : List (Nat × α)) (s : St α) : Prop where
  file_eq  : s.file = c
  inv      : Inv cfg e0 s
  /-- `c` not yet fingerprinted: the tick that will find it is due early enough for its debounce to end by `B` -/
  tick_due : s.observed ≠ c → s.nextTick + cfg.D ≤ B
  /-- `c` fingerprinted: a pending debounce ends by `B` -/
  deb_due  : s.observed = c → ∀ d, s.deb = some d → d ≤ B
  news     : News B c base s

/-- a phase starts at any state from which a debounce, and if the file is not yet fingerprinted the next tick
    before it, can end by `B` -/
theorem phase_start {cfg : Cfg} {e0 : α} {B : Nat} {s : St α} (h : Inv cfg e0 s) (hnow : s.now + cfg.D ≤ B)
    (htick : s.observed ≠ s.file → s.nextTick + cfg.D ≤ B) : Phase cfg e0 B s.file s.calls s := by
  refine ⟨rfl, h, htick, fun _ d hd => ?_, .inl rfl⟩
  have := (h.deb_rng d hd).2
  omega

theorem phase_schedule {cfg : Cfg} {e0 : α} {B : Nat} {c : α} {base : List (Nat × α)} {s : St α}
    (hf : s.file = c) (hi : Inv cfg e0 s) (hnow : s.now + cfg.D ≤ B) (hn : News B c base s) :
    Phase cfg e0 B c base { s with observed := s.file, deb := some (s.now + cfg.D) } := by
  refine ⟨hf, inv_schedule hi, fun hne => absurd hf hne, fun _ d hd => ?_, hn⟩
  cases hd
  exact hnow

theorem phase_reconcile {cfg : Cfg} {e0 : α} {B : Nat} {c : α} {base : List (Nat × α)} {s : St α}
    (hf : s.file = c) (hi : Inv cfg e0 s)
    (hA : s.observed ≠ c → s.now + cfg.D ≤ B)
    (hB : s.observed = c → ∀ d, s.deb = some d → d ≤ B)
    (hn : News B c base s) : Phase cfg e0 B c base (reconcile cfg s) := by
  unfold reconcile
  split
  · rename_i hfo
    have : s.observed = c := by rw [← hfo, hf]
    exact ⟨hf, hi, fun hne => absurd this hne, hB, hn⟩
  · rename_i hfo
    exact phase_schedule hf hi (hA fun h => hfo (by rw [hf, h])) hn

theorem phase_step {cfg : Cfg} {e0 : α} {B : Nat} {c : α} {base : List (Nat × α)} {s s' : St α} {o : Op α}
    (h : Phase cfg e0 B c base s) (hw : o.isWrite = false)
    (hs : step? .repaired cfg s o = some s') : Phase cfg e0 B c base s' := by
  have hinv' := inv_step h.inv hs
  have hA : s.observed ≠ c → s.now + cfg.D ≤ B := by
    intro hne
    have := h.tick_due hne
    have := h.inv.tick_lo
    omega
  rcases step?_inv hs with ⟨c, rfl, _⟩ | ⟨_, rfl | rfl | rfl | ⟨w, hn, rfl⟩ | ⟨hd, rfl⟩ | ⟨d, _, _, rfl⟩⟩
  · cases hw
  · exact h
  · exact ⟨h.file_eq, hinv', h.tick_due, h.deb_due, h.news⟩
  · exact phase_reconcile h.file_eq h.inv hA h.deb_due h.news
  · exact phase_reconcile (s := { s with nextTick := s.nextTick + cfg.R, watcher := w }) h.file_eq
      (inv_tick h.inv hn w) hA h.deb_due h.news
  · rcases fire_cases cfg s with ⟨hfo, _, e⟩ | ⟨hfo, hoe, e⟩ | ⟨hfo, e⟩ <;> rw [e] at hinv' ⊢
    · have hoc : s.observed = c := by rw [← hfo, h.file_eq]
      exact ⟨h.file_eq, hinv', fun hne => absurd hoc hne, (fun _ d hd' => nomatch hd'), h.news⟩
    · -- the debounce expires on the final content: the one callback of the phase, unless it already ran
      have hoc : s.observed = c := by rw [← hfo, h.file_eq]
      refine ⟨h.file_eq, hinv', fun hne => absurd hoc hne, (fun _ d hd' => nomatch hd'), ?_⟩
      rcases h.news with hc | ⟨t, _, _, hev⟩
      · refine .inr ⟨s.now, ?_, h.deb_due hoc _ hd, hoc⟩
        show (s.now, s.file) :: s.calls = (s.now, c) :: base
        rw [hc, h.file_eq]
      · exact absurd (by rw [hev, hoc]) hoe
    · exact phase_schedule h.file_eq h.inv (hA fun hh => hfo (by rw [h.file_eq, hh])) h.news
  · exact ⟨h.file_eq, hinv', h.tick_due, h.deb_due, h.news⟩

theorem phase_run {cfg : Cfg} {e0 : α} {B : Nat} {c : α} {base : List (Nat × α)} (ops : List (Op α))
    {s s' : St α} (h : Phase cfg e0 B c base s) (hw : ∀ o ∈ ops, o.isWrite = false)
    (hr : run? .repaired cfg s ops = some s') : Phase cfg e0 B c base s' :=
  run?_induct (Phase cfg e0 B c base) (fun o => o.isWrite = false) (fun _ _ _ h hw hs => phase_step h hw hs)
    ops h hw hr

/-- the phase from the last write on: a tick is at most `R` away, the debounce it starts `D` more -/
theorem phase_after {cfg : Cfg} {e0 : α} {pre post : List (Op α)} {s₁ s₂ : St α}
    (h₁ : run? .repaired cfg (init cfg e0) pre = some s₁) (h₂ : run? .repaired cfg s₁ post = some s₂)
    (hw : ∀ o ∈ post, o.isWrite = false) : Phase cfg e0 (s₁.now + cfg.R + cfg.D) s₁.file s₁.calls s₂ := by
  have hi := inv_run pre (inv_init cfg e0) h₁
  have := hi.tick_hi
  exact phase_run post (phase_start hi (by omega) (fun _ => by omega)) hw h₂

theorem phase_end {cfg : Cfg} {e0 : α} {B : Nat} {c : α} {base : List (Nat × α)} {s : St α}
    (h : Phase cfg e0 B c base s) (hlate : B < s.now) :
    lastSeen e0 s = s.file ∧ s.evaluated = s.file ∧ s.deb = none := by
  by_cases ho : s.observed = c
  · have hd : s.deb = none := by
      cases hdd : s.deb with
      | none => rfl
      | some d =>
        have h1 := h.deb_due ho d hdd
        have h2 := (h.inv.deb_rng d hdd).1
        omega
    have he : s.evaluated = s.file := by rw [← h.inv.deb_none hd, ho, h.file_eq]
    exact ⟨by unfold lastSeen; rw [← h.inv.eval_last, he], he, hd⟩
  · have := h.tick_due ho
    have := h.inv.tick_lo
    omega

theorem noAdjDup_snoc : ∀ (xs : List α) (a : α),
    noAdjDup (xs ++ [a]) = true ↔ (noAdjDup xs = true ∧ ∀ b, xs.getLast? = some b → b ≠ a)
  | [], a => by simp [noAdjDup]
  | [x], a => by simp [noAdjDup]
  | x :: y :: r, a => by
    have ih := noAdjDup_snoc (y :: r) a
    simp only [List.cons_append, noAdjDup, Bool.and_eq_true] at ih ⊢
    rw [ih]
    simp only [List.getLast?_cons_cons]
    constructor
    · rintro ⟨h1, h2, h3⟩; exact ⟨⟨h1, h2⟩, h3⟩
    · rintro ⟨⟨h1, h2⟩, h3⟩; exact ⟨h1, h2, h3⟩

theorem getLast?_seen (e0 : α) (calls : List (Nat × α)) :
    (e0 :: (calls.map (·.2)).reverse).getLast? = some (lastSeenL e0 calls) := by
  cases calls with
  | nil => simp [lastSeenL]
  | cons p r =>
    obtain ⟨t, c⟩ := p
    simp [lastSeenL, List.getLast?_cons]

theorem chainOK_noAdjDup (e0 : α) : ∀ (calls : List (Nat × α)), chainOK e0 calls →
    noAdjDup (e0 :: (calls.map (·.2)).reverse) = true
  | [], _ => by simp [noAdjDup]
  | (t, c) :: r, h => by
    have ih := chainOK_noAdjDup e0 r h.2
    have : e0 :: (((t, c) :: r).map (·.2)).reverse = (e0 :: (r.map (·.2)).reverse) ++ [c] := by simp
    rw [this, noAdjDup_snoc]
    refine ⟨ih, ?_⟩
    intro b hb
    rw [getLast?_seen] at hb
    simp only [Option.some.injEq] at hb
    subst hb
    exact fun hh => h.1 hh.symm

/-- a history that runs to a state violating `P` refutes "every run of it satisfies `P`" -/
theorem refuted_by_run {β : Type} {o : Option β} {P : β → Prop} [DecidablePred P]
    (e : o.map (fun s => decide (P s)) = some false) : ¬ ∀ s, o = some s → P s := by
  intro h
  cases o with
  | none => cases e
  | some s => exact absurd (h s rfl) (of_decide_eq_false (Option.some.inj e))

end Gate.C38
