import GateModel.C38.Lemmas
import GateModel.C38.Spec
/-
C38 — config file reload fires once for the final content despite lost fs events.

`run? .repaired cfg (init cfg e0) ops = some s` reads: `ops` is ANY history of the
repaired loop started on content `e0` — writes / replacements / deletions (`write`), notifications handled at
arbitrary instants (`event`: lost = absent, duplicated = repeated, delayed = later), ignored notifications,
watcher failures, reconcile ticks, debounce expiries and passing time — for ANY reconcile interval `cfg.R`
and debounce `cfg.D`.  Stabilisation is a split `pre`/`post` of the history with no `write` in `post`;
`s₁` is the state at the last change (`s₁.now` its instant), `s₂` any later state.
-/
namespace Gate.C38.Props
open Gate.C38
variable {α : Type} [DecidableEq α]

/-- The contents handed to the callback, with the content present at start in front, never repeat a neighbour:
    the callback never runs for the content it evaluated last. -/
theorem never_for_unchanged (cfg : Cfg) (e0 : α) (ops : List (Op α)) (s : St α)
    (h : run? .repaired cfg (init cfg e0) ops = some s) : noAdjDup (e0 :: seen s) = true :=
  chainOK_noAdjDup e0 s.calls (inv_run ops (inv_init cfg e0) h).chain

/-- What the loop records as `evaluated` is what the callback really read last. -/
theorem evaluated_is_last_seen (cfg : Cfg) (e0 : α) (ops : List (Op α)) (s : St α)
    (h : run? .repaired cfg (init cfg e0) ops = some s) : s.evaluated = lastSeen e0 s :=
  (inv_run ops (inv_init cfg e0) h).eval_last

/-- At most one callback after the last change; it is for the final content and not later than `R + D`. -/
theorem at_most_once_after_stabilisation (cfg : Cfg) (e0 : α) (pre post : List (Op α)) (s₁ s₂ : St α)
    (h₁ : run? .repaired cfg (init cfg e0) pre = some s₁) (h₂ : run? .repaired cfg s₁ post = some s₂)
    (hw : ∀ o ∈ post, o.isWrite = false) :
    s₂.file = s₁.file ∧ ∃ new, s₂.calls = new ++ s₁.calls ∧ new.length ≤ 1 ∧
      ∀ p ∈ new, p.1 ≤ s₁.now + cfg.R + cfg.D ∧ p.2 = s₂.file := by
  have ph := phase_after h₁ h₂ hw
  refine ⟨ph.file_eq, ?_⟩
  rcases ph.news with hc | ⟨t, hc, ht, _⟩
  · exact ⟨[], hc, Nat.zero_le 1, fun p hp => nomatch hp⟩
  · refine ⟨[(t, s₁.file)], hc, Nat.le_refl 1, fun p hp => ?_⟩
    rw [List.mem_singleton.1 hp]
    exact ⟨ht, ph.file_eq.symm⟩

/-- Later than `R + D` after the last change nothing is pending and the content the callback saw last is the
    content of the file — whatever notifications were lost. -/
theorem eventual_reload (cfg : Cfg) (e0 : α) (pre post : List (Op α)) (s₁ s₂ : St α)
    (h₁ : run? .repaired cfg (init cfg e0) pre = some s₁) (h₂ : run? .repaired cfg s₁ post = some s₂)
    (hw : ∀ o ∈ post, o.isWrite = false) (hlate : s₁.now + cfg.R + cfg.D < s₂.now) :
    lastSeen e0 s₂ = s₂.file ∧ s₂.evaluated = s₂.file ∧ s₂.deb = none :=
  phase_end (phase_after h₁ h₂ hw) hlate

/-- Sharper, when a notification (or a tick) is handled after the last change — at state `s₁`, giving `sₑ`:
    later than ONE debounce after that instant the callback has seen the final content.  (This is the clause the
    driver evaluates on scripts whose last change is followed by a delivered notification.) -/
theorem eventual_reload_after_notification (cfg : Cfg) (e0 : α) (pre post : List (Op α)) (s₁ sₑ s₂ : St α)
    (h₁ : run? .repaired cfg (init cfg e0) pre = some s₁)
    (hev : step? .repaired cfg s₁ .event = some sₑ ∨ ∃ ok, step? .repaired cfg s₁ (.tick ok) = some sₑ)
    (h₂ : run? .repaired cfg sₑ post = some s₂)
    (hw : ∀ o ∈ post, o.isWrite = false) (hlate : sₑ.now + cfg.D < s₂.now) :
    lastSeen e0 s₂ = s₂.file ∧ s₂.evaluated = s₂.file ∧ s₂.deb = none := by
  have hiₑ : Inv cfg e0 sₑ := by
    rcases hev with h | ⟨ok, h⟩ <;> exact inv_step (inv_run pre (inv_init cfg e0) h₁) h
  have hobs := observed_after_poll hev
  exact phase_end (phase_run post (phase_start hiₑ (Nat.le_refl _) (fun hne => absurd hobs hne)) hw h₂) hlate

/-- If the final content differs from what the callback saw last, it runs EXACTLY once for it, in time. -/
theorem exactly_once_when_changed (cfg : Cfg) (e0 : α) (pre post : List (Op α)) (s₁ s₂ : St α)
    (h₁ : run? .repaired cfg (init cfg e0) pre = some s₁) (h₂ : run? .repaired cfg s₁ post = some s₂)
    (hw : ∀ o ∈ post, o.isWrite = false) (hlate : s₁.now + cfg.R + cfg.D < s₂.now)
    (hchg : lastSeen e0 s₁ ≠ s₁.file) :
    ∃ t, s₂.calls = (t, s₁.file) :: s₁.calls ∧ t ≤ s₁.now + cfg.R + cfg.D := by
  have ph := phase_after h₁ h₂ hw
  rcases ph.news with hc | ⟨t, hc, ht, _⟩
  · exfalso
    apply hchg
    have hev := (phase_end ph hlate).1
    unfold lastSeen at hev ⊢
    rw [← hc, hev, ph.file_eq]
  · exact ⟨t, hc, ht⟩

/-- If the final content equals what the callback saw last (e.g. the file was changed and restored), the
    callback does not run at all. -/
theorem no_callback_when_unchanged (cfg : Cfg) (e0 : α) (pre post : List (Op α)) (s₁ s₂ : St α)
    (h₁ : run? .repaired cfg (init cfg e0) pre = some s₁) (h₂ : run? .repaired cfg s₁ post = some s₂)
    (hw : ∀ o ∈ post, o.isWrite = false) (hsame : lastSeen e0 s₁ = s₁.file) :
    s₂.calls = s₁.calls := by
  have ph := phase_after h₁ h₂ hw
  rcases ph.news with hc | ⟨t, hc, _, _⟩
  · exact hc
  · -- the callback log is a chain: a callback for `s₁.file` would repeat what the previous one saw
    have hch := ph.inv.chain
    rw [hc] at hch
    exact absurd hsame.symm hch.1

/-- The three clauses for a history given as one list. -/
theorem stabilised_history (cfg : Cfg) (e0 : α) (pre post : List (Op α)) (s₂ : St α)
    (h : run? .repaired cfg (init cfg e0) (pre ++ post) = some s₂) (hw : ∀ o ∈ post, o.isWrite = false) :
    ∃ s₁, run? .repaired cfg (init cfg e0) pre = some s₁ ∧ s₂.file = s₁.file ∧
      (∃ new, s₂.calls = new ++ s₁.calls ∧ new.length ≤ 1 ∧ ∀ p ∈ new, p.1 ≤ s₁.now + cfg.R + cfg.D ∧ p.2 = s₂.file) ∧
      (s₁.now + cfg.R + cfg.D < s₂.now → lastSeen e0 s₂ = s₂.file ∧ s₂.deb = none) := by
  rw [run?_append] at h
  obtain ⟨s₁, h₁, h⟩ := Option.bind_eq_some_iff.mp h
  obtain ⟨hf, hn⟩ := at_most_once_after_stabilisation cfg e0 pre post s₁ s₂ h₁ h hw
  refine ⟨s₁, h₁, hf, hn, fun hl => ?_⟩
  have := eventual_reload cfg e0 pre post s₁ s₂ h₁ h hw hl
  exact ⟨this.1, this.2.2⟩

def Op.usesWatcher : Op α → Bool
  | .event => true
  | .other => true
  | .tick ok => ok
  | _ => false

/-- Eventual reload with NO watcher at all after the last change: no notification is ever delivered and every
    attempt to re-attach the watcher fails (`tick false` only) — the content is still reloaded within `R + D`,
    exactly once.  (An instance of the theorems above, which quantify over all histories; stated because the
    reconcile tick must poll whether or not re-attaching succeeded.) -/
theorem eventual_reload_without_watcher (cfg : Cfg) (e0 : α) (pre post : List (Op α)) (s₁ s₂ : St α)
    (h₁ : run? .repaired cfg (init cfg e0) pre = some s₁) (h₂ : run? .repaired cfg s₁ post = some s₂)
    (hw : ∀ o ∈ post, o.isWrite = false) (_hnowatcher : ∀ o ∈ post, Op.usesWatcher o = false)
    (hlate : s₁.now + cfg.R + cfg.D < s₂.now) (hchg : lastSeen e0 s₁ ≠ s₁.file) :
    lastSeen e0 s₂ = s₂.file ∧ ∃ t, s₂.calls = (t, s₁.file) :: s₁.calls ∧ t ≤ s₁.now + cfg.R + cfg.D :=
  ⟨(eventual_reload cfg e0 pre post s₁ s₂ h₁ h₂ hw hlate).1,
   exactly_once_when_changed cfg e0 pre post s₁ s₂ h₁ h₂ hw hlate hchg⟩

/-- such histories exist: watcher lost, re-attach failing at every tick, change made, still reloaded -/
example : (run? .repaired ⟨250, 100⟩ (init ⟨250, 100⟩ 0)
    [.wclose, .write 1, .wait 250, .tick false, .wait 100, .fire, .wait 150, .tick false, .wait 10]).map
      (fun s => (seen s, s.watcher)) = some ([1], false) := by decide +kernel

/-- The reload decision is independent of file metadata: whatever inode, size and modification time the
    environment leaves behind (new ones, or an earlier mtime restored after a same-length rewrite), and whatever
    metadata-only operations are interleaved, the loop — state, pending debounce, callback log — evolves exactly
    as on the history with the metadata erased.  Every theorem above therefore holds for such histories; in
    particular a rewrite that keeps (inode, size, mtime) is reloaded like any other change. -/
theorem reload_decision_ignores_metadata {μ : Type} (v : Variant) (cfg : Cfg) :
    ∀ (ops : List (MOp α μ)) (s : St α) (m : μ),
      (runM? v cfg s m ops).map (·.1) = run? v cfg s (eraseMeta ops)
  | [], s, m => rfl
  | .write c m' :: r, s, m => by
    simp only [runM?, stepM?, eraseMeta, run?, step?, Option.map_some]
    exact reload_decision_ignores_metadata v cfg r _ m'
  | .touch m' :: r, s, m => by
    simp only [runM?, stepM?, eraseMeta]
    exact reload_decision_ignores_metadata v cfg r s m'
  | .loop o :: r, s, m => by
    simp only [runM?, stepM?, eraseMeta, run?]
    cases hs : step? v cfg s o with
    | none => simp
    | some s' => simp only [Option.map_some]; exact reload_decision_ignores_metadata v cfg r s' m

/-- a same-length rewrite with the old mtime restored (metadata `m` before and after), notification delivered:
    reloaded exactly like a rewrite that changes the metadata -/
example : (runM? .repaired ⟨250, 100⟩ (init ⟨250, 100⟩ 0) (7 : Nat)
      [.write 1 7, .loop .event, .loop (.wait 100), .loop .fire]).map (fun p => seen p.1) = some [1] ∧
    (runM? .repaired ⟨250, 100⟩ (init ⟨250, 100⟩ 0) (7 : Nat)
      [.write 1 8, .loop .event, .loop (.wait 100), .loop .fire]).map (fun p => seen p.1) = some [1] := by
  constructor <;> decide +kernel

/-- With gate's constants the bound is 350 ms. -/
theorem default_bound : defaultCfg.R + defaultCfg.D = 350 := by decide +kernel

/-! ### the pre-fix loop (`runCallback(observed)` straight at debounce expiry) violates all three clauses -/

/-- (contents: 0 = "a", 1 = "b", 2 = "c")
    witness: change to 1 found by the reconcile tick (fingerprint taken), change to 2 50 ms later with
    its notification lost, debounce expires (callback reads 2 under fingerprint 1), next tick finds 2
    "new" and the callback runs a second time for it -/
def doubleCallbackHistory : List (Op Nat) :=
  [.write 1, .wait 250, .tick true, .wait 50, .write 2, .wait 50, .fire, .wait 150, .tick true, .wait 100, .fire]

theorem defective_double_callback_fails :
    ¬ (∀ s, run? .defective ⟨250, 100⟩ (init ⟨250, 100⟩ 0) doubleCallbackHistory = some s →
        noAdjDup (0 :: seen s) = true) :=
  refuted_by_run (by decide +kernel)

/-- the same history is accepted by the repaired loop with a single callback -/
example : (run? .repaired ⟨250, 100⟩ (init ⟨250, 100⟩ 0)
    [.write 1, .wait 250, .tick true, .wait 50, .write 2, .wait 50, .fire, .wait 100, .fire, .wait 50, .tick true]).map seen
    = some [2] := by decide +kernel

/-- witness: the file is changed and restored within the debounce window (second notification lost): the
    pre-fix loop runs the callback twice for the content it started with -/
def unchangedCallbackHistory : List (Op Nat) :=
  [.write 1, .event, .write 0, .wait 100, .fire, .wait 150, .tick true, .wait 100, .fire]

theorem defective_unchanged_callback_fails :
    ¬ (∀ s, run? .defective ⟨250, 100⟩ (init ⟨250, 100⟩ 0) unchangedCallbackHistory = some s →
        s.calls = []) :=
  refuted_by_run (by decide +kernel)

example : (run? .repaired ⟨250, 100⟩ (init ⟨250, 100⟩ 0)
    [.write 1, .event, .write 0, .wait 100, .fire, .wait 100, .fire, .wait 50, .tick true]).map seen = some [] := by decide +kernel

/-- witness: 1 is fingerprinted, the callback reads 2 under that fingerprint, then the file goes back to
    1: the pre-fix loop believes 1 is evaluated and NEVER reloads it — the running configuration (2)
    differs from the file (1) for good -/
def missedFinalHistory : List (Op Nat) :=
  [.write 1, .event, .write 2, .wait 100, .fire, .write 1, .event, .wait 150, .tick true, .wait 250, .tick true, .wait 250, .tick true]

theorem defective_misses_final_content_fails :
    ¬ (∀ s, run? .defective ⟨250, 100⟩ (init ⟨250, 100⟩ 0) missedFinalHistory = some s →
        lastSeen 0 s = s.file) :=
  refuted_by_run (by decide +kernel)

/-! ### the source has the modelled shape (regenerated facts; a source change breaks these) -/

/-- the debounce-expiry case fingerprints again (and may re-schedule) before `runCallback` -/
theorem source_debounce_site_repaired : codeVariant = .repaired := by decide +kernel

/-- `reconcile` is: fingerprint, (return when unchanged), schedule -/
theorem source_reconcile_shape :
    (closures Gate.Gen.C38.runWatchLoopCalls)[2]? = some ["fingerprint", "return", "schedule"] := by decide +kernel

/-- `runCallback` invokes the callback once and neither fingerprints nor schedules -/
theorem source_runCallback_shape :
    ((closures Gate.Gen.C38.runWatchLoopCalls)[5]?.map fun b =>
      (b.count "cb", b.contains "fingerprint", b.contains "schedule", b.contains "reconcile")) =
      some (1, false, false, false) := by decide +kernel

/-- the loop: tick → (re-attach) reconcile; debounce → fingerprint/schedule/runCallback; event → reconcile -/
theorem source_loop_shape :
    loopTail Gate.Gen.C38.runWatchLoopCalls =
      ["ctx.Done", "stopDebounce", "return", "opts.newWatcher", "bindWatcher", "opts.attached", "reconcile",
       "fingerprint", "schedule", "runCallback", "closeWatcher", "filepath.Clean", "closeWatcher", "filepath.Dir",
       "filepath.Base", "reconcile", "closeWatcher", "closeWatcher"] := by decide +kernel

/-- the initial fingerprint is taken before the loop goroutine starts -/
theorem source_initial_fingerprint :
    hasInfix ["fingerprint", "go:runWatchLoop"] Gate.Gen.C38.watchWithOptionsCalls = true := by decide +kernel

/-! ### non-vacuity: the hypotheses of the stabilisation theorems are satisfiable (a lossy history) -/

example : ∃ (s₁ s₂ : St Nat),
    run? .repaired ⟨250, 100⟩ (init ⟨250, 100⟩ 0) [.write 1, .event, .wait 30, .wclose, .write 2] = some s₁ ∧
    run? .repaired ⟨250, 100⟩ s₁ [.wait 70, .fire, .wait 100, .fire, .wait 50, .tick true, .wait 200] = some s₂ ∧
    s₁.now + 250 + 100 < s₂.now ∧ lastSeen 0 s₁ ≠ s₁.file ∧ seen s₂ = [2] :=
  ⟨_, _, rfl, rfl, by decide, by decide, by decide⟩

end Gate.C38.Props
