import GateModel.C20.Lemmas
/-
C20 — Velocity modern forwarding data is authentic and negotiated like Velocity.

Three clauses:
  A. negotiation  : the forwarding version gate chooses equals Velocity's for EVERY request body, client
                    protocol number and key revision (not only the 256 × 3 × 3 table: the protocol is any integer);
  B. payload      : for every secret, address, profile, key and requested version the payload is accepted by the
                    Paper-style parser under the same secret and parses to exactly what was put in; its first
                    32 bytes are HMAC-SHA256(secret, rest), and the parser accepts nothing else;
  C. refusal      : for every history of backend login packets in velocity mode, login success without a
                    previously answered forwarding request is refused and never proceeds.
-/
namespace Gate.C20.Props
open Gate Gate.C03 Gate.C20 Gate.C20.Spec

/-! ### A. negotiation -/

/-- request body → requested version: gate (`int(int8(p.Data[0]))` iff exactly one byte) = Velocity
    (`readByte()` iff exactly one readable byte) -/
theorem requested_version_eq (data : Bytes) : requestedVersion data = velocityRequested data := by
  unfold requestedVersion velocityRequested
  match data with
  | [] => simp [vDefault_eq, MODERN_FORWARDING_DEFAULT]
  | [b] => simp [int8OfByte_eq]
  | a :: b :: r => simp [vDefault_eq, MODERN_FORWARDING_DEFAULT]

/-- the chosen version equals Velocity's for every requested integer, protocol number and key revision -/
theorem find_version_eq (requested protocol : Int) (k : Option KeyRevision) :
    findForwardingVersion requested protocol (embedKey k)
      = velocityFindForwardingVersion requested protocol k := find_eq requested protocol k

/-- both steps composed: from the bytes of the backend's request to the version answered -/
theorem negotiation_eq (data : Bytes) (protocol : Int) (k : Option KeyRevision) :
    findForwardingVersion (requestedVersion data) protocol (embedKey k)
      = velocityFindForwardingVersion (velocityRequested data) protocol k := by
  rw [requested_version_eq, find_eq]

/-- a key object whose revision is nil or not one of the two known revisions (cannot exist in Velocity,
    whose revision is an enum) negotiates exactly like "no key" -/
theorem unknown_revision_like_no_key (requested protocol : Int) (r : KeyRev)
    (h : r = .nilRev ∨ r = .other) :
    findForwardingVersion requested protocol (some r) = findForwardingVersion requested protocol none := by
  rcases h with h | h <;> subst h <;> rfl

/-- the answer never exceeds what was asked (for requests ≥ 1) and is always one of the four versions;
    versions 2/3 are only chosen when the matching key revision is present -/
theorem version_range (requested protocol : Int) (key : Option KeyRev) :
    findForwardingVersion requested protocol key = 1 ∨ findForwardingVersion requested protocol key = 4 ∨
    (findForwardingVersion requested protocol key = 2 ∧ key = some .genericV1) ∨
    (findForwardingVersion requested protocol key = 3 ∧ key = some .linkedV2) := by
  rcases find_cases requested protocol key with hv | ⟨hv, _⟩ | ⟨hv, hk, _⟩ | ⟨hv, hk, _⟩
  · exact .inl hv
  · exact .inr (.inl hv)
  · exact .inr (.inr (.inl ⟨hv, hk⟩))
  · exact .inr (.inr (.inr ⟨hv, hk⟩))

theorem version_le_requested (requested protocol : Int) (key : Option KeyRev) (h : 1 ≤ requested) :
    findForwardingVersion requested protocol key ≤ requested := by
  rcases find_cases requested protocol key with hv | ⟨hv, hr⟩ | ⟨hv, _, hr⟩ | ⟨hv, _, hr⟩ <;> omega

/-- The pre-fix code read the request byte UNSIGNED: a backend asking with byte 0x80 got version 4 from
    gate where Velocity answers 1 (the full-strength statement fails for that variant). -/
theorem negotiation_fails_for_unsigned_variant :
    findForwardingVersion (requestedVersionDefective [128]) 761 (embedKey none) = 4 ∧
    velocityFindForwardingVersion (velocityRequested [128]) 761 none = 1 := by
  constructor <;> rfl

/-- …while below 128 the two readings agree (the part of the property the old code did satisfy) -/
theorem negotiation_unsigned_variant_partial (b : UInt8) (h : b.toNat < 128) (protocol : Int)
    (k : Option KeyRevision) :
    findForwardingVersion (requestedVersionDefective [b]) protocol (embedKey k)
      = velocityFindForwardingVersion (velocityRequested [b]) protocol k := by
  have : requestedVersionDefective [b] = requestedVersion [b] := by
    simp [requestedVersionDefective, requestedVersion, int8OfByte, h]
  rw [this]; exact negotiation_eq [b] protocol k

/-- The negotiated version is a function of (requested, protocol, key revision) ONLY: replacing the key's
    expiry instant and signature bytes (in particular: an expired key, any clock) changes neither the
    version nor the layout — the two payloads are the same bytes around the key record. -/
theorem version_independent_of_expiry (requested : Int) (p : Player) (k : PlayerKey) (e' : Int) (s' : Bytes)
    (hk : p.key = some k) :
    findForwardingVersion requested p.protocol ({ p with key := some { k with expiry := e', sig := s' } } : Player).keyRev
      = findForwardingVersion requested p.protocol p.keyRev ∧
    ∀ secret address : Bytes, ∃ (pre post : Bytes) (keyed : Bool),
      createForwardingData secret address p requested =
        .ok (hmacSha256 secret (pre ++ (if keyed then writePlayerKey k else []) ++ post) ++
             (pre ++ (if keyed then writePlayerKey k else []) ++ post)) ∧
      createForwardingData secret address { p with key := some { k with expiry := e', sig := s' } } requested =
        .ok (hmacSha256 secret (pre ++ (if keyed then writePlayerKey { k with expiry := e', sig := s' } else []) ++ post) ++
             (pre ++ (if keyed then writePlayerKey { k with expiry := e', sig := s' } else []) ++ post)) := by
  have hrev : ({ p with key := some { k with expiry := e', sig := s' } } : Player).keyRev = p.keyRev := by
    simp [Player.keyRev, hk]
  refine ⟨by rw [hrev], fun secret address => ?_⟩
  simp only [createForwardingData, hrev, hk]
  generalize findForwardingVersion requested p.protocol p.keyRev = v
  by_cases hv : v ≥ vWithKey ∧ v < vLazySession
  · refine ⟨writeVarInt v ++ writeBytes address ++ writeUUID p.id ++ writeBytes p.name ++ writeProperties p.props,
      (if v ≥ vWithKeyV2 then
        (if k.holder ≠ uuidNil then writeBool true ++ writeUUID k.holder else writeBool false) else []), true, ?_, ?_⟩
    all_goals simp [keySection, hv, forwardedBody, List.append_assoc]
  · refine ⟨writeVarInt v ++ writeBytes address ++ writeUUID p.id ++ writeBytes p.name ++ writeProperties p.props,
      [], false, ?_, ?_⟩
    all_goals simp [keySection, hv, forwardedBody, List.append_assoc]

/-! ### B. payload -/

/-- `CreateForwardingData` never fails (the "player auth key missing" branch is unreachable: versions 2
    and 3 are only negotiated when a key is present), and a Paper backend holding the same secret
    verifies the MAC and parses exactly the negotiated version, the address, the UUID, the name, every
    property (empty signature = absent), and for versions 2/3 the key data and (3) the signer —
    consuming every byte. -/
theorem payload_parses (secret address : Bytes) (p : Player) (requested : Int) (h : WfInput address p) :
    ∃ d, createForwardingData secret address p requested = .ok d ∧
      paperParse secret d
        = .ok (expected address p (findForwardingVersion requested p.protocol p.keyRev)) := by
  rcases find_cases requested p.protocol p.keyRev with hv | ⟨hv, _⟩ | ⟨hv, hk, _⟩ | ⟨hv, hk, _⟩
  · -- version 1: no key section
    obtain ⟨d, hd, hp⟩ := create_parseTail secret address p requested [] h (by
      rw [hv]
      unfold keySection
      simp [vWithKey_eq])
    refine ⟨d, hd, ?_⟩
    rw [hp, hv]
    simp [parseTail, expected, MODERN_FORWARDING_WITH_KEY_V2, MODERN_FORWARDING_WITH_KEY, MODERN_LAZY_SESSION]
  · -- version 4: lazy session, no key section
    obtain ⟨d, hd, hp⟩ := create_parseTail secret address p requested [] h (by
      rw [hv]
      unfold keySection
      simp [vLazySession_eq])
    refine ⟨d, hd, ?_⟩
    rw [hp, hv]
    simp [parseTail, expected, MODERN_FORWARDING_WITH_KEY_V2, MODERN_FORWARDING_WITH_KEY, MODERN_LAZY_SESSION]
  · -- version 2: key
    obtain ⟨k, hkey, _⟩ := keyRev_some p _ hk
    obtain ⟨d, hd, hp⟩ := create_parseTail secret address p requested (writePlayerKey k ++ []) h (by
      rw [hv]
      unfold keySection
      simp [vWithKey_eq, vLazySession_eq, vWithKeyV2_eq, hkey])
    refine ⟨d, hd, ?_⟩
    rw [hp, hv]
    unfold parseTail
    rw [if_neg (by simp [MODERN_FORWARDING_WITH_KEY_V2]), if_pos (by simp [MODERN_FORWARDING_WITH_KEY, MODERN_LAZY_SESSION])]
    rw [readKeyData_rt k [] (h.key k hkey)]
    simp [expected, hkey]
  · -- version 3: key and signer
    obtain ⟨k, hkey, _⟩ := keyRev_some p _ hk
    obtain ⟨d, hd, hp⟩ := create_parseTail secret address p requested (writePlayerKey k ++
        (if k.holder ≠ uuidNil then writeBool true ++ writeUUID k.holder else writeBool false)) h (by
      rw [hv]
      unfold keySection
      simp [vWithKey_eq, vLazySession_eq, vWithKeyV2_eq, hkey])
    refine ⟨d, hd, ?_⟩
    rw [hp, hv]
    unfold parseTail
    rw [if_pos (by simp [MODERN_FORWARDING_WITH_KEY_V2, MODERN_LAZY_SESSION])]
    rw [readKeyData_rt k _ (h.key k hkey)]
    simp only
    rw [readSigner_rt p.id k (h.key k hkey).2.2.2.2]
    simp [expected, hkey]

/-- the first 32 bytes are HMAC-SHA256 under the configured secret of everything after them -/
theorem mac_is_hmac (secret address : Bytes) (p : Player) (requested : Int) (d : Bytes)
    (h : createForwardingData secret address p requested = .ok d) :
    d.take 32 = hmacSha256 secret (d.drop 32) ∧ 32 ≤ d.length ∧ checkIntegrity secret d = true := by
  cases hk : keySection (findForwardingVersion requested p.protocol p.keyRev) p.key with
  | error e => simp [createForwardingData, hk] at h
  | ok kp =>
    simp only [createForwardingData, hk, Except.ok.injEq] at h
    subst h
    obtain ⟨h3, h2, hc⟩ := checkIntegrity_mac secret
      (forwardedBody address p (findForwardingVersion requested p.protocol p.keyRev) kp)
    exact ⟨by rw [h2, h3], by rw [List.length_append, hmac_length]; omega, hc⟩

/-- the parser authenticates: whatever it accepts carries the HMAC of its body under the secret
    (so a payload made under another secret, or altered after the MAC, is rejected unless it happens to
    carry the right HMAC — unforgeability itself is a property of HMAC-SHA256 and is not claimed) -/
theorem parser_accepts_only_authentic (secret data : Bytes) (r : Parsed)
    (h : paperParse secret data = .ok r) :
    32 ≤ data.length ∧ data.take 32 = hmacSha256 secret (data.drop 32) := by
  unfold paperParse at h
  split at h
  · cases h
  · rename_i hlen
    split at h
    · cases h
    · rename_i hci
      unfold checkIntegrity at hci
      simp at hci
      exact ⟨hci.1, hci.2.symm⟩

/-- the digest is 32 bytes for every key and message -/
theorem hmac_is_32_bytes (k m : Bytes) : (hmacSha256 k m).length = 32 := hmac_length k m

/-! ### C. refusal without a forwarding request (all packet histories) -/

/-- In velocity mode, whatever the backend sent before — as long as no forwarding request was answered —
    `ServerLoginSuccess` is refused: nothing proceeds, the backend connection is dropped, and the
    connection request (if still undecided) gets the "did not send a forwarding request" result. -/
theorem refuse_without_request (c : Cfg) (ops : List Pkt) (hm : c.mode = .velocity)
    (hno : ∀ p ∈ ops, ¬ isAnswerable p) :
    let s := run c HState.init ops
    let s' := (step c s .loginSuccess).1
    (step c s .loginSuccess).2 = .nothing ∧ s'.proceeded = false ∧ s'.connected = false ∧
    (s.result = none → s'.result = some .refusedNoForwarding) := by
  intro s s'
  have hinv := inv_run c ops HState.init [] (inv_init c)
  simp only [List.nil_append] at hinv
  have hnf : s.forwarded = false := by
    cases hf : s.forwarded with
    | false => rfl
    | true =>
      obtain ⟨_, q, hq, ha⟩ := hinv.1 hf
      exact absurd ha (hno q hq)
  have hnp : s.proceeded = false := by
    cases hp : s.proceeded with
    | false => rfl
    | true => have := hinv.2 hm hp; rw [hnf] at this; cases this
  have hstep : step c s .loginSuccess = ((s.post .refusedNoForwarding).disconnect, .nothing) := by
    simp [step, hm, hnf]
  have hs' : s' = (s.post .refusedNoForwarding).disconnect := congrArg Prod.fst hstep
  rw [hstep, hs']
  exact ⟨rfl, by simpa using hnp, by simp, fun hr => by simp [HState.post, hr]⟩

/-- conversely, along every history: having proceeded towards PLAY in velocity mode implies that a
    forwarding request on `velocity:player_info` was answered (and delivered) earlier in that history -/
theorem proceeded_only_after_forwarding (c : Cfg) (ops : List Pkt) (hm : c.mode = .velocity)
    (hp : (run c HState.init ops).proceeded = true) : ∃ p ∈ ops, isAnswerable p := by
  have hinv := inv_run c ops HState.init [] (inv_init c)
  simp only [List.nil_append] at hinv
  exact (hinv.1 (hinv.2 hm hp)).2

/-- a forwarding request on a live connection in velocity mode is answered with exactly the payload of
    clause B for the player's address, under the configured secret, for the version the request byte
    negotiates -/
theorem request_answered_with_forwarding_data (c : Cfg) (s : HState) (id : Int) (data : Bytes) (w : Bool)
    (hm : c.mode = .velocity) (hc : s.connected = true) (hw : WfInput c.address c.player) :
    ∃ d, (step c s (.pluginMsg ipForwardingChannel id data w)).2 = .response id true d w ∧
      paperParse c.secret d = .ok (expected c.address c.player
        (velocityFindForwardingVersion (velocityRequested data) c.player.protocol
          (toVelocityKey c.player.keyRev))) := by
  obtain ⟨d, hd, hp⟩ := payload_parses c.secret c.address c.player (requestedVersion data) hw
  refine ⟨d, ?_, ?_⟩
  · simp only [step, hc, hm, hd]
    cases w <;> simp
  · rw [hp, ← requested_version_eq, find_eq']

/-- Histories with configuration reloads: whatever was configured (and answered) before — any sequence of
    (configuration, packet) steps — a forwarding request is answered with a payload that authenticates under
    the secret configured NOW and carries the current configuration's player data; nothing is remembered
    from earlier answers. -/
theorem answer_uses_current_secret (hist : List (Cfg × Pkt)) (c : Cfg) (id : Int) (data : Bytes) (w : Bool)
    (hm : c.mode = .velocity) (hw : WfInput c.address c.player)
    (hc : (hist.foldl (fun s cp => (step cp.1 s cp.2).1) HState.init).connected = true) :
    ∃ d, (step c (hist.foldl (fun s cp => (step cp.1 s cp.2).1) HState.init)
            (.pluginMsg ipForwardingChannel id data w)).2 = .response id true d w ∧
      checkIntegrity c.secret d = true ∧
      createForwardingData c.secret c.address c.player (requestedVersion data) = .ok d := by
  obtain ⟨d, hd, hp⟩ := payload_parses c.secret c.address c.player (requestedVersion data) hw
  refine ⟨d, ?_, (mac_is_hmac c.secret c.address c.player _ d hd).2.2, hd⟩
  generalize hist.foldl (fun s cp => (step cp.1 s cp.2).1) HState.init = s at hc ⊢
  simp only [step, hc, hm, hd]
  cases w <;> simp

/-- the first result delivered to the connection request is final (`sync.Once`) -/
theorem result_delivered_once (c : Cfg) (s : HState) (p : Pkt) (r : Result) (h : s.result = some r) :
    (step c s p).1.result = some r := by
  rcases step_cases c s p with hq | ⟨he, _⟩ | ⟨he, _⟩
  · exact hq.2.2 r h
  · rw [he]
    exact h
  · rw [he]
    exact h

/-! ### tie to the source (facts regenerated by `tools/gofacts` on every run) -/

open Gate.Gen.C20 in
/-- the request byte is converted through `int8` (signed), the payload comes from
    `velocity.CreateForwardingData`, and `informationForwarded` is stored only after `mc.WritePacket` -/
theorem src_request_byte_signed_and_flag_after_write :
    "int8" ∈ handleLoginPluginMessageCalls ∧
    handleLoginPluginMessageCalls.idxOf "velocity.CreateForwardingData" < handleLoginPluginMessageCalls.idxOf "mc.WritePacket" ∧
    handleLoginPluginMessageCalls.idxOf "mc.WritePacket" < handleLoginPluginMessageCalls.idxOf "b.informationForwarded.Store" ∧
    handleLoginPluginMessageCalls.idxOf "b.informationForwarded.Store" < handleLoginPluginMessageCalls.length ∧
    (handleLoginPluginMessageCalls.filter (· = "b.informationForwarded.Store")).length = 1 := by decide +kernel

open Gate.Gen.C20 in
/-- the refusal (result + disconnect + return) is the first thing `handleServerLoginSuccess` does after
    loading the flag, before any transition towards PLAY/CONFIG -/
theorem src_refusal_precedes_transition :
    handleServerLoginSuccessCalls.take 6 =
      ["b.config", "b.informationForwarded.Load", "disconnectResult", "b.requestCtx.result",
       "b.serverConn.disconnect", "return"] := by decide +kernel

open Gate.Gen.C20 in
/-- field order of the payload and MAC construction in `CreateForwardingData` / `WritePlayerKey` -/
theorem src_payload_field_order :
    createForwardingDataCalls.filter (fun c => c ∈ ["protoutil.WriteVarInt", "protoutil.WriteString",
        "protoutil.WriteUUID", "protoutil.WriteProperties", "protoutil.WriteBool", "protoutil.WriteBytes",
        "crypto.WritePlayerKey", "hmac.New", "mac.Write", "mac.Sum", "data.Write", "findForwardingVersion"]) =
      ["findForwardingVersion", "protoutil.WriteVarInt", "protoutil.WriteString", "protoutil.WriteUUID",
       "protoutil.WriteString", "protoutil.WriteProperties", "crypto.WritePlayerKey", "protoutil.WriteBool",
       "protoutil.WriteUUID", "protoutil.WriteBool", "hmac.New", "mac.Write", "mac.Sum", "data.Write",
       "data.Write"] ∧
    writePlayerKeyCalls.filter (fun c => c ∈ ["util.WriteInt64", "util.WriteBytes", "util.WriteString",
        "util.WriteVarInt", "util.WriteUint64", "util.WriteInt32"]) =
      ["util.WriteInt64", "util.WriteBytes", "util.WriteBytes"] := by decide +kernel

theorem src_version_constants :
    vDefault = MODERN_FORWARDING_DEFAULT ∧ vWithKey = MODERN_FORWARDING_WITH_KEY ∧
    vWithKeyV2 = MODERN_FORWARDING_WITH_KEY_V2 ∧ vLazySession = MODERN_LAZY_SESSION ∧
    vMax = MODERN_FORWARDING_MAX_VERSION ∧ proto_1_19_3 = MINECRAFT_1_19_3 ∧
    Gate.Gen.C20.ipForwardingChannel = "velocity:player_info" ∧
    Gate.Gen.C20.ipForwardingChannel.toList.all (fun c => c.toNat < 128) = true := by
  refine ⟨rfl, rfl, rfl, rfl, rfl, rfl, by decide +kernel, by decide +kernel⟩

/-! ### non-vacuity -/

def samplePlayer : Player :=
  { id := List.replicate 16 7, name := [78, 111, 116, 99, 104], protocol := 760,
    props := [⟨[116], [118], []⟩, ⟨[116, 50], [118], [115]⟩],
    key := some ⟨.linkedV2, 1700000000000, [1, 2, 3], [4, 5], List.replicate 16 9⟩ }

example : WfInput [49, 46, 50, 46, 51, 46, 52] samplePlayer := by
  refine ⟨by decide, by decide, by decide, ?_, by decide, ?_⟩
  · intro q hq
    simp only [samplePlayer, List.mem_cons, List.not_mem_nil, or_false] at hq
    rcases hq with rfl | rfl <;> exact ⟨by decide, by decide, by decide⟩
  · intro k hk
    simp only [samplePlayer, Option.some.injEq] at hk
    subst hk
    exact ⟨by decide, by decide, by decide, by decide, by decide⟩

example : findForwardingVersion (requestedVersion [3]) samplePlayer.protocol samplePlayer.keyRev = 3 := by rfl
example : findForwardingVersion (requestedVersion [0x80]) 765 none = 1 := by rfl
example : isAnswerable (.pluginMsg ipForwardingChannel 5 [4] true) := ⟨5, [4], rfl⟩
example : ∀ p ∈ [Pkt.setCompression true, Pkt.pluginMsg ipForwardingChannel 0 [] false, Pkt.other],
    ¬ isAnswerable p := by
  intro p hp
  simp only [List.mem_cons, List.not_mem_nil, or_false] at hp
  rcases hp with rfl | rfl | rfl <;> rintro ⟨id, data, h⟩ <;> simp at h

end Gate.C20.Props
