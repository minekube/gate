import GateModel.C03.Lemmas
import GateModel.C20.Link
/-
C20 — helper lemmas: digest length, Paper-reader round trips over the C03 writers, the version
case analysis, the parse of a forwarded body, and what one step of the login handler can do.
-/
namespace Gate.C20
open Gate Gate.C03 Gate.C20.Spec

theorem be4_length (x : UInt32) : (be4 x).length = 4 := beBytes_length 4 _

theorem digest_length (h : H8) : h.digest.length = 32 := by
  simp [H8.digest, be4_length]

theorem sha256_length (m : Bytes) : (sha256 m).length = 32 := digest_length _

theorem hmac_length (k m : Bytes) : (hmacSha256 k m).length = 32 := sha256_length _

theorem vDefault_eq : vDefault = 1 := rfl
theorem vWithKey_eq : vWithKey = 2 := rfl
theorem vWithKeyV2_eq : vWithKeyV2 = 3 := rfl
theorem vLazySession_eq : vLazySession = 4 := rfl
theorem vMax_eq : vMax = 4 := rfl

theorem readUtf_rt (max : Nat) (s rest : Bytes) (h : s.length ≤ max) (h31 : s.length < 2 ^ 31) :
    readUtf max (writeBytes s ++ rest) = .ok (s, rest) := by
  unfold readUtf writeBytes
  rw [List.append_assoc, readVarInt_writeVarInt _ _ (by omega) (by omega)]
  simp only
  have h0 : ¬ ((s.length : Int) < 0) := by omega
  have h1 : ¬ ((s.length : Int) > ((max * 3 : Nat) : Int)) := by omega
  simp only [h0, h1, if_false, Int.toNat_natCast]
  rw [readFull_append s rest]
  simp only [show ¬ (s.length > max) by omega, if_false]

theorem readByteArray_rt (max : Nat) (s rest : Bytes) (h : s.length ≤ max) (h31 : s.length < 2 ^ 31) :
    readByteArray max (writeBytes s ++ rest) = .ok (s, rest) := by
  unfold readByteArray writeBytes
  rw [List.append_assoc, readVarInt_writeVarInt _ _ (by omega) (by omega)]
  simp only
  have h0 : ¬ ((s.length : Int) < 0) := by omega
  have h1 : ¬ ((s.length : Int) > ((max : Nat) : Int)) := by omega
  simp only [h0, h1, if_false, Int.toNat_natCast]
  exact readFull_append s rest

def wfPaperProp (p : Property) : Prop :=
  p.name.length ≤ SHORT_MAX ∧ p.value.length ≤ SHORT_MAX ∧ p.signature.length ≤ SHORT_MAX

theorem SHORT_MAX_lt : SHORT_MAX < 2 ^ 31 := by decide

theorem readPaperProperty_rt (p : Property) (rest : Bytes) (h : wfPaperProp p) :
    readPaperProperty (writeProperty p ++ rest) = .ok (toPaper p, rest) := by
  obtain ⟨h1, h2, h3⟩ := h
  have hm := SHORT_MAX_lt
  unfold writeProperty readPaperProperty toPaper
  simp only [List.append_assoc]
  rw [readUtf_rt _ _ _ h1 (by omega)]; simp only
  rw [readUtf_rt _ _ _ h2 (by omega)]; simp only
  by_cases hs : p.signature.length ≠ 0
  · rw [if_pos hs, List.append_assoc, readBool_rt]; simp only
    rw [readUtf_rt _ _ _ h3 (by omega)]
    have : p.signature ≠ [] := by intro h; simp [h] at hs
    simp [this]
  · rw [if_neg hs, readBool_rt]; simp only
    have : p.signature = [] := List.eq_nil_of_length_eq_zero (Decidable.not_not.mp hs)
    simp [this]

theorem readN_paper (ps : List Property) (rest : Bytes) (hw : ∀ p ∈ ps, wfPaperProp p) :
    readN readPaperProperty ps.length ((ps.map writeProperty).flatten ++ rest)
      = .ok (ps.map toPaper, rest) := by
  induction ps with
  | nil => simp [readN]
  | cons x t ih =>
    simp only [List.map_cons, List.flatten_cons, List.length_cons, readN, List.append_assoc]
    rw [readPaperProperty_rt x _ (hw x (by simp))]
    simp only
    rw [ih (fun y hy => hw y (by simp [hy]))]

theorem readPaperProperties_rt (ps : List Property) (rest : Bytes) (hw : ∀ p ∈ ps, wfPaperProp p)
    (h31 : ps.length < 2 ^ 31) :
    readPaperProperties (writeProperties ps ++ rest) = .ok (ps.map toPaper, rest) := by
  unfold readPaperProperties writeProperties writeList
  rw [List.append_assoc, readVarInt_writeVarInt _ _ (by omega) (by omega)]
  simp only [Int.toNat_natCast]
  exact readN_paper ps rest hw

def wfKey (k : PlayerKey) : Prop :=
  -(2 ^ 63 : Nat) ≤ k.expiry ∧ k.expiry < (2 ^ 63 : Nat) ∧ k.pub.length ≤ 512 ∧ k.sig.length ≤ 4096 ∧
    k.holder.length = 16

theorem readKeyData_rt (k : PlayerKey) (rest : Bytes) (h : wfKey k) :
    readKeyData (writePlayerKey k ++ rest) = .ok (keyData k, rest) := by
  obtain ⟨h1, h2, h3, h4, _⟩ := h
  unfold readKeyData writePlayerKey keyData
  simp only [List.append_assoc]
  rw [readInt_rt 8 (by omega) _ _ (by simpa using h1) (by simpa using h2)]; simp only
  rw [readByteArray_rt _ _ _ h3 (by omega)]; simp only
  rw [readByteArray_rt _ _ _ h4 (by omega)]

theorem readSigner_rt (id : Bytes) (k : PlayerKey) (h : k.holder.length = 16) :
    readSignerOrElse id
      (if k.holder ≠ uuidNil then writeBool true ++ writeUUID k.holder else writeBool false)
      = .ok (signerSeen id k, []) := by
  unfold readSignerOrElse signerSeen
  by_cases hh : k.holder ≠ uuidNil
  · rw [if_pos hh, if_pos hh, readBool_rt]; simp only
    have := readUUID_rt k.holder [] h
    simpa using this
  · rw [if_neg hh, if_neg hh]
    have := readBool_rt false []
    simp only [List.append_nil] at this
    rw [this]

/-- the four possible answers, each with what it takes to get it -/
theorem find_cases (req proto : Int) (key : Option KeyRev) :
    findForwardingVersion req proto key = 1 ∨ (findForwardingVersion req proto key = 4 ∧ 4 ≤ req) ∨
    (findForwardingVersion req proto key = 2 ∧ key = some .genericV1 ∧ 2 ≤ req) ∨
    (findForwardingVersion req proto key = 3 ∧ key = some .linkedV2 ∧ 3 ≤ req) := by
  unfold findForwardingVersion vDefault vWithKey vWithKeyV2 vLazySession vMax
    Gate.Gen.C20.defaultForwardingVersion Gate.Gen.C20.withKeyForwardingVersion
    Gate.Gen.C20.withKeyV2ForwardingVersion Gate.Gen.C20.lazySessionForwardingVersion
    Gate.Gen.C20.forwardingMaxVersion
  simp only
  by_cases h1 : min req 4 > 1
  · rw [if_pos h1]
    by_cases h2 : proto ≥ proto_1_19_3
    · rw [if_pos h2]
      by_cases h3 : min req 4 ≥ 4
      · rw [if_pos h3]
        exact .inr (.inl ⟨rfl, by omega⟩)
      · rw [if_neg h3]
        exact .inl rfl
    · rw [if_neg h2]
      rcases key with _ | r
      · exact .inl rfl
      · cases r
        · exact .inl rfl
        · exact .inr (.inr (.inl ⟨rfl, rfl, by omega⟩))
        · by_cases h3 : min req 4 ≥ 3
          · exact .inr (.inr (.inr ⟨if_pos h3, rfl, by omega⟩))
          · exact .inl (if_neg h3)
        · exact .inl rfl
  · rw [if_neg h1]
    exact .inl rfl

/-- the domain: what a Paper backend's readers accept (its own string/array limits) -/
structure WfInput (address : Bytes) (p : Player) : Prop where
  addr : address.length ≤ SHORT_MAX
  id : p.id.length = 16
  name : p.name.length ≤ 16
  props : ∀ q ∈ p.props, wfPaperProp q
  nprops : p.props.length < 2 ^ 31
  key : ∀ k, p.key = some k → wfKey k

theorem wfInputB_sound (address : Bytes) (p : Player) (h : wfInputB address p = true) :
    WfInput address p := by
  unfold wfInputB at h
  simp only [Bool.and_eq_true, decide_eq_true_eq, List.all_eq_true] at h
  obtain ⟨⟨⟨⟨⟨h1, h2⟩, h3⟩, h4⟩, h5⟩, h6⟩ := h
  refine ⟨h1, h2, h3, ?_, h5, ?_⟩
  · intro q hq
    have := h4 q hq
    unfold wfPropB at this
    simp only [Bool.and_eq_true, decide_eq_true_eq] at this
    exact ⟨this.1.1, this.1.2, this.2⟩
  · intro k hk
    rw [hk] at h6
    unfold wfKeyB at h6
    simp only [Bool.and_eq_true, decide_eq_true_eq] at h6
    exact ⟨h6.1.1.1.1, h6.1.1.1.2, h6.1.1.2, h6.1.2, h6.2⟩

/-- a MAC in front of its body is what the integrity check looks for -/
theorem checkIntegrity_mac (secret body : Bytes) :
    (hmacSha256 secret body ++ body).take 32 = hmacSha256 secret body ∧
    (hmacSha256 secret body ++ body).drop 32 = body ∧
    checkIntegrity secret (hmacSha256 secret body ++ body) = true := by
  have hl := hmac_length secret body
  have h2 : (hmacSha256 secret body ++ body).drop 32 = body := List.drop_left' hl
  have h3 : (hmacSha256 secret body ++ body).take 32 = hmacSha256 secret body := List.take_left' hl
  refine ⟨h3, h2, ?_⟩
  unfold checkIntegrity
  rw [h2, h3]
  simp [hl]

theorem paperParse_mac (secret body : Bytes) :
    paperParse secret (hmacSha256 secret body ++ body) = parseBody body := by
  obtain ⟨_, h2, h3⟩ := checkIntegrity_mac secret body
  unfold paperParse
  rw [if_neg (by rw [List.length_append, hmac_length]; omega), h3, h2]
  rfl

theorem parseBody_forwarded (address : Bytes) (p : Player) (v : Int) (tail : Bytes)
    (hv0 : 0 ≤ v) (hv4 : v ≤ 4) (h : WfInput address p) :
    parseBody (forwardedBody address p v tail)
      = parseTail v address p.id p.name (p.props.map toPaper) tail := by
  have hm := SHORT_MAX_lt
  unfold parseBody forwardedBody
  simp only [List.append_assoc]
  rw [varint_RT v _ (by unfold wfInt32; omega)]; simp only
  have : ¬ (v > MODERN_FORWARDING_MAX_VERSION) := by
    unfold MODERN_FORWARDING_MAX_VERSION MODERN_LAZY_SESSION; omega
  rw [if_neg this]
  rw [readUtf_rt _ _ _ h.addr (by have := h.addr; omega)]; simp only
  rw [readUUID_rt _ _ h.id]; simp only
  rw [readUtf_rt _ _ _ h.name (by have := h.name; omega)]; simp only
  rw [readPaperProperties_rt _ _ h.props h.nprops]

theorem keyRev_some (p : Player) (r : KeyRev) (h : p.keyRev = some r) :
    ∃ k, p.key = some k ∧ k.rev = r := by
  unfold Player.keyRev at h
  cases hk : p.key with
  | none => simp [hk] at h
  | some k => simp [hk] at h; exact ⟨k, rfl, h⟩

/-- once the key section is known to be `kp`, the payload exists and the parser is left with `kp` after
    the common fields -/
theorem create_parseTail (secret address : Bytes) (p : Player) (requested : Int) (kp : Bytes)
    (h : WfInput address p)
    (hk : keySection (findForwardingVersion requested p.protocol p.keyRev) p.key = .ok kp) :
    ∃ d, createForwardingData secret address p requested = .ok d ∧
      paperParse secret d = parseTail (findForwardingVersion requested p.protocol p.keyRev) address p.id p.name
        (p.props.map toPaper) kp := by
  have hv : 0 ≤ findForwardingVersion requested p.protocol p.keyRev ∧
      findForwardingVersion requested p.protocol p.keyRev ≤ 4 := by
    rcases find_cases requested p.protocol p.keyRev with hv | ⟨hv, _⟩ | ⟨hv, _⟩ | ⟨hv, _⟩ <;> omega
  unfold createForwardingData
  simp only [hk]
  exact ⟨_, rfl, by rw [paperParse_mac, parseBody_forwarded _ _ _ _ hv.1 hv.2 h]⟩

theorem int8OfByte_eq (b : UInt8) : int8OfByte b = readByteSigned b := by
  unfold int8OfByte readByteSigned
  by_cases h : b.toNat < 128
  · rw [if_pos h, if_neg (by omega)]; simp
  · rw [if_neg h, if_pos (by omega)]; simp

theorem find_eq (requested protocol : Int) (k : Option KeyRevision) :
    findForwardingVersion requested protocol (embedKey k)
      = velocityFindForwardingVersion requested protocol k := by
  unfold findForwardingVersion velocityFindForwardingVersion vDefault vWithKey vWithKeyV2 vLazySession vMax
    Gate.Gen.C20.defaultForwardingVersion Gate.Gen.C20.withKeyForwardingVersion
    Gate.Gen.C20.withKeyV2ForwardingVersion Gate.Gen.C20.lazySessionForwardingVersion
    Gate.Gen.C20.forwardingMaxVersion
    MODERN_FORWARDING_MAX_VERSION MODERN_LAZY_SESSION MODERN_FORWARDING_DEFAULT MODERN_FORWARDING_WITH_KEY
    MODERN_FORWARDING_WITH_KEY_V2 MINECRAFT_1_19_3 proto_1_19_3
  simp only [Int.min_def]
  rcases k with _ | k
  · simp only [embedKey]
  · cases k <;> simp only [embedKey]

theorem find_eq' (requested protocol : Int) (k : Option KeyRev) :
    findForwardingVersion requested protocol k
      = velocityFindForwardingVersion requested protocol (toVelocityKey k) := by
  rcases k with _ | r
  · exact find_eq _ _ none
  · cases r
    · exact find_eq _ _ none
    · exact find_eq _ _ (some .GENERIC_V1)
    · exact find_eq _ _ (some .LINKED_V2)
    · exact find_eq _ _ none

def HState.init : HState := {}

/-- a forwarding request that was answered and whose answer reached the backend -/
def isAnswerable (p : Pkt) : Prop := ∃ id data, p = .pluginMsg ipForwardingChannel id data true

@[simp] theorem post_forwarded (s : HState) (r : Result) : (s.post r).forwarded = s.forwarded := by
  unfold HState.post; split <;> rfl
@[simp] theorem post_proceeded (s : HState) (r : Result) : (s.post r).proceeded = s.proceeded := by
  unfold HState.post; split <;> rfl
@[simp] theorem post_connected (s : HState) (r : Result) : (s.post r).connected = s.connected := by
  unfold HState.post; split <;> rfl
@[simp] theorem disconnect_forwarded (s : HState) : s.disconnect.forwarded = s.forwarded := rfl
@[simp] theorem disconnect_proceeded (s : HState) : s.disconnect.proceeded = s.proceeded := rfl
@[simp] theorem disconnect_connected (s : HState) : s.disconnect.connected = false := rfl
@[simp] theorem disconnect_result (s : HState) : s.disconnect.result = s.result := rfl

/-- `t` differs from `s` at most by a posted result and a dropped connection -/
def Quiet (s t : HState) : Prop :=
  t.forwarded = s.forwarded ∧ t.proceeded = s.proceeded ∧ ∀ r, s.result = some r → t.result = some r

theorem quiet_refl (s : HState) : Quiet s s := ⟨rfl, rfl, fun _ h => h⟩

theorem quiet_post (s : HState) (r : Result) : Quiet s (s.post r) := by
  refine ⟨post_forwarded s r, post_proceeded s r, fun r' h => ?_⟩
  unfold HState.post
  rw [h]
  exact h

theorem Quiet.disconnect {s t : HState} (h : Quiet s t) : Quiet s t.disconnect := h

/-- what one `HandlePacket` call does to the state: nothing beyond a posted result and a dropped
    connection, or it sets `forwarded` (an answered forwarding request), or it sets `proceeded` (a login
    success that passed the forwarding check) -/
theorem step_cases (c : Cfg) (s : HState) (p : Pkt) :
    Quiet s (step c s p).1 ∨
    ((step c s p).1 = { s with forwarded := true } ∧ c.mode = .velocity ∧ s.connected = true ∧ isAnswerable p) ∨
    ((step c s p).1 = { s with proceeded := true } ∧ p = .loginSuccess ∧
      (c.mode = .velocity → s.forwarded = true)) := by
  cases p with
  | pluginMsg channel id data writeOk =>
    unfold step
    cases hc : s.connected
    · exact .inl (quiet_refl s)
    · simp only [Bool.not_true, Bool.false_eq_true, if_false]
      by_cases hm : c.mode = .velocity ∧ channel = ipForwardingChannel
      · rw [if_pos hm]
        cases createForwardingData c.secret c.address c.player (requestedVersion data) with
        | error e => exact .inl (quiet_refl s).disconnect
        | ok d =>
          cases writeOk with
          | true => exact .inr (.inl ⟨rfl, hm.1, trivial, id, data, by rw [hm.2]⟩)
          | false => exact .inl (quiet_refl s)
      · rw [if_neg hm]
        exact .inl (quiet_refl s)
  | loginSuccess =>
    unfold step
    by_cases hm : c.mode = .velocity ∧ (!s.forwarded) = true
    · rw [if_pos hm]
      exact .inl (quiet_post s _).disconnect
    · rw [if_neg hm]
      cases hc : s.connected
      · exact .inl (quiet_refl s)
      · refine .inr (.inr ⟨rfl, rfl, fun hv => ?_⟩)
        cases hf : s.forwarded with
        | true => rfl
        | false => exact absurd ⟨hv, by rw [hf]; rfl⟩ hm
  | encryptionRequest => exact .inl (quiet_post s _)
  | disconnect => exact .inl (quiet_post s _).disconnect
  | setCompression ok =>
    unfold step
    cases hc : s.connected
    · exact .inl (quiet_refl s)
    · cases ok
      · exact .inl (quiet_post s _).disconnect
      · exact .inl (quiet_refl s)
  | other => exact .inl (quiet_refl s)

/-- history invariant: (1) `forwarded` implies an answered request in the history, (2) in velocity
    mode `proceeded` implies `forwarded` -/
def Inv (c : Cfg) (s : HState) (hist : List Pkt) : Prop :=
  (s.forwarded = true → c.mode = .velocity ∧ ∃ p ∈ hist, isAnswerable p) ∧
  (c.mode = .velocity → s.proceeded = true → s.forwarded = true)

theorem inv_step (c : Cfg) (s : HState) (hist : List Pkt) (p : Pkt) (h : Inv c s hist) :
    Inv c (step c s p).1 (hist ++ [p]) := by
  have hold : s.forwarded = true → c.mode = .velocity ∧ ∃ q ∈ hist ++ [p], isAnswerable q := fun hf =>
    have ⟨hm, q, hq, ha⟩ := h.1 hf
    ⟨hm, q, List.mem_append_left _ hq, ha⟩
  rcases step_cases c s p with hq | ⟨he, hm, _, ha⟩ | ⟨he, _, hfw⟩
  · -- both flags are as before
    exact ⟨fun hf => hold (hq.1 ▸ hf), fun hm hp => hq.1.trans (h.2 hm (hq.2.1 ▸ hp))⟩
  · -- `forwarded` is set, by the answered request `p`
    rw [he]
    exact ⟨fun _ => ⟨hm, p, List.mem_append_right _ List.mem_cons_self, ha⟩, fun _ _ => rfl⟩
  · -- `proceeded` is set, `forwarded` was
    rw [he]
    exact ⟨hold, fun hm _ => hfw hm⟩

theorem inv_run (c : Cfg) (ops : List Pkt) : ∀ (s : HState) (hist : List Pkt), Inv c s hist →
    Inv c (run c s ops) (hist ++ ops) := by
  induction ops with
  | nil => intro s hist h; simpa [run] using h
  | cons p ps ih =>
    intro s hist h
    have := ih (step c s p).1 (hist ++ [p]) (inv_step c s hist p h)
    simpa [run, List.append_assoc] using this

theorem inv_init (c : Cfg) : Inv c HState.init [] := by
  refine ⟨fun h => ?_, fun _ h => ?_⟩ <;> simp [HState.init] at h

end Gate.C20
