import GateModel.C06.Model
import GateModel.C06.Spec
/-
C06 — helper lemmas.  General facts about `PacketRegistry.Register` (valid for ANY list of registrations, not
only the generated one): a registry that initialises without panic has, per protocol, injective id→type and
type→id maps, and its protocol keys are exactly the supported versions.  Plus the boolean checkers whose
`decide +kernel` evaluation over the complete generated table is lifted to ∀-statements in Props.lean.
-/
namespace Gate.C06
open Gate.Gen.C06

/-- no two entries of one `ProtocolRegistry` share an id or share a type -/
def PInj (pt : ProtoTable) : Prop := pt.Pairwise fun a b => a.1 ≠ b.1 ∧ a.2 ≠ b.2
def TInj (t : Table) : Prop := ∀ e ∈ t, PInj e.2
def keys (t : Table) : List Int := t.map Prod.fst

theorem any_key_false {α : Type} {k : α → Nat} {l : List α} {x : Nat} (h : l.any (fun e => k e == x) = false) :
    ∀ e ∈ l, x ≠ k e := by
  intro e he heq
  have := List.any_eq_false.mp h e he
  simp [heq] at this

theorem hasId_false {pt : ProtoTable} {id : Nat} (h : hasId pt id = false) : ∀ e ∈ pt, id ≠ e.1 :=
  any_key_false (k := Prod.fst) h

theorem hasType_false {pt : ProtoTable} {ty : Nat} (h : hasType pt ty = false) : ∀ e ∈ pt, ty ≠ e.2 :=
  any_key_false (k := Prod.snd) h

theorem insertAt_ok {id ty : Nat} {p : Int} {K : List Int} :
    ∀ {t t' : Table}, insertAt id ty p t = .ok t' → TInj t ∧ keys t = K → TInj t' ∧ keys t' = K
  | [], _, h, _ => by simp [insertAt] at h
  | (q, pt) :: rest, t', h, ⟨hi, hk⟩ => by
    have hrest : TInj rest := fun e he => hi e (List.mem_cons_of_mem _ he)
    have hpt : PInj pt := hi (q, pt) (List.mem_cons_self ..)
    unfold insertAt at h
    by_cases hq : q = p
    · rw [if_pos hq] at h
      split at h
      · cases h
      split at h
      · cases h
      next hid hty =>
      cases h
      refine ⟨fun e he => ?_, hk⟩
      rcases List.mem_cons.mp he with rfl | he
      · exact List.pairwise_cons.mpr ⟨fun b hb =>
          ⟨hasId_false (Bool.not_eq_true _ ▸ hid) b hb, hasType_false (Bool.not_eq_true _ ▸ hty) b hb⟩, hpt⟩
      · exact hrest e he
    · rw [if_neg hq] at h
      split at h
      · next rest' hr =>
        cases h
        have ih := insertAt_ok hr ⟨hrest, rfl⟩
        refine ⟨fun e he => ?_, by rw [← hk]; exact congrArg (q :: ·) ih.2⟩
        rcases List.mem_cons.mp he with rfl | he
        · exact hpt
        · exact ih.1 e he
      · cases h

theorem rangeLoop_ok {id ty : Nat} {from_ to : Int} {isLast : Bool} {K : List Int} :
    ∀ (vs : List Int) {t t' : Table}, rangeLoop id ty from_ to isLast vs t = .ok t' → TInj t ∧ keys t = K →
      TInj t' ∧ keys t' = K
  | [], t, t', h, hi => by cases h; exact hi
  | v :: vs, t, t', h, hi => by
    unfold rangeLoop at h
    split at h
    · split at h
      · cases h; exact hi
      · split at h
        · next t1 hins => exact rangeLoop_ok vs h (insertAt_ok hins hi)
        · cases h
    · exact rangeLoop_ok vs h hi

theorem regMaps_ok {ty : Nat} {K : List Int} :
    ∀ (ms : List Mapping) {t t' : Table}, regMaps ty ms t = .ok t' → TInj t ∧ keys t = K → TInj t' ∧ keys t' = K
  | [], t, t', h, hi => by cases h; exact hi
  | cur :: rest, t, t', h, hi => by
    unfold regMaps at h
    split at h
    · cases h
    split at h
    · cases h
    split at h
    · cases h
    split at h
    · next t1 hrl => exact regMaps_ok rest h (rangeLoop_ok _ hrl hi)
    · cases h

theorem registerAll_ok {K : List Int} :
    ∀ (rs : List Reg) {t t' : Table}, registerAll rs t = .ok t' → TInj t ∧ keys t = K → TInj t' ∧ keys t' = K
  | [], t, t', h, hi => by cases h; exact hi
  | r :: rs, t, t', h, hi => by
    unfold registerAll at h
    split at h
    · next t1 hr => exact registerAll_ok rs h (regMaps_ok _ hr hi)
    · cases h

theorem newTable_inj : TInj newTable := by
  intro e he
  simp [newTable] at he
  obtain ⟨p, _, rfl⟩ := he
  exact List.Pairwise.nil

theorem keys_newTable : keys newTable = supported := by
  simp [keys, newTable, Function.comp_def]

/-- any registry that initialises without panic is injective per protocol and has exactly the supported
    versions as keys -/
theorem build_inv {st dir : Nat} {t : Table} (h : build st dir = .ok t) : TInj t ∧ keys t = supported :=
  registerAll_ok _ h ⟨newTable_inj, keys_newTable⟩

theorem findProto_none {t : Table} {p : Int} : findProto t p = none ↔ p ∉ keys t := by
  induction t with
  | nil => simp [findProto, keys]
  | cons e rest ih =>
    obtain ⟨q, pt⟩ := e
    unfold findProto
    by_cases hq : q = p
    · simp [hq, keys]
    · rw [if_neg hq]
      simp only [keys, List.map_cons, List.mem_cons, not_or] at ih ⊢
      constructor
      · intro h; exact ⟨fun h' => hq h'.symm, ih.mp h⟩
      · intro h; exact ih.mpr h.2

theorem findProto_mem {t : Table} {p : Int} {pt : ProtoTable} (h : findProto t p = some pt) : (p, pt) ∈ t := by
  induction t with
  | nil => simp [findProto] at h
  | cons e rest ih =>
    obtain ⟨q, pt'⟩ := e
    unfold findProto at h
    by_cases hq : q = p
    · rw [if_pos hq] at h
      cases h; subst hq; exact List.mem_cons_self ..
    · rw [if_neg hq] at h
      exact List.mem_cons_of_mem _ (ih h)

theorem findProto_isSome {t : Table} {p : Int} (h : p ∈ keys t) : (findProto t p).isSome = true := by
  cases hf : findProto t p with
  | none => exact absurd h (findProto_none.mp hf)
  | some _ => rfl

/-- what `ProtocolRegistry` has to go on for a protocol `p` the proxy does not know: no table for `p`, one for any
    supported `m` -/
theorem findProto_unknown {st dir : Nat} {t : Table} (hb : build st dir = .ok t) {p m : Int} (hp : p ∉ supported)
    (hm : m ∈ supported) : findProto t p = none ∧ ∃ pt, findProto t m = some pt := by
  have hk := (build_inv hb).2
  exact ⟨findProto_none.mpr (hk ▸ hp), Option.isSome_iff_exists.mp (findProto_isSome (hk ▸ hm))⟩

/-- a lookup by a key that no two entries share finds exactly the entry with that key -/
theorem find?_key_iff {α : Type} {k : α → Nat} {l : List α} (hl : l.Pairwise fun a b => k a ≠ k b) {x : Nat}
    {e : α} : l.find? (fun a => k a == x) = some e ↔ e ∈ l ∧ k e = x := by
  induction l with
  | nil => simp
  | cons a r ih =>
    have hp := List.pairwise_cons.mp hl
    rw [List.find?_cons]
    by_cases ha : k a = x
    · simp only [ha, beq_self_eq_true, Option.some.injEq, List.mem_cons]
      constructor
      · rintro rfl; exact ⟨Or.inl rfl, ha⟩
      · rintro ⟨rfl | he, hx⟩
        · rfl
        · exact absurd (ha.trans hx.symm) (hp.1 e he)
    · rw [show (k a == x) = false by simpa using ha, ih hp.2]
      simp only [List.mem_cons]
      constructor
      · rintro ⟨he, hx⟩; exact ⟨Or.inr he, hx⟩
      · rintro ⟨rfl | he, hx⟩
        · exact absurd hx ha
        · exact ⟨he, hx⟩

theorem packetIdIn_iff {pt : ProtoTable} (hi : PInj pt) {id ty : Nat} :
    packetIdIn pt ty = some id ↔ (id, ty) ∈ pt := by
  simp only [packetIdIn, Option.map_eq_some_iff, find?_key_iff (k := Prod.snd) (hi.imp And.right)]
  constructor
  · rintro ⟨⟨a, b⟩, ⟨h, rfl⟩, rfl⟩; exact h
  · intro h; exact ⟨(id, ty), ⟨h, rfl⟩, rfl⟩

theorem packetTypeIn_iff {pt : ProtoTable} (hi : PInj pt) {id ty : Nat} :
    packetTypeIn pt id = some ty ↔ (id, ty) ∈ pt := by
  simp only [packetTypeIn, Option.map_eq_some_iff, find?_key_iff (k := Prod.fst) (hi.imp And.left)]
  constructor
  · rintro ⟨⟨a, b⟩, ⟨h, rfl⟩, rfl⟩; exact h
  · intro h; exact ⟨(id, ty), ⟨h, rfl⟩, rfl⟩

theorem pinj_id_unique {pt : ProtoTable} (hi : PInj pt) {id ty1 ty2 : Nat}
    (h1 : (id, ty1) ∈ pt) (h2 : (id, ty2) ∈ pt) : ty1 = ty2 := by
  have a := (packetTypeIn_iff hi).mpr h1
  have b := (packetTypeIn_iff hi).mpr h2
  rw [a] at b; exact Option.some.inj b

theorem pinj_type_unique {pt : ProtoTable} (hi : PInj pt) {id1 id2 ty : Nat}
    (h1 : (id1, ty) ∈ pt) (h2 : (id2, ty) ∈ pt) : id1 = id2 := by
  have a := (packetIdIn_iff hi).mpr h1
  have b := (packetIdIn_iff hi).mpr h2
  rw [a] at b; exact Option.some.inj b

/-- supported protocols the reference speaks about -/
def refProtocols : List Int := supported.filter fun p => p ≤ Spec.refMax

/-- the registry initialises, and every reference entry of this (registry, direction) has, at every supported
    protocol up to `refMax`, exactly the id (or absence) the reference says -/
def refCheck (st dir : Nat) : Bool :=
  match build st dir with
  | .ok t => t.all fun e => !decide (e.1 ≤ Spec.refMax) ||
      (Spec.referenceFor st dir).all fun r => packetIdIn e.2 r.ty == Spec.refId r.maps e.1
  | .error _ => false

theorem refCheck_ok {st dir : Nat} (h : refCheck st dir = true) : ∃ t, build st dir = .ok t := by
  unfold refCheck at h
  cases hb : build st dir with
  | ok t => exact ⟨t, rfl⟩
  | error e => simp [hb] at h

theorem refCheck_spec {st dir : Nat} (h : refCheck st dir = true) {t : Table} (hb : build st dir = .ok t)
    (e : Spec.RefEntry) (he : e ∈ Spec.reference) (hst : e.st = st) (hdir : e.dir = dir)
    (p : Int) (hp : p ∈ supported) (hmax : p ≤ Spec.refMax) :
    packetId t p e.ty = Spec.refId e.maps p := by
  unfold refCheck at h
  rw [hb] at h
  simp only [List.all_eq_true] at h
  have he' : e ∈ Spec.referenceFor st dir := by
    simp [Spec.referenceFor, List.mem_filter, he, hst, hdir]
  have hk := (build_inv hb).2
  cases hf : findProto t p with
  | none => exact absurd (hk ▸ hp) (findProto_none.mp hf)
  | some pt =>
    have := h (p, pt) (findProto_mem hf)
    simp only [hmax, decide_true, Bool.not_true, Bool.false_or, List.all_eq_true] at this
    simpa [packetId, hf] using this e he'

/-- every registered (registry, direction, type) either has a reference entry or is one of the listed
    gate-only types -/
def coverageCheck (gateOnly : List Nat) : Bool :=
  registry.all fun r =>
    (Spec.reference.any fun e => e.st == r.1 && e.dir == r.2.1 && e.ty == r.2.2.1) || gateOnly.contains r.2.2.1

end Gate.C06
