import GateModel.C06.Lemmas
/-
C06 — Packet id tables agree with the reference protocol for every version.

Property theorems only.  `build st dir` is the model of registry `state.<st>.<dir>` after `init()` of
register.go, computed from the mapping table that `tools/gofacts` regenerates from the source on every run
(`Gate.Gen.C06`); registries are numbered Handshake 0, Status 1, Config 2, Login 3, Play 4 (`registryS`),
directions 0 = serverbound, 1 = clientbound.

  * `ids_injective`, `types_injective`, `id_type_inverse` — GENERAL (any register.go content): whenever init does
    not panic, per protocol an id has at most one type, a type at most one id, and `PacketID`/`CreatePacket` are
    mutually inverse lookups.  Proved by induction over `Register`, not by evaluation.
  * `ref_<registry>_<dir>` — `decide +kernel` over the complete generated table, one theorem per (registry,
    direction): init does not panic and every reference entry has the reference's id at every supported
    protocol ≤ `refMax`.  `expand_wellformed` and `matches_reference` are the ∀-statements lifted from them.
  * `fallback_partial`, `fallback_fails` — a registry with `Fallback = true` answers an unknown protocol with the
    lowest supported version's table; one with `Fallback = false` answers `nil`.  register.go sets `false` for
    `Play` (both directions): recorded finding `play-no-fallback` (Velocity behaves the same and throws).  The
    theorems are stated for both values of the flag, so a repair of register.go does not break them.
  * `reference_coverage`, `supported_subset_reference`, version-table sanity.
-/
namespace Gate.C06.Props
open Gate.Gen.C06 Gate.C06

theorem ids_injective {st dir : Nat} {t : Table} (h : build st dir = .ok t) {p : Int} {pt : ProtoTable}
    (hp : findProto t p = some pt) {id ty1 ty2 : Nat} (h1 : (id, ty1) ∈ pt) (h2 : (id, ty2) ∈ pt) :
    ty1 = ty2 :=
  pinj_id_unique ((build_inv h).1 _ (findProto_mem hp)) h1 h2

theorem types_injective {st dir : Nat} {t : Table} (h : build st dir = .ok t) {p : Int} {pt : ProtoTable}
    (hp : findProto t p = some pt) {id1 id2 ty : Nat} (h1 : (id1, ty) ∈ pt) (h2 : (id2, ty) ∈ pt) :
    id1 = id2 :=
  pinj_type_unique ((build_inv h).1 _ (findProto_mem hp)) h1 h2

/-- `PacketTypes[ty] = id` exactly when `PacketIDs[id] = ty` -/
theorem id_type_inverse {st dir : Nat} {t : Table} (h : build st dir = .ok t) (p : Int) (id ty : Nat) :
    packetId t p ty = some id ↔ packetType t p id = some ty := by
  unfold packetId packetType
  cases hf : findProto t p with
  | none => simp
  | some pt =>
    have hi := (build_inv h).1 _ (findProto_mem hf)
    simp only [Option.bind_some]
    rw [packetIdIn_iff hi, packetTypeIn_iff hi]

/-- the registries exist exactly for the supported versions -/
theorem registry_protocols {st dir : Nat} {t : Table} (h : build st dir = .ok t) (p : Int) :
    (findProto t p).isSome = true ↔ p ∈ supported := by
  have hk := (build_inv h).2
  constructor
  · intro hs
    cases hf : findProto t p with
    | none => rw [hf] at hs; cases hs
    | some pt => rw [← hk]; exact List.mem_map.mpr ⟨_, findProto_mem hf, rfl⟩
  · intro hp; exact findProto_isSome (hk ▸ hp)

theorem ref_handshake_sb : refCheck registryS.Handshake 0 = true := by decide +kernel
theorem ref_handshake_cb : refCheck registryS.Handshake 1 = true := by decide +kernel
theorem ref_status_sb : refCheck registryS.Status 0 = true := by decide +kernel
theorem ref_status_cb : refCheck registryS.Status 1 = true := by decide +kernel
theorem ref_config_sb : refCheck registryS.Config 0 = true := by decide +kernel
theorem ref_config_cb : refCheck registryS.Config 1 = true := by decide +kernel
theorem ref_login_sb : refCheck registryS.Login 0 = true := by decide +kernel
theorem ref_login_cb : refCheck registryS.Login 1 = true := by decide +kernel
theorem ref_play_sb : refCheck registryS.Play 0 = true := by decide +kernel
theorem ref_play_cb : refCheck registryS.Play 1 = true := by decide +kernel

/-- the registry variables of register.go are exactly these five, in this order -/
theorem registry_states : registryStates.length = 5 ∧
    [registryS.Handshake, registryS.Status, registryS.Config, registryS.Login, registryS.Play] = [0, 1, 2, 3, 4] := by
  decide

theorem refCheck_all {st dir : Nat} (hst : st < 5) (hdir : dir < 2) : refCheck st dir = true := by
  have hs : st ∈ [registryS.Handshake, registryS.Status, registryS.Config, registryS.Login, registryS.Play] := by
    rw [registry_states.2]
    simp only [List.mem_cons, List.mem_nil_iff]
    omega
  have hd : dir = 0 ∨ dir = 1 := by omega
  simp only [List.mem_cons, List.mem_nil_iff, or_false] at hs
  rcases hs with rfl | rfl | rfl | rfl | rfl <;> rcases hd with rfl | rfl
  · exact ref_handshake_sb
  · exact ref_handshake_cb
  · exact ref_status_sb
  · exact ref_status_cb
  · exact ref_config_sb
  · exact ref_config_cb
  · exact ref_login_sb
  · exact ref_login_cb
  · exact ref_play_sb
  · exact ref_play_cb

/-- none of the panic branches of `Register` is reachable on the table written in register.go -/
theorem expand_wellformed {st dir : Nat} (hst : st < 5) (hdir : dir < 2) : ∃ t, build st dir = .ok t :=
  refCheck_ok (refCheck_all hst hdir)

/-- every packet type gate shares with the reference has the reference's id (and is registered exactly where
    the reference registers it) in every supported protocol version the reference covers -/
theorem matches_reference {st dir : Nat} (hst : st < 5) (hdir : dir < 2) {t : Table} (hb : build st dir = .ok t)
    (e : Spec.RefEntry) (he : e ∈ Spec.reference) (hes : e.st = st) (hed : e.dir = dir)
    (p : Int) (hp : p ∈ supported) (hmax : p ≤ Spec.refMax) :
    packetId t p e.ty = Spec.refId e.maps p :=
  refCheck_spec (refCheck_all hst hdir) hb e he hes hed p hp hmax

/-- coverage of the reference: every registration of register.go is for a type the reference has an entry for
    in that registry and direction, except the two gate-only sound packets -/
theorem reference_coverage :
    coverageCheck [registryT.packet_SoundEntityPacket, registryT.packet_StopSoundPacket] = true := by
  decide +kernel

/-- reference entries only name registries/directions that exist -/
theorem reference_wellformed : Spec.reference.all (fun e => decide (e.st < 5 ∧ e.dir < 2)) = true := by
  decide +kernel

/-- `Versions` lists the supported versions in strictly ascending order, so `MinimumVersion` is the lowest and
    `MaximumVersion` the highest supported protocol -/
theorem supported_ascending : supported.Pairwise (· < ·) := by decide +kernel

theorem min_lowest : ∀ p ∈ supported, minVersion ≤ p := by decide +kernel
theorem max_highest : ∀ p ∈ supported, p ≤ maxVersion := by decide +kernel
theorem min_supported : minVersion ∈ supported := by decide +kernel

/-- every version gate supports (up to the newest the reference knows) is a version of the reference -/
theorem supported_subset_reference : ∀ p ∈ supported, p ≤ Spec.refMax → p ∈ Spec.velocityVersions := by
  decide +kernel

/-! Unknown protocol versions.
`protocolRegistry t fb p` models `(*PacketRegistry).ProtocolRegistry(p)` for a registry whose `Fallback` field is
`fb`.  Which value the field has per registry is a regenerated fact (`fallbackFlag`, from the `X.Dir.Fallback = b`
assignments of register.go); the driver uses it, the theorems below cover both values. -/

/-- a registry with `Fallback = true` answers a protocol the proxy does not know with the lowest supported
    version's table (never `nil`).  `_partial`: the property's clause holds for such registries only. -/
theorem fallback_partial {st dir : Nat} {t : Table} (hb : build st dir = .ok t) (p : Int) (hp : p ∉ supported) :
    protocolRegistry t true p = protocolRegistry t true minVersion ∧
      (protocolRegistry t true p).isSome = true := by
  obtain ⟨hnone, pt, hm⟩ := findProto_unknown hb hp min_supported
  simp [protocolRegistry, hnone, hm]

/-- with `Fallback = false` (what register.go sets for `Play`) the clause fails for EVERY unknown protocol:
    the answer is `nil`, not the lowest version's table -/
theorem fallback_fails {st dir : Nat} {t : Table} (hb : build st dir = .ok t) (p : Int) (hp : p ∉ supported) :
    protocolRegistry t false p = none ∧ protocolRegistry t false p ≠ protocolRegistry t false minVersion := by
  obtain ⟨hnone, pt, hm⟩ := findProto_unknown hb hp min_supported
  simp [protocolRegistry, hnone, hm]

/-- concrete witness on the generated table: 9999 is unknown, `Play.ServerBound` initialises -/
theorem fallback_fails_witness : ∃ t, build registryS.Play 0 = .ok t ∧ (9999 : Int) ∉ supported ∧
    protocolRegistry t false 9999 = none := by
  obtain ⟨t, hb⟩ := expand_wellformed (st := registryS.Play) (dir := 0) (by decide) (by decide)
  have hp : (9999 : Int) ∉ supported := by decide +kernel
  exact ⟨t, hb, hp, (fallback_fails hb 9999 hp).1⟩

/-- every registry other than `Play` keeps the default `Fallback = true` -/
theorem fallback_enabled_outside_play :
    ([registryS.Handshake, registryS.Status, registryS.Config, registryS.Login].all fun st =>
      fallbackFlag st 0 && fallbackFlag st 1) = true := by decide

example : ∃ t, build registryS.Play 1 = .ok t := expand_wellformed (by decide) (by decide)
example : (9999 : Int) ∉ supported ∧ (109 : Int) ∉ supported ∧ (-1 : Int) ∉ supported := by decide +kernel
example : Spec.reference.length = 90 ∧ (Spec.referenceFor registryS.Play 1).length = 31 := by decide +kernel
example : Spec.refId [Spec.mp 0 4, Spec.mpl 3 477 758] 758 = some 3 ∧
    Spec.refId [Spec.mp 0 4, Spec.mpl 3 477 758] 759 = none ∧ Spec.refId [Spec.mp 7 47] 5 = none := by decide

end Gate.C06.Props
