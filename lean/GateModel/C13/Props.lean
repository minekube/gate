import GateModel.C13.Init
import GateModel.Gen.C13
/-
C13 — Login plugin messages are answered exactly once by the matching consumer.

System: any number of goroutines, each any list of calls on one `loginInboundConn`
(`SendLoginPluginMessage` with a plain / chained / Forge-relay consumer, `handleLoginPluginResponse` with any
id / success flag / body, `loginEventFired`, `clearOnAllMessagesHandled`, `cleanup`, rejected sends).
Every theorem quantifies over EVERY program and EVERY schedule (`sched : List Nat`, any interleaving of
the goroutines' atomic actions: one action per critical section of `l.mu` or per call-out without the lock).

  * ids are never reused; the consumer of a message is invoked at most once, it is the consumer stored
    for that id, and the reply it gets is one the client sent for that id (`consumer_*`, `only_matching_*`);
  * a response whose id is not outstanding changes nothing (`unknown_ignored*`);
  * Forge relay: every LoginPluginResponse written to the backend answers one relayed message, at most once,
    with the backend's id and the client's reply; in a terminal state every answered relayed message has
    been answered to the backend (`relay_*`);
  * completion (the code after fixes/C13-completion-once.diff = `Variant.repaired`, at most one
    `loginEventFired` call): invoked at most once, only after the event fired, decided in a critical
    section in which the outstanding map is empty, and exactly once in a terminal state with the
    event fired, nothing outstanding, no cleanup/clear and no answer that preceded its message
    (`completion_*`); `completion_at_most_once_defective_fails*` are kernel-checked witnesses for the code
    before the fix;
  * source-shape facts regenerated from login_inbound.go / forge_login_relay.go / the session handlers
    (`shape_*`): call-outs happen outside `l.mu`, map and queue accesses inside.
-/
namespace Gate.C13.Props
open Gate.C13

/-- no message id is handed to a consumer twice — for all programs, schedules and both variants -/
theorem consumer_at_most_once (v : Variant) (prog : Program) (sched : List Nat) (n : Int) :
    ((exec v (initSys prog) sched).st.consLog.map (·.1)).count n ≤ 1 :=
  (id_exec v prog sched n).consLog_le

/-- ids are never reused: at most one `(id, consumer)` is ever stored per id -/
theorem ids_never_reused (v : Variant) (prog : Program) (sched : List Nat) (n : Int) :
    ((exec v (initSys prog) sched).st.registered.map (·.1)).count n ≤ 1 :=
  (id_exec v prog sched n).registered_le

/-- an invoked consumer is the one stored for that id, and its reply is one the client sent for that id -/
theorem only_matching_consumer (v : Variant) (prog : Program) (sched : List Nat) (id : Int) (c : Consumer) (r : Reply)
    (h : (id, c, r) ∈ (exec v (initSys prog) sched).st.consLog) :
    (id, c) ∈ (exec v (initSys prog) sched).st.registered ∧ prog.offers id r := by
  have hm := mem_exec v prog sched
  exact hm.hit_reg _ (hm.log_hit _ h)

/-- …and no other consumer can have been stored under that id -/
theorem matching_consumer_unique (v : Variant) (prog : Program) (sched : List Nat) (id : Int) (c c' : Consumer)
    (h : (id, c) ∈ (exec v (initSys prog) sched).st.registered)
    (h' : (id, c') ∈ (exec v (initSys prog) sched).st.registered) : c = c' := by
  have := eq_of_count_le_one _ (ids_never_reused v prog sched) h h' rfl
  exact (Prod.mk.inj this).2

/-- a response with an id that is not outstanding: no state change, no follow-up action -/
theorem unknown_ignored (v : Variant) (s : State) (id : Int) (ok : Bool) (data : Bytes)
    (h : id ∉ keys s.outstanding) : step v s (.respLookup id ok data) = (s, []) := by
  apply step_respLookup_none
  cases hl : s.outstanding.lookup id with
  | none => rfl
  | some c => exact absurd (List.count_pos_iff.1 (lookup_some_count hl)) h

/-- after a response for `id` was looked up, `id` is not outstanding (so a duplicate is ignored) -/
theorem answered_id_not_outstanding (v : Variant) (s : State) (id : Int) (ok : Bool) (data : Bytes) :
    id ∉ keys (step v s (.respLookup id ok data)).1.outstanding := by
  cases hl : s.outstanding.lookup id with
  | none => rw [step_respLookup_none hl]; exact lookup_none_not_mem hl
  | some c =>
    rw [step_respLookup_some hl]
    intro hk
    exact ((keys_mapDel _ _ _).1 hk).1 rfl

/-- the backend sees exactly the relay consumers' invocations, in order -/
theorem relay_backend_is_consumer_log (v : Variant) (prog : Program) (sched : List Nat) :
    (exec v (initSys prog) sched).st.backendOut = (exec v (initSys prog) sched).st.consLog.filterMap relayOut :=
  (mem_exec v prog sched).backend

theorem mem_backend_iff (v : Variant) (prog : Program) (sched : List Nat) (id bid : Int) (r : Reply) :
    (id, bid, r) ∈ (exec v (initSys prog) sched).st.backendOut ↔
      ∃ e, (id, Consumer.relay bid e, r) ∈ (exec v (initSys prog) sched).st.consLog := by
  rw [relay_backend_is_consumer_log]
  simp only [List.mem_filterMap]
  constructor
  · rintro ⟨⟨id', c', r'⟩, hm, hr⟩
    cases c' with
    | relay b e => simp [relayOut] at hr; obtain ⟨rfl, rfl, rfl⟩ := hr; exact ⟨e, hm⟩
    | plain t fl => simp [relayOut] at hr
    | chain t n => simp [relayOut] at hr
  · rintro ⟨e, hm⟩; exact ⟨_, hm, rfl⟩

/-- a relayed message is answered to the backend at most once -/
theorem relay_at_most_once (v : Variant) (prog : Program) (sched : List Nat) (n : Int) :
    ((exec v (initSys prog) sched).st.backendOut.map (·.1)).count n ≤ 1 := by
  have h := consumer_at_most_once v prog sched n
  rw [relay_backend_is_consumer_log]
  refine Nat.le_trans ?_ h
  -- `filterMap relayOut` drops entries and keeps the id of those it keeps
  generalize (exec v (initSys prog) sched).st.consLog = l
  induction l with
  | nil => simp
  | cons x xs ih =>
    obtain ⟨id, c, r⟩ := x
    cases c <;> simp [List.filterMap_cons, relayOut, List.count_cons] <;> omega

/-- every answer to the backend carries the backend's own id of a message that was relayed under the
    proxy id it answers, and the reply the client sent for that proxy id -/
theorem relay_answer_matches (v : Variant) (prog : Program) (sched : List Nat) (id bid : Int) (r : Reply)
    (h : (id, bid, r) ∈ (exec v (initSys prog) sched).st.backendOut) :
    (∃ e, (id, Consumer.relay bid e) ∈ (exec v (initSys prog) sched).st.registered) ∧ prog.offers id r := by
  obtain ⟨e, he⟩ := (mem_backend_iff v prog sched id bid r).1 h
  have := only_matching_consumer v prog sched id _ r he
  exact ⟨⟨e, this.1⟩, this.2⟩

/-- in a terminal state every hit has been consumed -/
theorem terminal_hits_consumed (v : Variant) (prog : Program) (sched : List Nat)
    (hterm : (exec v (initSys prog) sched).terminal = true) (h : Int × Consumer × Reply)
    (hh : h ∈ (exec v (initSys prog) sched).st.hits) : h ∈ (exec v (initSys prog) sched).st.consLog := by
  have hid := id_exec v prog sched
  -- no consumer call is pending, so the hit is in the consumer log, under the same id
  have h3 := (hid h.1).2.2
  rw [cnt_zero_of_all_empty (fCons h.1) _ hterm, Nat.zero_add] at h3
  have hlog : h.1 ∈ hkeys (exec v (initSys prog) sched).st.consLog := by
    rw [← List.count_pos_iff, ← h3, List.count_pos_iff]
    exact List.mem_map.2 ⟨h, hh, rfl⟩
  obtain ⟨e, he, hek⟩ := List.mem_map.1 hlog
  exact eq_of_count_le_one _ (fun n => (hid n).hits_le) ((mem_exec v prog sched).log_hit e he) hh hek ▸ he

/-- exactly once: when all goroutines have finished, every relayed message the client answered has
    been answered to the backend (with the backend id and that reply) — and by `relay_at_most_once` only once -/
theorem relay_exactly_once (v : Variant) (prog : Program) (sched : List Nat)
    (hterm : (exec v (initSys prog) sched).terminal = true) (id bid : Int) (e : Bool) (r : Reply)
    (hh : (id, Consumer.relay bid e, r) ∈ (exec v (initSys prog) sched).st.hits) :
    (id, bid, r) ∈ (exec v (initSys prog) sched).st.backendOut :=
  (mem_backend_iff v prog sched id bid r).2 ⟨e, terminal_hits_consumed v prog sched hterm _ hh⟩

/-- the completion callback is invoked at most once -/
theorem completion_at_most_once (prog : Program) (h1 : prog.fires ≤ 1) (sched : List Nat) :
    (exec .repaired (initSys prog) sched).st.completions ≤ 1 := by
  have := (live_exec prog h1 sched).1.2
  omega

/-- …and only after the pre-login event fired -/
theorem completion_only_after_fired (prog : Program) (h1 : prog.fires ≤ 1) (sched : List Nat)
    (h : 0 < (exec .repaired (initSys prog) sched).st.completions) :
    (exec .repaired (initSys prog) sched).st.fired = true :=
  (live_exec prog h1 sched).2.fired_of (Or.inr (Or.inr h))

/-- the decision to complete is taken in a critical section after which the event has fired and no
    message is outstanding: whenever an action of a reachable state schedules the callback -/
theorem completion_decided_when_all_answered (prog : Program) (h1 : prog.fires ≤ 1) (sched : List Nat)
    (t : Nat) (a : Act) (rest : List Act)
    (hget : (exec .repaired (initSys prog) sched).ts[t]? = some (a :: rest))
    (hc : Act.complete ∈ (step .repaired (exec .repaired (initSys prog) sched).st a).2) :
    (step .repaired (exec .repaired (initSys prog) sched).st a).1.fired = true ∧
    (step .repaired (exec .repaired (initSys prog) sched).st a).1.outstanding = [] := by
  obtain ⟨hT, hL⟩ := live_exec prog h1 sched
  generalize exec .repaired (initSys prog) sched = sys at *
  rcases spawned .repaired sys.st a hc with ⟨rfl, hcond⟩ | ⟨rfl, hq⟩
  · rw [step_respCheck_repaired hcond]
    rw [Bool.and_eq_true] at hcond
    exact ⟨hL.fired_of (.inl hcond.2), List.isEmpty_iff.1 hcond.1⟩
  · have hnf : sys.st.fired = false :=
      TokAt.not_fired hT (by have := cnt_step fF [] hget; simp only [fF, wsum_nil] at this; omega)
    refine ⟨rfl, ?_⟩
    show sys.st.outstanding = []
    cases ho : sys.st.outstanding with
    | nil => rfl
    | cons e es =>
      have := hL.out_q hnf e.1 (by rw [ho]; exact .head _)
      rw [List.isEmpty_iff.1 hq] at this
      cases this

/-- exactly once: when all goroutines have finished, the event fired, every message was answered, the
    connection was not cleaned up / the callback not cleared, and no answer preceded its message, the
    completion callback has run exactly once -/
theorem completion_exactly_once (prog : Program) (h1 : prog.fires ≤ 1) (sched : List Nat)
    (hterm : (exec .repaired (initSys prog) sched).terminal = true)
    (hf : (exec .repaired (initSys prog) sched).st.fired = true)
    (ho : (exec .repaired (initSys prog) sched).st.outstanding = [])
    (hc : (exec .repaired (initSys prog) sched).st.cleaned = false)
    (hp : (exec .repaired (initSys prog) sched).st.premature = false) :
    (exec .repaired (initSys prog) sched).st.completions = 1 := by
  obtain ⟨hT, hL⟩ := live_exec prog h1 sched
  have hK := cnt_zero_of_all_empty fK _ hterm
  have hM := cnt_zero_of_all_empty fM _ hterm
  have := hT.2
  rcases hL.progress hf hc hp with h | ⟨_, h | h⟩
  · omega
  · exact absurd ho h
  · omega

/-- the code before the fix: `loginEventFired; SendLoginPluginMessage; handleLoginPluginResponse(1)` on one
    goroutine runs the completion callback twice -/
theorem completion_at_most_once_defective_fails :
    ∃ (prog : Program) (sched : List Nat), prog.fires ≤ 1 ∧
      (exec .defective (initSys prog) sched).st.completions = 2 :=
  ⟨[[.fire, .send (.plain 1), .respond 1 true [0xaa]]], [0, 0, 0, 0, 0, 0, 0, 0, 0], by decide, by decide⟩

/-- …and so does a send that slips between `loginEventFired`'s critical section and its callback call -/
theorem completion_at_most_once_defective_fails_race :
    ∃ (prog : Program) (sched : List Nat), prog.fires ≤ 1 ∧
      (exec .defective (initSys prog) sched).st.completions = 2 ∧
      (exec .defective (initSys prog) (sched.take 3)).st.outstanding ≠ [] ∧
      (exec .defective (initSys prog) (sched.take 4)).st.completions = 1 :=
  ⟨[[.fire], [.send (.plain 1)], [.respond 1 true [0xaa]]], [0, 1, 1, 0, 1, 2, 2, 2, 2],
    by decide, by decide, by decide, by decide⟩

/-- the same programs under the repaired code (non-vacuity of the hypotheses of the theorems above) -/
example : let prog : Program := [[.fire, .send (.plain 1), .respond 1 true [0xaa]]]
    prog.fires ≤ 1 ∧ (exec .repaired (initSys prog) [0, 0, 0, 0, 0, 0, 0, 0, 0]).st.completions = 1 := by decide
example : let prog : Program := [[.send (.plain 1), .send (.relay 7 false), .fire], [.respond 2 true [1], .respond 1 false []]]
    let s := exec .repaired (initSys prog) [0, 0, 0, 0, 0, 0, 0, 1, 1, 1, 1, 1, 1, 1, 1]
    prog.fires ≤ 1 ∧ s.terminal = true ∧ s.st.fired = true ∧ s.st.outstanding = [] ∧ s.st.cleaned = false ∧
    s.st.premature = false ∧ s.st.completions = 1 ∧ s.st.backendOut = [(2, 7, some [1])] := by decide

theorem runFree_is_exec (v : Variant) (fuel : Nat) (sys : Sys) (t : Nat) :
    ∃ sched, runFree v fuel sys t = exec v sys sched := by
  induction fuel generalizing sys with
  | zero => exact ⟨[], rfl⟩
  | succ n ih =>
    unfold runFree
    split
    · split
      · exact ⟨[], rfl⟩
      · obtain ⟨s, hs⟩ := ih (stepSys v sys t)
        exact ⟨t :: s, by rw [hs]; rfl⟩
    · exact ⟨[], rfl⟩

/-- a pick of the correspondence harness (one gated action of goroutine `t`, then `t`'s ungated ones) is a
    schedule, so whatever holds along every schedule holds along every run the harness drives -/
theorem pick_is_exec (v : Variant) (sys : Sys) (t : Nat) : ∃ sched, pick v sys t = exec v sys sched := by
  unfold pick
  split
  · split
    · obtain ⟨s, hs⟩ := runFree_is_exec v 10000 (stepSys v sys t) t
      exact ⟨t :: s, by rw [hs]; rfl⟩
    · exact runFree_is_exec v 10000 sys t
  · exact ⟨[], rfl⟩

/-! ### source shape (regenerated from /repo on every run) -/

structure Scan where
  held : Bool := false
  pendingUnlock : Bool := false
  out : List (String × Bool) := []

/-- flat lock-depth scan of a call sequence: `(call, lock held?)` for every call other than lock/unlock.
    `Unlock` directly followed by `return` is an early-exit branch and does not end the region for the
    code after it. -/
def lockScan (lock unlock : String) (calls : List String) : List (String × Bool) :=
  (calls.foldl (fun (s : Scan) c =>
    let s := if s.pendingUnlock then
        (if c = "return" then { s with pendingUnlock := false } else { s with held := false, pendingUnlock := false })
      else s
    if c = lock then { s with held := true }
    else if c = unlock then { s with pendingUnlock := true }
    else { s with out := s.out ++ [(c, s.held)] }) {}).out

def heldAt (lock unlock : String) (calls : List String) (name : String) : List Bool :=
  ((lockScan lock unlock calls).filter (·.1 = name)).map (·.2)

open Gate.Gen.C13 in
/-- handleLoginPluginResponse: map access inside `l.mu`, consumer and completion callback outside, two critical sections -/
theorem shape_respond :
    heldAt "l.mu.Lock" "l.mu.Unlock" respondCalls "delete" = [true] ∧
    heldAt "l.mu.Lock" "l.mu.Unlock" respondCalls "consumer.OnMessageResponse" = [false, false] ∧
    heldAt "l.mu.Lock" "l.mu.Unlock" respondCalls "onAllMessagesHandled" = [false] ∧
    (respondCalls.filter (· = "l.mu.Lock")).length = 2 := by decide +kernel

open Gate.Gen.C13 in
/-- SendLoginPluginMessage: id from the atomic counter, queue access inside `l.mu`, packet write outside -/
theorem shape_send :
    heldAt "l.mu.Lock" "l.mu.Unlock" sendCalls "l.sequenceCounter.Inc" = [false] ∧
    heldAt "l.mu.Lock" "l.mu.Unlock" sendCalls "l.loginMessagesToSend.PushBack" = [true] ∧
    heldAt "l.mu.Lock" "l.mu.Unlock" sendCalls "l.delegate.WritePacket" = [false] ∧
    (sendCalls.filter (· = "l.mu.Lock")).length = 1 := by decide +kernel

open Gate.Gen.C13 in
/-- loginEventFired: queue drained inside `l.mu`; callback and packet writes outside; one critical section -/
theorem shape_fired :
    heldAt "l.mu.Lock" "l.mu.Unlock" firedCalls "l.loginMessagesToSend.PopFront" = [true] ∧
    heldAt "l.mu.Lock" "l.mu.Unlock" firedCalls "onAllMessagesHandled" = [false] ∧
    heldAt "l.mu.Lock" "l.mu.Unlock" firedCalls "l.delegate.BufferPacket" = [false] ∧
    heldAt "l.mu.Lock" "l.mu.Unlock" firedCalls "l.delegate.Flush" = [false] ∧
    (firedCalls.filter (· = "l.mu.Lock")).length = 1 := by decide +kernel

open Gate.Gen.C13 in
theorem shape_clear_cleanup :
    clearCalls = ["l.mu.Lock", "l.mu.Unlock"] ∧
    heldAt "l.mu.Lock" "l.mu.Unlock" cleanupCalls "l.loginMessagesToSend.Clear" = [true] := by decide +kernel

open Gate.Gen.C13 in
/-- relay: the consumer writes one LoginPluginResponse to the backend, outside the relay's own lock;
    relayToClient registers through SendLoginPluginMessage; the backend login handler relays through it -/
theorem shape_relay :
    heldAt "c.relay.mu.Lock" "c.relay.mu.Unlock" relayConsumerCalls "c.backendConn.WritePacket" = [false] ∧
    "packet.LoginPluginResponse" ∈ relayConsumerLits ∧
    "r.clientLogin.SendLoginPluginMessage" ∈ relayToClientCalls ∧
    "relay.relayToClient" ∈ backendPluginCalls := by decide +kernel

open Gate.Gen.C13 in
/-- both login-phase session handlers hand LoginPluginResponse packets to handleLoginPluginResponse -/
theorem shape_dispatch :
    "*packet.LoginPluginResponse" ∈ initialCases ∧ "*packet.LoginPluginResponse" ∈ authCases ∧
    "l.inbound.handleLoginPluginResponse" ∈ initialDispatchCalls ∧
    "a.inbound.handleLoginPluginResponse" ∈ authDispatchCalls := by decide +kernel

open Gate.Gen.C13 in
/-- when the Forge relay takes over, the auth handler only drops the completion callback
    (clearOnAllMessagesHandled); it does not clean the inbound up (which would drop outstanding consumers) -/
theorem shape_relay_takeover :
    "a.inbound.clearOnAllMessagesHandled" ∈ relayTakeoverCalls ∧ "a.inbound.cleanup" ∉ relayTakeoverCalls ∧
    cleanupCalls = ["l.mu.Lock", "l.loginMessagesToSend.Clear", "l.mu.Unlock"] := by decide +kernel

end Gate.C13.Props
