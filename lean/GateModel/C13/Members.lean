import GateModel.C13.Lemmas
import GateModel.C13.MapLemmas
/- C13: where entries come from — outstanding ⊆ registered, pending consumer calls / consumer log ⊆ hits,
   hits ⊆ registered × replies offered by the program, backend writes = relay entries of the consumer log. -/
namespace Gate.C13

def relayOut : Int × Consumer × Reply → Option (Int × Int × Reply)
  | (id, .relay bid _, r) => some (id, bid, r)
  | _ => none

structure MemInv (prog : Program) (sys : Sys) : Prop where
  out_reg : ∀ e ∈ sys.st.outstanding, e ∈ sys.st.registered
  pend_hit : ∀ id c r, Act.respConsume id c r ∈ sys.ts.flatten → (id, c, r) ∈ sys.st.hits
  hit_reg : ∀ h ∈ sys.st.hits, (h.1, h.2.1) ∈ sys.st.registered ∧ prog.offers h.1 h.2.2
  log_hit : ∀ e ∈ sys.st.consLog, e ∈ sys.st.hits
  backend : sys.st.backendOut = sys.st.consLog.filterMap relayOut
  pend_resp : ∀ id ok data, Act.respLookup id ok data ∈ sys.ts.flatten → Call.respond id ok data ∈ prog.flatten

/-- no action spawns a response lookup; a consumer call is spawned only by the lookup that hit it, the completion
    call only by a `respCheck` that finds nothing outstanding and the callback installed or by `fireLock` on an
    empty queue -/
theorem spawned (v : Variant) (s : State) (a : Act) {x : Act} (h : x ∈ (step v s a).2) :
    match x with
    | .respLookup .. => False
    | .respConsume id c r =>
      ∃ ok data, a = .respLookup id ok data ∧ s.outstanding.lookup id = some c ∧ r = replyOf ok data
    | .complete =>
      a = .respCheck ∧ (s.outstanding.isEmpty && s.onAll) = true ∨ a = .fireLock ∧ s.queue.isEmpty = true
    | _ => True := by
  cases a with
  | sendInc c => obtain rfl := List.mem_singleton.1 h; trivial
  | sendReg i c =>
    rw [step_sendReg] at h; dsimp only at h
    split at h
    · obtain rfl := List.mem_singleton.1 h; trivial
    · cases h
  | respLookup i o d =>
    cases hl : s.outstanding.lookup i with
    | none => rw [step_respLookup_none hl] at h; cases h
    | some c =>
      rw [step_respLookup_some hl] at h
      rcases List.mem_cons.1 h with rfl | h
      · exact ⟨o, d, rfl, hl, rfl⟩
      · obtain rfl := List.mem_singleton.1 h; trivial
  | respConsume i c r =>
    rcases step_respConsume_snd v s i c r with e | ⟨next, e⟩ <;> rw [e] at h
    · cases h
    · obtain rfl := List.mem_singleton.1 h; trivial
  | respCheck =>
    by_cases hc : (s.outstanding.isEmpty && s.onAll) = true
    · have e : (step v s .respCheck).2 = [.complete] := by
        cases v
        · rw [step_respCheck_repaired hc]
        · rw [step_respCheck_defective hc]
      obtain rfl := List.mem_singleton.1 (e ▸ h)
      exact .inl ⟨rfl, hc⟩
    · rw [step_respCheck_neg hc] at h; cases h
  | fireLock =>
    rw [step_fireLock] at h; dsimp only at h
    split at h
    · next hq => obtain rfl := List.mem_singleton.1 h; exact .inr ⟨rfl, hq⟩
    · obtain ⟨i, _, rfl⟩ := List.mem_map.1 h; trivial
  | _ => cases h

theorem mem_step (v : Variant) (prog : Program) {sys : Sys} {t a rest} (hI : MemInv prog sys)
    (hget : sys.ts[t]? = some (a :: rest)) : MemInv prog (after v sys t a rest) := by
  have hin : a ∈ sys.ts.flatten := mem_flatten_of_get hget (.head _)
  have hresp : ∀ id ok data, Act.respLookup id ok data ∈ (after v sys t a rest).ts.flatten →
      Call.respond id ok data ∈ prog.flatten := fun id ok data hx =>
    (mem_flatten_set hget hx).elim (fun h => (spawned v sys.st a h).elim) (hI.pend_resp id ok data)
  -- a pending consumer call was hit before, or is hit by this very lookup
  have hhit : (∀ e ∈ sys.st.hits, e ∈ (after v sys t a rest).st.hits) →
      ∀ id c r, Act.respConsume id c r ∈ (after v sys t a rest).ts.flatten → (id, c, r) ∈ (after v sys t a rest).st.hits := by
    intro hmono id c r hx
    rcases mem_flatten_set hget hx with h | h
    · obtain ⟨ok, data, rfl, hl, rfl⟩ := spawned v sys.st a h
      rw [after_eq (step_respLookup_some hl)]
      exact List.mem_append_right _ (.head _)
    · exact hmono _ (hI.pend_hit id c r h)
  cases a with
  | sendReg id c =>
    refine ⟨?_, hhit fun _ h => h, ?_, hI.log_hit, hI.backend, hresp⟩
    · intro e he
      exact (mem_mapPut he).elim (fun h => h ▸ List.mem_append_right _ (.head _))
        fun h => List.mem_append_left _ (hI.out_reg e h)
    · intro h hh
      exact ⟨List.mem_append_left _ (hI.hit_reg h hh).1, (hI.hit_reg h hh).2⟩
  | respLookup id ok data =>
    cases hl : List.lookup id sys.st.outstanding with
    | none =>
      rw [after_eq (step_respLookup_none hl)] at hhit hresp ⊢
      exact ⟨hI.out_reg, hhit fun _ h => h, hI.hit_reg, hI.log_hit, hI.backend, hresp⟩
    | some c =>
      rw [after_eq (step_respLookup_some hl)] at hhit hresp ⊢
      refine ⟨fun e he => hI.out_reg e (mem_mapDel he), hhit fun _ h => List.mem_append_left _ h, ?_,
        fun e he => List.mem_append_left _ (hI.log_hit e he), hI.backend, hresp⟩
      intro h hh
      rcases List.mem_append.1 hh with hh | hh
      · exact hI.hit_reg h hh
      · obtain rfl := List.mem_singleton.1 hh
        exact ⟨hI.out_reg _ (lookup_some_mem hl), ok, data, hI.pend_resp _ _ _ hin, rfl⟩
  | respConsume id c r =>
    have hlog : ∀ e ∈ sys.st.consLog ++ [(id, c, r)], e ∈ sys.st.hits := fun e he =>
      (List.mem_append.1 he).elim (hI.log_hit e) fun h => List.mem_singleton.1 h ▸ hI.pend_hit _ _ _ hin
    cases c with
    | relay bid e =>
      refine ⟨hI.out_reg, hhit fun _ h => h, hI.hit_reg, hlog, ?_, hresp⟩
      show sys.st.backendOut ++ [(id, bid, r)] = (sys.st.consLog ++ [(id, Consumer.relay bid e, r)]).filterMap relayOut
      rw [List.filterMap_append, ← hI.backend]; rfl
    | _ =>
      refine ⟨hI.out_reg, hhit fun _ h => h, hI.hit_reg, hlog, ?_, hresp⟩
      show sys.st.backendOut = (sys.st.consLog ++ [_]).filterMap relayOut
      rw [List.filterMap_append, ← hI.backend]; exact (List.append_nil _).symm
  | respCheck =>
    obtain ⟨b, hb⟩ := step_respCheck_fst v sys.st
    rw [after, hb] at hhit hresp ⊢
    exact ⟨hI.out_reg, hhit fun _ h => h, hI.hit_reg, hI.log_hit, hI.backend, hresp⟩
  | cleanup => exact ⟨fun e he => (nomatch he), hhit fun _ h => h, hI.hit_reg, hI.log_hit, hI.backend, hresp⟩
  | _ => exact ⟨hI.out_reg, hhit fun _ h => h, hI.hit_reg, hI.log_hit, hI.backend, hresp⟩

end Gate.C13
