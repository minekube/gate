import GateModel.C13.Tokens
import GateModel.C13.MapLemmas
/- C13: queue/outstanding relation before the login event fired, "completion implies fired", and the progress
   invariant behind exactly-once completion (repaired variant). -/
namespace Gate.C13

structure LiveInv (sys : Sys) : Prop where
  out_q : sys.st.fired = false → ∀ id ∈ keys sys.st.outstanding, id ∈ sys.st.queue
  q_out : sys.st.fired = false → sys.st.premature = false → ∀ id ∈ sys.st.queue, id ∈ keys sys.st.outstanding
  fired_of : (sys.st.onAll = true ∨ 0 < cnt fK sys.ts ∨ 0 < sys.st.completions) → sys.st.fired = true
  progress : sys.st.fired = true → sys.st.cleaned = false → sys.st.premature = false →
    (1 ≤ cnt fK sys.ts + sys.st.completions) ∨
    (sys.st.onAll = true ∧ (sys.st.outstanding ≠ [] ∨ 0 < cnt fM sys.ts))

/-- `LiveInv` with the numbers `K`, `M` of pending completion calls and pending `respCheck`s in place of the
    counters over the work stacks -/
structure LiveAt (s : State) (K M : Nat) : Prop where
  out_q : s.fired = false → ∀ id ∈ keys s.outstanding, id ∈ s.queue
  q_out : s.fired = false → s.premature = false → ∀ id ∈ s.queue, id ∈ keys s.outstanding
  fired_of : (s.onAll = true ∨ 0 < K ∨ 0 < s.completions) → s.fired = true
  progress : s.fired = true → s.cleaned = false → s.premature = false →
    (1 ≤ K + s.completions) ∨ (s.onAll = true ∧ (s.outstanding ≠ [] ∨ 0 < M))

theorem LiveAt.step {s : State} {F K M F' K' M' : Nat} (hT : TokAt s F K) (hI : LiveAt s K M) (a : Act)
    (hF : F' + fF a = F + wsum fF (step .repaired s a).2)
    (hK : K' + fK a = K + wsum fK (step .repaired s a).2)
    (hM : M' + fM a = M + wsum fM (step .repaired s a).2) : LiveAt (step .repaired s a).1 K' M' := by
  cases a with
  | sendReg id c =>
    rw [wsum_step_sendReg (fun _ => rfl)] at hK hM
    obtain rfl : K' = K := hK
    obtain rfl : M' = M := hM
    rw [step_sendReg]
    refine ⟨?_, ?_, hI.fired_of, ?_⟩
    · intro hf n hn
      have hf' : s.fired = false := hf
      simp only [hf'] at hn ⊢
      rcases (keys_mapPut _ _ _ _).1 hn with h | h
      · simp [h]
      · simp [hI.out_q hf n h]
    · intro hf hp n hn
      have hf' : s.fired = false := hf
      simp only [hf'] at hn ⊢
      simp at hn
      rw [keys_mapPut]
      exact hn.symm.imp_right (hI.q_out hf hp n)
    · intro hf hc hp
      exact (hI.progress hf hc hp).imp_right fun h => ⟨h.1, .inl (List.cons_ne_nil _ _)⟩
  | respLookup id ok data =>
    cases hl : s.outstanding.lookup id with
    | none =>
      rw [step_respLookup_none hl] at hK hM ⊢
      obtain rfl : K' = K := hK
      obtain rfl : M' = M := hM
      exact hI
    | some c =>
      rw [step_respLookup_some hl] at hK hM ⊢
      obtain rfl : K' = K := hK
      simp only [fM, wsum_cons, wsum_nil] at hM
      refine ⟨fun hf n hn => hI.out_q hf n ((keys_mapDel _ _ _).1 hn).2, ?_, hI.fired_of, ?_⟩
      · intro hf hp; simp [show s.fired = false from hf] at hp
      · intro hf hc hp
        have hf' : s.fired = true := hf
        simp [hf'] at hp
        exact (hI.progress hf hc hp).imp_right fun h => ⟨h.1, .inr (by omega)⟩
  | respConsume id c r =>
    rw [wsum_step_respConsume (fun _ => rfl)] at hK hM
    obtain ⟨bo, hs⟩ := step_respConsume_fst .repaired s id c r
    rw [hs]
    obtain rfl : K' = K := hK
    obtain rfl : M' = M := hM
    exact ⟨hI.out_q, hI.q_out, hI.fired_of, hI.progress⟩
  | respCheck =>
    by_cases hc : (s.outstanding.isEmpty && s.onAll) = true
    · rw [step_respCheck_repaired hc] at hK ⊢
      simp only [fK, wsum_cons, wsum_nil] at hK
      rw [Bool.and_eq_true] at hc
      exact ⟨hI.out_q, hI.q_out, fun _ => hI.fired_of (.inl hc.2), fun _ _ _ => .inl (by omega)⟩
    · rw [step_respCheck_neg hc] at hK ⊢
      obtain rfl : K' = K := hK
      refine ⟨hI.out_q, hI.q_out, hI.fired_of, fun hf hcl hp => ?_⟩
      -- the callback is still installed: so something is still outstanding
      refine (hI.progress hf hcl hp).imp_right fun h => ⟨h.1, .inl fun he => hc ?_⟩
      rw [he, h.1]; rfl
  | complete =>
    rw [step_complete] at hK ⊢
    simp only [fK, wsum_nil] at hK
    have hf := hI.fired_of (.inr (.inl (by omega)))
    exact ⟨hI.out_q, hI.q_out, fun _ => hf, fun _ _ _ => .inl (Nat.le_add_left 1 _)⟩
  | fireLock =>
    rw [wsum_step_fireLock (fun _ => rfl)] at hF hK
    rw [step_fireLock]
    have hnf : s.fired = false := hT.not_fired (by simp only [fF, ite_self] at hF; omega)
    refine ⟨fun h => (nomatch h), fun h => (nomatch h), fun _ => rfl, fun _ hcl hp => ?_⟩
    by_cases hq : s.queue.isEmpty = true
    · simp only [hq, ↓reduceIte, fK] at hK
      exact .inl (by omega)
    · refine .inr ⟨by simp [hq], .inl fun he => ?_⟩
      -- a queued message is outstanding as long as no answer came before it was sent
      cases hqq : s.queue with
      | nil => exact hq (by rw [hqq]; rfl)
      | cons x xs =>
        have := hI.q_out hnf hp x (by rw [hqq]; exact .head _)
        rw [show s.outstanding = [] from he] at this
        cases this
  | clear =>
    obtain rfl : K' = K := hK
    exact ⟨hI.out_q, hI.q_out, fun h => hI.fired_of (.inr (Or.resolve_left h nofun)), fun _ h => (nomatch h)⟩
  | cleanup =>
    obtain rfl : K' = K := hK
    exact ⟨fun _ n hn => (nomatch hn), fun _ _ n hn => (nomatch hn),
      fun h => hI.fired_of (.inr (Or.resolve_left h nofun)), fun _ h => (nomatch h)⟩
  | _ =>
    obtain rfl : K' = K := hK
    obtain rfl : M' = M := hM
    exact ⟨hI.out_q, hI.q_out, hI.fired_of, hI.progress⟩

theorem live_step {sys : Sys} {t a rest} (hT : TokInv sys) (hI : LiveInv sys)
    (hget : sys.ts[t]? = some (a :: rest)) : LiveInv (after .repaired sys t a rest) :=
  have h := LiveAt.step hT ⟨hI.out_q, hI.q_out, hI.fired_of, hI.progress⟩ a
    (cnt_after fF hget) (cnt_after fK hget) (cnt_after fM hget)
  ⟨h.out_q, h.q_out, h.fired_of, h.progress⟩

end Gate.C13
