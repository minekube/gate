import GateModel.C13.Lemmas
/- C13: the completion token — at most one of {pending loginEventFired, installed callback, pending callback invocation, done}. -/
namespace Gate.C13

def fF : Act → Nat | .fireLock => 1 | _ => 0
def fK : Act → Nat | .complete => 1 | _ => 0
def fM : Act → Nat | .respCheck => 1 | _ => 0
def b2n (b : Bool) : Nat := if b then 1 else 0
@[simp] theorem b2n_true : b2n true = 1 := rfl
@[simp] theorem b2n_false : b2n false = 0 := rfl

/-- the token, given the shared state and the numbers `F`, `K` of pending `loginEventFired` critical sections
    and pending callback invocations on the work stacks -/
def TokAt (s : State) (F K : Nat) : Prop :=
  F + b2n s.fired ≤ 1 ∧
  F + b2n s.onAll + K + s.completions ≤ 1

/-- a pending `loginEventFired` critical section holds the token: the event has not fired yet -/
theorem TokAt.not_fired {s : State} {F K : Nat} (h : TokAt s F K) (hF : 0 < F) : s.fired = false := by
  cases hf : s.fired
  · rfl
  · have := h.1
    rw [hf, b2n_true] at this
    omega

/-- `fireLock` hands the token to the installed callback or to a pending invocation, `respCheck` takes an installed
    callback and invokes it, `complete` is the invocation; `clear` and `cleanup` drop an installed callback. -/
theorem TokAt.step {s : State} {F K F' K' : Nat} (h : TokAt s F K) (a : Act)
    (hF : F' + fF a = F + wsum fF (step .repaired s a).2)
    (hK : K' + fK a = K + wsum fK (step .repaired s a).2) : TokAt (step .repaired s a).1 F' K' := by
  cases a with
  | sendReg id c =>
    rw [wsum_step_sendReg (fun _ => rfl)] at hF hK
    obtain rfl : F' = F := hF
    obtain rfl : K' = K := hK
    exact h
  | respLookup id ok data =>
    cases hl : s.outstanding.lookup id with
    | none =>
      rw [step_respLookup_none hl] at hF hK ⊢
      obtain rfl : F' = F := hF
      obtain rfl : K' = K := hK
      exact h
    | some c =>
      rw [step_respLookup_some hl] at hF hK ⊢
      obtain rfl : F' = F := hF
      obtain rfl : K' = K := hK
      exact h
  | respConsume id c r =>
    rw [wsum_step_respConsume (fun _ => rfl)] at hF hK
    obtain ⟨bo, hs⟩ := step_respConsume_fst .repaired s id c r
    rw [hs]
    obtain rfl : F' = F := hF
    obtain rfl : K' = K := hK
    exact h
  | respCheck =>
    by_cases hc : (s.outstanding.isEmpty && s.onAll) = true
    · rw [step_respCheck_repaired hc] at hF hK ⊢
      obtain rfl : F' = F := hF
      have ho : s.onAll = true := (Bool.and_eq_true _ _ ▸ hc).2
      simp only [TokAt, ho, b2n_true, b2n_false, fK, wsum_cons, wsum_nil] at h hK ⊢
      omega
    · rw [step_respCheck_neg hc] at hF hK ⊢
      obtain rfl : F' = F := hF
      obtain rfl : K' = K := hK
      exact h
  | fireLock =>
    rw [wsum_step_fireLock (fun _ => rfl)] at hF hK
    rw [step_fireLock]
    simp only [TokAt, fF, fK, ite_self, b2n_true] at h hF hK ⊢
    split at hK
    · next hq => simp only [hq, ↓reduceIte]; omega
    · next hq => simp only [hq, Bool.false_eq_true, ↓reduceIte, b2n_true]; omega
  | complete =>
    obtain rfl : F' = F := hF
    rw [step_complete] at hK ⊢
    simp only [TokAt, fK, wsum_nil] at h hK ⊢
    omega
  | clear | cleanup =>
    obtain rfl : F' = F := hF
    obtain rfl : K' = K := hK
    exact ⟨h.1, Nat.le_trans (Nat.add_le_add_right (Nat.add_le_add_right (Nat.le_add_right _ _) _) _) h.2⟩
  | _ =>
    obtain rfl : F' = F := hF
    obtain rfl : K' = K := hK
    exact h

def TokInv (sys : Sys) : Prop := TokAt sys.st (cnt fF sys.ts) (cnt fK sys.ts)

theorem tok_step {sys : Sys} {t a rest} (hI : TokInv sys) (hget : sys.ts[t]? = some (a :: rest)) :
    TokInv (after .repaired sys t a rest) :=
  TokAt.step hI a (cnt_after fF hget) (cnt_after fK hget)

end Gate.C13
