import GateModel.C13.Model
import GateModel.Base.Sched
/-
C13 helper lemmas: counting actions over all work stacks, the invariant rule for `exec`,
and what `step` does, action by action.
-/
namespace Gate.C13

def wsum (f : Act → Nat) (l : List Act) : Nat := (l.map f).sum
def cnt (f : Act → Nat) (ts : List (List Act)) : Nat := (ts.map (wsum f)).sum

@[simp] theorem wsum_nil (f) : wsum f [] = 0 := rfl
@[simp] theorem wsum_cons (f a l) : wsum f (a :: l) = f a + wsum f l := by simp [wsum]
@[simp] theorem wsum_append (f l m) : wsum f (l ++ m) = wsum f l + wsum f m := by simp [wsum]

theorem cnt_cons (f : Act → Nat) (x : List Act) (xs : List (List Act)) : cnt f (x :: xs) = wsum f x + cnt f xs := rfl

theorem cnt_step (f : Act → Nat) {ts : List (List Act)} {t : Nat} {a : Act} {rest : List Act} (new : List Act)
    (h : ts[t]? = some (a :: rest)) :
    cnt f (ts.set t (new ++ rest)) + f a = cnt f ts + wsum f new := by
  have : cnt f (ts.set t (new ++ rest)) + wsum f (a :: rest) = cnt f ts + wsum f (new ++ rest) :=
    sum_map_set (wsum f) ts t _ _ h
  rw [wsum_cons, wsum_append, ← Nat.add_assoc, ← Nat.add_assoc] at this
  exact Nat.add_right_cancel this

theorem cnt_zero_of_all_empty (f : Act → Nat) : ∀ (ts : List (List Act)), ts.all (·.isEmpty) = true → cnt f ts = 0
  | [], _ => rfl
  | x :: xs, h => by
    rw [List.all_cons, Bool.and_eq_true, List.isEmpty_iff] at h
    rw [cnt_cons, h.1, cnt_zero_of_all_empty f xs h.2]; rfl

theorem mem_flatten_of_get {ts : List (List Act)} {t : Nat} {l : List Act} (h : ts[t]? = some l)
    {x : Act} (hx : x ∈ l) : x ∈ ts.flatten :=
  List.mem_flatten.2 ⟨l, List.mem_of_getElem? h, hx⟩

theorem mem_flatten_set {ts : List (List Act)} {t : Nat} {a : Act} {rest new : List Act}
    (h : ts[t]? = some (a :: rest)) {x : Act} (hx : x ∈ (ts.set t (new ++ rest)).flatten) :
    x ∈ new ∨ x ∈ ts.flatten := by
  obtain ⟨l, hl, hxl⟩ := List.mem_flatten.1 hx
  rcases List.mem_or_eq_of_mem_set hl with hl | rfl
  · exact .inr (List.mem_flatten.2 ⟨l, hl, hxl⟩)
  · exact (List.mem_append.1 hxl).imp_right fun hr => mem_flatten_of_get h (.tail _ hr)

/-- the system after goroutine `t` executed action `a` (its stack was `a :: rest`) -/
def after (v : Variant) (sys : Sys) (t : Nat) (a : Act) (rest : List Act) : Sys :=
  { st := (step v sys.st a).1, ts := sys.ts.set t ((step v sys.st a).2 ++ rest) }

theorem stepSys_eq (v : Variant) (sys : Sys) (t : Nat) :
    stepSys v sys t = sys ∨ ∃ a rest, sys.ts[t]? = some (a :: rest) ∧ stepSys v sys t = after v sys t a rest := by
  unfold stepSys
  split
  · next a rest h => exact Or.inr ⟨a, rest, h, rfl⟩
  · exact Or.inl rfl

theorem exec_inv (v : Variant) (P : Sys → Prop)
    (hstep : ∀ sys t a rest, P sys → sys.ts[t]? = some (a :: rest) → P (after v sys t a rest))
    (sched : List Nat) : ∀ sys, P sys → P (exec v sys sched) := by
  induction sched with
  | nil => intro sys h; exact h
  | cons t tl ih =>
    intro sys h
    show P (exec v (stepSys v sys t) tl)
    apply ih
    rcases stepSys_eq v sys t with e | ⟨a, rest, hget, e⟩
    · rw [e]; exact h
    · rw [e]; exact hstep sys t a rest h hget

theorem exec_append (v : Variant) (sys : Sys) (s1 s2 : List Nat) :
    exec v sys (s1 ++ s2) = exec v (exec v sys s1) s2 := by
  simp [exec, List.foldl_append]

theorem after_eq {v : Variant} {sys : Sys} {t : Nat} {a : Act} {rest : List Act} {s' : State} {new : List Act}
    (h : step v sys.st a = (s', new)) : after v sys t a rest = ⟨s', sys.ts.set t (new ++ rest)⟩ := by
  rw [after, h]

/-- what a step does to a counter over the work stacks: the action is consumed, its follow-ups are added -/
theorem cnt_after {v : Variant} {sys : Sys} {t : Nat} {a : Act} {rest : List Act} (f : Act → Nat)
    (hget : sys.ts[t]? = some (a :: rest)) :
    cnt f (after v sys t a rest).ts + f a = cnt f sys.ts + wsum f (step v sys.st a).2 :=
  cnt_step f _ hget

theorem step_sendInc (v : Variant) (s : State) (c : Consumer) :
    step v s (.sendInc c) = ({ s with seq := s.seq + 1 }, [.sendReg (s.seq + 1) c]) := rfl

theorem step_sendReg (v : Variant) (s : State) (id : Int) (c : Consumer) :
    step v s (.sendReg id c) =
      ({ s with outstanding := mapPut s.outstanding id c
                registered := s.registered ++ [(id, c)]
                queue := if s.fired then s.queue else s.queue ++ [id] },
       if s.fired then [.clientWrite id] else []) := rfl

theorem step_clientWrite (v : Variant) (s : State) (id : Int) :
    step v s (.clientWrite id) = ({ s with clientOut := s.clientOut ++ [id] }, []) := rfl

theorem step_respLookup_none {v : Variant} {s : State} {id : Int} {ok : Bool} {data : Bytes}
    (h : s.outstanding.lookup id = none) : step v s (.respLookup id ok data) = (s, []) := by
  simp only [step, h]

theorem step_respLookup_some {v : Variant} {s : State} {id : Int} {ok : Bool} {data : Bytes} {c : Consumer}
    (h : s.outstanding.lookup id = some c) :
    step v s (.respLookup id ok data) =
      ({ s with outstanding := mapDel s.outstanding id
                hits := s.hits ++ [(id, c, replyOf ok data)]
                premature := s.premature || !s.fired },
       [.respConsume id c (replyOf ok data), .respCheck]) := by
  simp only [step, h]

/-- whatever the consumer is, the call is logged; only the relay consumer writes to the backend -/
theorem step_respConsume_fst (v : Variant) (s : State) (id : Int) (c : Consumer) (r : Reply) :
    ∃ bo, (step v s (.respConsume id c r)).1 = { s with consLog := s.consLog ++ [(id, c, r)], backendOut := bo } := by
  cases c <;> exact ⟨_, rfl⟩

theorem step_respCheck_neg {v : Variant} {s : State} (h : ¬ (s.outstanding.isEmpty && s.onAll) = true) :
    step v s .respCheck = (s, []) := by
  simp only [step, h]; rfl

theorem step_respCheck_repaired {s : State} (h : (s.outstanding.isEmpty && s.onAll) = true) :
    step .repaired s .respCheck = ({ s with onAll := false }, [.complete]) := by
  simp only [step, h]; rfl

theorem step_respCheck_defective {s : State} (h : (s.outstanding.isEmpty && s.onAll) = true) :
    step .defective s .respCheck = (s, [.complete]) := by
  simp only [step, h]; rfl

/-- in both variants `respCheck` touches at most `onAll` -/
theorem step_respCheck_fst (v : Variant) (s : State) : ∃ b, (step v s .respCheck).1 = { s with onAll := b } := by
  by_cases h : (s.outstanding.isEmpty && s.onAll) = true
  · cases v
    · exact ⟨false, by rw [step_respCheck_repaired h]⟩
    · exact ⟨s.onAll, by rw [step_respCheck_defective h]⟩
  · exact ⟨s.onAll, by rw [step_respCheck_neg h]⟩

theorem step_complete (v : Variant) (s : State) :
    step v s .complete = ({ s with completions := s.completions + 1 }, []) := rfl

theorem step_fireLock (v : Variant) (s : State) :
    step v s .fireLock =
      ({ s with fired := true
                onAll := match v with
                  | .repaired => if s.queue.isEmpty then s.onAll else true
                  | .defective => true
                queue := [] },
       if s.queue.isEmpty then [.complete] else s.queue.map .clientWrite) := rfl

theorem step_clear (v : Variant) (s : State) :
    step v s .clear = ({ s with onAll := false, cleaned := true }, []) := rfl

theorem step_cleanup (v : Variant) (s : State) :
    step v s .cleanup = ({ s with queue := [], outstanding := [], onAll := false, cleaned := true }, []) := rfl

theorem step_badSend (v : Variant) (s : State) : step v s .badSend = (s, []) := rfl

theorem wsum_map_clientWrite (f : Act → Nat) (hf : ∀ id, f (.clientWrite id) = 0) (q : List Int) :
    wsum f (q.map .clientWrite) = 0 := by
  induction q with
  | nil => rfl
  | cons x xs ih => rw [List.map_cons, wsum_cons, hf, ih]

/-! What the branching actions spawn, as seen by a counter: `sendReg` and `fireLock` spawn packet writes,
    `fireLock` and `respCheck` the completion call, a chained consumer a new send. -/

theorem wsum_step_sendReg {f : Act → Nat} (hf : ∀ id, f (.clientWrite id) = 0) (v : Variant) (s : State)
    (id : Int) (c : Consumer) : wsum f (step v s (.sendReg id c)).2 = 0 := by
  show wsum f (if s.fired = true then [.clientWrite id] else []) = 0
  split
  · exact wsum_map_clientWrite f hf [id]
  · rfl

theorem wsum_step_fireLock {f : Act → Nat} (hf : ∀ id, f (.clientWrite id) = 0) (v : Variant) (s : State) :
    wsum f (step v s .fireLock).2 = if s.queue.isEmpty = true then f .complete else 0 := by
  show wsum f (if s.queue.isEmpty = true then [.complete] else s.queue.map .clientWrite) = _
  by_cases h : s.queue.isEmpty = true
  · rw [if_pos h, if_pos h]; exact Nat.add_zero _
  · rw [if_neg h, if_neg h]; exact wsum_map_clientWrite f hf _

theorem step_respConsume_snd (v : Variant) (s : State) (id : Int) (c : Consumer) (r : Reply) :
    (step v s (.respConsume id c r)).2 = [] ∨ ∃ next, (step v s (.respConsume id c r)).2 = [.sendInc next] := by
  cases c with
  | chain tag next => exact .inr ⟨next, rfl⟩
  | _ => exact .inl rfl

theorem step_respCheck_snd (v : Variant) (s : State) :
    (step v s .respCheck).2 = [] ∨ (step v s .respCheck).2 = [.complete] := by
  by_cases h : (s.outstanding.isEmpty && s.onAll) = true
  · cases v
    · rw [step_respCheck_repaired h]; exact .inr rfl
    · rw [step_respCheck_defective h]; exact .inr rfl
  · rw [step_respCheck_neg h]; exact .inl rfl

theorem wsum_step_respConsume {f : Act → Nat} (hf : ∀ c, f (.sendInc c) = 0) (v : Variant) (s : State)
    (id : Int) (c : Consumer) (r : Reply) : wsum f (step v s (.respConsume id c r)).2 = 0 := by
  rcases step_respConsume_snd v s id c r with h | ⟨next, h⟩ <;> rw [h]
  · rfl
  · exact (Nat.add_zero _).trans (hf next)

theorem wsum_step_respCheck {f : Act → Nat} (hf : f .complete = 0) (v : Variant) (s : State) :
    wsum f (step v s .respCheck).2 = 0 := by
  rcases step_respCheck_snd v s with h | h <;> rw [h]
  · rfl
  · exact (Nat.add_zero _).trans hf

end Gate.C13
