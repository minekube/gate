import GateModel.C13.Lemmas
import GateModel.C13.MapLemmas
/- C13: uniqueness of message ids across the places a message can be (the counter, pending registration,
   outstanding map, hit by a response = pending consumer call or consumer log). -/
namespace Gate.C13

def fReg (n : Int) : Act → Nat | .sendReg id _ => if id = n then 1 else 0 | _ => 0
def fCons (n : Int) : Act → Nat | .respConsume id _ _ => if id = n then 1 else 0 | _ => 0
def hkeys (m : List (Int × Consumer × Reply)) : List Int := m.map (·.1)

theorem count_keys_snoc (m : List (Int × Consumer)) (e : Int × Consumer) (n : Int) :
    (keys (m ++ [e])).count n = (keys m).count n + (if e.1 = n then 1 else 0) := by
  simp only [keys, List.map_append, List.count_append, List.map_cons, List.map_nil, List.count_singleton, beq_iff_eq]
theorem count_hkeys_snoc (m : List (Int × Consumer × Reply)) (e : Int × Consumer × Reply) (n : Int) :
    (hkeys (m ++ [e])).count n = (hkeys m).count n + (if e.1 = n then 1 else 0) := by
  simp only [hkeys, List.map_append, List.count_append, List.map_cons, List.map_nil, List.count_singleton, beq_iff_eq]

/-- Where the id `n` is, given the shared state and the numbers `R`, `C` of pending registrations and pending
    consumer calls for `n` on the work stacks.  The id is in at most one place — still ahead of the counter,
    pending registration, outstanding, or hit — and is registered at most once; every hit is a pending or a
    logged consumer call. -/
def IdAt (n : Int) (s : State) (R C : Nat) : Prop :=
  (if s.seq < n then 1 else 0) + (keys s.outstanding).count n + R + (hkeys s.hits).count n ≤ 1 ∧
  (if s.seq < n then 1 else 0) + (keys s.registered).count n + R ≤ 1 ∧
  (hkeys s.hits).count n = C + (hkeys s.consLog).count n

/-- Every action either leaves the places of `n` alone or moves `n` one place on:
    counter → pending registration → outstanding → hit and pending consumer call → consumer log. -/
theorem IdAt.step {n : Int} {s : State} {R C R' C' : Nat} (h : IdAt n s R C) (v : Variant) (a : Act)
    (hR : R' + fReg n a = R + wsum (fReg n) (step v s a).2)
    (hC : C' + fCons n a = C + wsum (fCons n) (step v s a).2) : IdAt n (step v s a).1 R' C' := by
  cases a with
  | sendInc c =>
    obtain rfl : C' = C := hC
    rw [step_sendInc] at hR ⊢
    simp only [IdAt, fReg, wsum_cons, wsum_nil] at h hR ⊢
    split at hR
    · next hn =>
      subst hn
      simp only [Int.lt_add_one_iff, Int.le_refl, Int.lt_irrefl, ↓reduceIte] at h ⊢
      omega
    · next hn =>
      simp only [Int.lt_iff_le_and_ne (a := s.seq + 1), Int.add_one_le_iff, ne_eq, hn, not_false_eq_true, and_true]
      omega
  | sendReg id c =>
    rw [wsum_step_sendReg (fun _ => rfl)] at hR hC
    obtain rfl : C' = C := hC
    rw [step_sendReg]
    simp only [IdAt, fReg, count_keys_mapPut, count_keys_snoc] at h hR ⊢
    by_cases hn : n = id
    · subst hn
      simp only [↓reduceIte] at hR ⊢
      omega
    · have hn' : ¬ id = n := fun h => hn h.symm
      simp only [hn, hn', ↓reduceIte, Nat.add_zero] at hR ⊢
      exact hR ▸ h
  | respLookup id ok data =>
    cases hl : s.outstanding.lookup id with
    | none =>
      rw [step_respLookup_none hl] at hR hC ⊢
      obtain rfl : R' = R := hR
      obtain rfl : C' = C := hC
      exact h
    | some c =>
      have := lookup_some_count hl
      rw [step_respLookup_some hl] at hR hC ⊢
      obtain rfl : R' = R := hR
      simp only [IdAt, fCons, wsum_cons, wsum_nil, count_keys_mapDel, count_hkeys_snoc] at h hC ⊢
      by_cases hn : n = id
      · subst hn
        simp only [↓reduceIte] at hC ⊢
        omega
      · have hn' : ¬ id = n := fun h => hn h.symm
        simp only [hn, hn', ↓reduceIte, Nat.add_zero] at hC ⊢
        exact hC ▸ h
  | respConsume id c r =>
    rw [wsum_step_respConsume (fun _ => rfl)] at hR hC
    obtain ⟨bo, hs⟩ := step_respConsume_fst v s id c r
    rw [hs]
    obtain rfl : R' = R := hR
    simp only [IdAt, fCons, count_hkeys_snoc] at h hC ⊢
    omega
  | respCheck =>
    rw [wsum_step_respCheck rfl] at hR hC
    obtain ⟨b, hs⟩ := step_respCheck_fst v s
    rw [hs]
    obtain rfl : R' = R := hR
    obtain rfl : C' = C := hC
    exact h
  | fireLock =>
    rw [wsum_step_fireLock (fun _ => rfl)] at hR hC
    obtain rfl : R' = R := hR.trans (congrArg _ (ite_self 0))
    obtain rfl : C' = C := hC.trans (congrArg _ (ite_self 0))
    exact h
  | cleanup =>
    obtain rfl : R' = R := hR
    obtain rfl : C' = C := hC
    exact ⟨Nat.le_trans (Nat.add_le_add_right (Nat.add_le_add_right (Nat.le_add_right _ _) _) _) h.1, h.2⟩
  | _ =>
    obtain rfl : R' = R := hR
    obtain rfl : C' = C := hC
    exact h

theorem IdAt.registered_le {n : Int} {s : State} {R C : Nat} (h : IdAt n s R C) : (keys s.registered).count n ≤ 1 :=
  Nat.le_trans (Nat.le_trans (Nat.le_add_left _ _) (Nat.le_add_right _ _)) h.2.1

theorem IdAt.hits_le {n : Int} {s : State} {R C : Nat} (h : IdAt n s R C) : (hkeys s.hits).count n ≤ 1 :=
  Nat.le_trans (Nat.le_add_left _ _) h.1

theorem IdAt.consLog_le {n : Int} {s : State} {R C : Nat} (h : IdAt n s R C) : (hkeys s.consLog).count n ≤ 1 :=
  Nat.le_trans (Nat.le_trans (Nat.le_add_left _ _) (Nat.le_of_eq h.2.2.symm)) h.hits_le

def IdInv (sys : Sys) : Prop := ∀ n : Int, IdAt n sys.st (cnt (fReg n) sys.ts) (cnt (fCons n) sys.ts)

theorem id_step (v : Variant) {sys : Sys} {t a rest} (hI : IdInv sys) (hget : sys.ts[t]? = some (a :: rest)) :
    IdInv (after v sys t a rest) :=
  fun n => (hI n).step v a (cnt_after (fReg n) hget) (cnt_after (fCons n) hget)

end Gate.C13
