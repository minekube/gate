import GateModel.C13.Model
/- C13: Go-map lemmas for the outstanding-response map, and key-unique association lists. -/
namespace Gate.C13

def keys (m : List (Int × Consumer)) : List Int := m.map (·.1)

theorem keys_mapDel_eq (m : List (Int × Consumer)) (id : Int) : keys (mapDel m id) = (keys m).filter (· != id) :=
  (List.filter_map (f := Prod.fst) (p := (· != id)) (l := m)).symm

theorem keys_mapDel (m : List (Int × Consumer)) (id : Int) (n : Int) :
    n ∈ keys (mapDel m id) ↔ n ≠ id ∧ n ∈ keys m := by
  rw [keys_mapDel_eq, List.mem_filter, bne_iff_ne, and_comm]

theorem keys_mapPut (m : List (Int × Consumer)) (id : Int) (c : Consumer) (n : Int) :
    n ∈ keys (mapPut m id c) ↔ n = id ∨ n ∈ keys m := by
  show n ∈ id :: keys (mapDel m id) ↔ _
  rw [List.mem_cons, keys_mapDel]
  by_cases h : n = id
  · simp only [h, true_or]
  · simp only [h, false_or, ne_eq, not_false_eq_true, true_and]

theorem count_keys_mapDel (m : List (Int × Consumer)) (id n : Int) :
    (keys (mapDel m id)).count n = if n = id then 0 else (keys m).count n := by
  split
  · next h => exact List.count_eq_zero.2 fun hm => ((keys_mapDel m id n).1 hm).1 h
  · next h => rw [keys_mapDel_eq]; exact List.count_filter (bne_iff_ne.2 h)

theorem count_keys_mapPut (m : List (Int × Consumer)) (id n : Int) (c : Consumer) :
    (keys (mapPut m id c)).count n = if n = id then 1 else (keys m).count n := by
  show (id :: keys (mapDel m id)).count n = _
  rw [List.count_cons, count_keys_mapDel]
  by_cases h : n = id
  · simp only [h, ↓reduceIte, beq_self_eq_true]
  · have : (id == n) = false := beq_false_of_ne fun h' => h h'.symm
    simp only [h, this, ↓reduceIte, Bool.false_eq_true, Nat.add_zero]

theorem mem_mapDel {m : List (Int × Consumer)} {id : Int} {e} (h : e ∈ mapDel m id) : e ∈ m :=
  (List.mem_filter.1 h).1

theorem mem_mapPut {m : List (Int × Consumer)} {id : Int} {c e} (h : e ∈ mapPut m id c) : e = (id, c) ∨ e ∈ m :=
  (List.mem_cons.1 h).imp_right mem_mapDel

theorem lookup_some_mem {m : List (Int × Consumer)} {id : Int} {c : Consumer} (h : m.lookup id = some c) :
    (id, c) ∈ m := by
  obtain ⟨l₁, l₂, rfl, _⟩ := List.lookup_eq_some_iff.1 h
  exact List.mem_append_right _ (.head _)

theorem lookup_some_count {m : List (Int × Consumer)} {id : Int} {c : Consumer} (h : m.lookup id = some c) :
    0 < (keys m).count id :=
  List.count_pos_iff.2 (List.mem_map.2 ⟨_, lookup_some_mem h, rfl⟩)

theorem lookup_none_not_mem {m : List (Int × Consumer)} {id : Int} (h : m.lookup id = none) : id ∉ keys m := by
  intro hk
  obtain ⟨e, he, rfl⟩ := List.mem_map.1 hk
  exact bne_iff_ne.1 (List.lookup_eq_none_iff.1 h e he) rfl

/-- two entries of a key-unique list with the same key are equal -/
theorem eq_of_count_le_one {α : Type} (l : List (Int × α)) (h : ∀ n, (l.map (·.1)).count n ≤ 1)
    {a b : Int × α} (ha : a ∈ l) (hb : b ∈ l) (hab : a.1 = b.1) : a = b := by
  have hp : l.Pairwise fun x y => x.1 ≠ y.1 := List.pairwise_map.1 (List.nodup_iff_count.2 h)
  exact List.Pairwise.forall_of_forall_of_flip (R := fun x y => x.1 = y.1 → x = y) (fun _ _ _ => rfl)
    (hp.imp fun hne e => absurd e hne) (hp.imp fun hne e => absurd e.symm hne) ha hb hab

end Gate.C13
