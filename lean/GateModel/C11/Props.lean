import GateModel.C11.Lemmas
import GateModel.Gen.C11
/-
C11 — Player registry stays unique and consistent under any login/logout interleaving.

`Reachable c s`: `s` is reached by the REPAIRED machine from the empty registry, for ANY thread programs
over the registry API (`Call`) and ANY schedule, under configuration/profile assignment `c`.  All
theorems quantify over `c` (online/offline, kick flag, every assignment of lower-case names and UUIDs to
connections — case variants are the same `Key`).  The `_fails` theorems are kernel-checked witnesses
that the code as found (`Mode.asFound`, and each of its three sites alone) violates the clause.
-/
namespace Gate.C11.Props
open Gate.C11

/-- `Players()` and `Player(id)` describe the same set -/
theorem players_iff_registered {c : Cfg} {s : Sys} (h : Reachable c s) (p : Pid) :
    p ∈ s.players ↔ s.registered c p := by
  have inv := h.inv
  constructor
  · intro hp
    obtain ⟨e, he, rfl⟩ := List.mem_map.mp hp
    have hg : s.ids.get e.1 = some e.2 := AMap.get_of_mem inv.idsND he
    show s.ids.get (c.idOf e.2) = some e.2
    rw [inv.idsKey _ _ hg]; exact hg
  · intro hp
    exact List.mem_map.mpr ⟨(c.idOf p, p), AMap.mem_of_get hp, rfl⟩

/-- at every moment at most one registered player exists per UUID -/
theorem ids_unique {c : Cfg} {s : Sys} (h : Reachable c s) (p q : Pid)
    (hp : p ∈ s.players) (hq : q ∈ s.players) (hid : c.idOf p = c.idOf q) : p = q := by
  have h1 := (players_iff_registered h p).mp hp
  have h2 := (players_iff_registered h q).mp hq
  unfold Sys.registered at h1 h2
  rw [hid, h2] at h1
  exact (Option.some.inj h1).symm

/-- the UUIDs of the listed players are exactly the keys of the id index, hence pairwise distinct -/
theorem player_ids_are_keys {c : Cfg} {s : Sys} (h : Reachable c s) : s.players.map c.idOf = AMap.keys s.ids := by
  have inv := h.inv
  unfold Sys.players AMap.keys
  rw [List.map_map]
  apply List.map_congr_left
  intro e he
  exact inv.idsKey _ _ (AMap.get_of_mem inv.idsND he)

/-- the player count equals the number of registered players, which equals the number of registered
    (pairwise distinct) UUIDs; no player is listed twice -/
theorem count_eq_ids {c : Cfg} {s : Sys} (h : Reachable c s) :
    s.playerCount = s.players.length ∧ s.playerCount = (s.players.map c.idOf).length ∧
    (s.players.map c.idOf).Nodup ∧ s.players.Nodup := by
  have hk := player_ids_are_keys h
  have hnd : (s.players.map c.idOf).Nodup := hk ▸ h.inv.idsND
  refine ⟨by simp [Sys.playerCount, Sys.players], by simp [Sys.playerCount, Sys.players], hnd, ?_⟩
  exact List.Pairwise.of_map c.idOf (fun a b hab e => hab (congrArg c.idOf e)) hnd

/-- with kicking disabled both indices describe the same set -/
theorem same_set {c : Cfg} {s : Sys} (h : Reachable c s) (hk : c.kickMode = false) (p : Pid) :
    s.named c p ↔ s.registered c p := h.inv.sameSet hk p

/-- … and there is at most one registered player per lower-case name -/
theorem names_unique {c : Cfg} {s : Sys} (h : Reachable c s) (hk : c.kickMode = false) (p q : Pid)
    (hp : s.registered c p) (hq : s.registered c q) (hn : c.nameOf p = c.nameOf q) : p = q := by
  have h1 := (h.inv.sameSet hk p).mpr hp
  have h2 := (h.inv.sameSet hk q).mpr hq
  rw [hn, h2] at h1
  exact (Option.some.inj h1).symm

/-- with kicking disabled a name lookup never returns a player that is not registered by UUID (in any
    mode the entry's owner has been registered at some time: `Inv.namesRegd`) -/
theorem name_lookup_sound {c : Cfg} {s : Sys} (h : Reachable c s) (hk : c.kickMode = false) (k : Key) (p : Pid)
    (hl : s.names.get k = some p) : s.registered c p := by
  have hkey := h.inv.namesKey k p hl
  exact (h.inv.sameSet hk p).mp (by rw [hkey]; exact hl)

/-- state form: a player whose registration succeeded and whose own teardown has not run is found by
    UUID, and by name unless a kick-mode registration of the same lower-case name replaced it -/
theorem stays_findable {c : Cfg} {s : Sys} (h : Reachable c s) (p : Pid) (hr : s.regd p = true) (ht : s.torn p = false) :
    s.registered c p ∧
    (s.named c p ∨ ∃ q, s.evictedBy p = some q ∧ c.kickMode = true ∧ q ≠ p ∧ c.nameOf q = c.nameOf p ∧ s.regd q = true) := by
  refine ⟨h.inv.findId p hr ht, ?_⟩
  rcases h.inv.findName p hr ht with hl | hrr
  · exact Or.inl hl
  · cases he : s.evictedBy p with
    | none => rw [he] at hrr; cases hrr
    | some q => exact Or.inr ⟨q, rfl, h.inv.evict p q he⟩

/-- with kicking disabled: by name too -/
theorem stays_findable_by_name {c : Cfg} {s : Sys} (h : Reachable c s) (hk : c.kickMode = false) (p : Pid)
    (hr : s.regd p = true) (ht : s.torn p = false) : s.named c p := by
  rcases (stays_findable h p hr ht).2 with hl | ⟨q, _, hkm, _⟩
  · exact hl
  · rw [hk] at hkm; cases hkm

/-- a player's teardown (the only thing that ends the guarantee above) runs only after its own
    connection closed -/
theorem teardown_only_after_own_close {c : Cfg} {s : Sys} (h : Reachable c s) (p : Pid) (ht : s.torn p = true) :
    s.closed p = true := h.inv.tornClosed p ht

/-- an `unregisterConnection(p)` is pending in some thread only after `p`'s connection closed -/
theorem unregister_pending_only_after_close {c : Cfg} {s : Sys} (h : Reachable c s) (ts : List Task)
    (hts : ts ∈ s.threads) (p : Pid) (hp : Task.unreg p ∈ ts) : s.closed p = true := (h.inv.tasksOK ts hts).1 p hp

/-- step form, for EVERY state and thread: the only atomic action that makes `p` unfindable by UUID is
    `p`'s own teardown — a rejected, duplicate or failed login (`canReg`/`reg` of anybody), a
    disconnect or the teardown of any other connection never removes it -/
theorem only_own_teardown_removes_id {c : Cfg} {s s' : Sys} {t : Nat} (hs : step Mode.repaired c s t = some s')
    (p : Pid) (h1 : s.registered c p) (h2 : ¬ s'.registered c p) :
    ∃ rest, s.threads[t]? = some (Task.unreg p :: rest) := by
  unfold Sys.registered at h1 h2
  cases step_kind hs with
  | same hi hn => rw [hi] at h2; exact absurd h1 h2
  | reg q rest hth hfree hname hi hn => rw [hi] at h2; exact absurd (AMap.get_put_keep hfree h1) h2
  | unreg q rest hth hi hn =>
    by_cases hpq : p = q
    · subst hpq; exact ⟨rest, hth⟩
    · rw [hi] at h2; exact absurd (AMap.get_eraseIf_keep h1 hpq) h2

/-- the name entry of `p` is lost only through `p`'s own teardown or, in kick mode only, through the
    registration of another player with the same lower-case name -/
theorem only_own_teardown_or_kick_removes_name {c : Cfg} {s s' : Sys} {t : Nat}
    (hs : step Mode.repaired c s t = some s') (p : Pid) (h1 : s.named c p) (h2 : ¬ s'.named c p) :
    (∃ rest, s.threads[t]? = some (Task.unreg p :: rest)) ∨
    (c.kickMode = true ∧ ∃ q rest, q ≠ p ∧ c.nameOf q = c.nameOf p ∧ s.threads[t]? = some (Task.call (.reg q) :: rest)) := by
  unfold Sys.named at h1 h2
  cases step_kind hs with
  | same hi hn => rw [hn] at h2; exact absurd h1 h2
  | reg q rest hth hfree hname hi hn =>
    rw [hn, AMap.get_put] at h2
    by_cases hk : c.nameOf p = c.nameOf q
    · right
      refine ⟨kickMode_of_taken hname (hk ▸ h1), q, rest, ?_, hk.symm, hth⟩
      intro hqp; subst hqp; simp at h2
    · simp only [hk, if_false] at h2; exact absurd h1 h2
  | unreg q rest hth hi hn =>
    by_cases hpq : p = q
    · subst hpq; exact Or.inl ⟨rest, hth⟩
    · rw [hn] at h2; exact absurd (AMap.get_eraseIf_keep h1 hpq) h2

/-- whenever an action writes `q` into the id index, every other connection with the same UUID whose
    registration ever succeeded has been closed and torn down before (in kick mode: the kick; otherwise
    the new login would have been rejected) -/
theorem kick_before_register {c : Cfg} {s s' : Sys} {t : Nat} (h : Reachable c s)
    (hs : step Mode.repaired c s t = some s') (q : Pid) (h1 : ¬ s.registered c q) (h2 : s'.registered c q)
    (p : Pid) (_hpq : p ≠ q) (hid : c.idOf p = c.idOf q) (hr : s.regd p = true) :
    s.closed p = true ∧ s.torn p = true ∧ ¬ s.registered c p := by
  unfold Sys.registered at h1 h2
  have hfree : s.ids.get (c.idOf q) = none := by
    cases step_kind hs with
    | same hi hn => rw [hi] at h2; exact absurd h2 h1
    | reg q' rest hth hfree hname hi hn =>
      rw [hi] at h2
      exact (AMap.get_put_some h2).elim (fun e => e.1 ▸ hfree) fun h => absurd h h1
    | unreg q' rest hth hi hn => rw [hi] at h2; exact absurd (AMap.get_eraseIf_some h2) h1
  have ht : s.torn p = true := by
    cases htp : s.torn p
    · have := h.inv.findId p hr htp
      rw [hid, hfree] at this; cases this
    · rfl
  refine ⟨h.inv.tornClosed p ht, ht, ?_⟩
  show ¬ s.ids.get (c.idOf p) = some p
  rw [hid, hfree]; exact fun e => by cases e

/-- at any moment at most one live (registered, not torn down) session exists per UUID -/
theorem one_live_session_per_uuid {c : Cfg} {s : Sys} (h : Reachable c s) (p q : Pid)
    (hp : s.regd p = true) (hpt : s.torn p = false) (hq : s.regd q = true) (hqt : s.torn q = false)
    (hid : c.idOf p = c.idOf q) : p = q := by
  have h1 := h.inv.findId p hp hpt
  have h2 := h.inv.findId q hq hqt
  rw [hid, h2] at h1
  exact (Option.some.inj h1).symm

/-- no action leaves `muP` held -/
theorem lock_never_leaks {c : Cfg} {s : Sys} (h : Reachable c s) : s.held = none := h.inv.free

/-- … so a pending registry call is never blocked -/
theorem never_blocked {c : Cfg} {s : Sys} (h : Reachable c s) (t : Nat) (task : Task) (rest : List Task)
    (hth : s.threads[t]? = some (task :: rest)) : (step Mode.repaired c s t).isSome = true :=
  step_enabled h.inv.free hth (fun p f o e =>
    (h.inv.tasksOK _ (List.mem_of_getElem? hth)).2 p f o (e ▸ List.mem_cons_self ..))

/-- two connections with the same lower-case name ("Bob"/"bob") and different UUIDs, offline, no kick flag -/
def cSameName : Cfg := { online := false, kickFlag := false, nameOf := fun _ => 7, idOf := fun p => p }
/-- two connections with the same UUID -/
def cSameId : Cfg := { online := false, kickFlag := false, nameOf := fun p => p, idOf := fun _ => 7 }
/-- same lower-case name, different UUIDs, OFFLINE mode with the kick flag set (kick mode is off) -/
def cOfflineKick : Cfg := { online := false, kickFlag := true, nameOf := fun _ => 7, idOf := fun p => p }

def onlyUncheckedUnreg : Mode := { Mode.repaired with checkedUnreg := false }
def onlyNoUnlock : Mode := { Mode.repaired with unlockOnReject := false }
def onlyKickMismatch : Mode := { Mode.repaired with kickNeedsOnline := false }

/-- DESIGN §11 row 6.  Player 0 registers; login 1 (same name) is rejected by canRegister and
    disconnected; its teardown deletes player 0's name entry: 0 is registered, not torn down, yet not
    findable by name (kick mode off) -/
def witnessUnreg (m : Mode) : Option Sys :=
  exec m cSameName (mkSys [[.reg 0], [.canReg 1, .disconnect 1]]) [0, 1, 1, 1, 1]

theorem stays_findable_fails_asFound :
    (witnessUnreg Mode.asFound).map (fun s => (s.regd 0, s.torn 0, s.names.get (cSameName.nameOf 0), s.ids.get 0))
      = some (true, false, none, some 0) := by decide +kernel
theorem stays_findable_fails :
    (witnessUnreg onlyUncheckedUnreg).map (fun s => (s.regd 0, s.torn 0, s.names.get (cSameName.nameOf 0), s.ids.get 0))
      = some (true, false, none, some 0) := by decide +kernel
/-- the same schedule on the repaired machine keeps player 0 findable -/
theorem stays_findable_witness_repaired :
    (witnessUnreg Mode.repaired).map (fun s => (s.regd 0, s.torn 0, s.names.get (cSameName.nameOf 0), s.ids.get 0))
      = some (true, false, some 0, some 0) := by decide +kernel

/-- the rejected login's DisconnectEvent claims a successful login (found = true for somebody else's entry) -/
theorem rejected_login_status_fails :
    ((exec Mode.asFound cSameId (mkSys [[.reg 0], [.canReg 1, .disconnect 1]]) [0, 1, 1, 1, 1]).map
      (fun s => (s.log.getLast?, s.ids.get 7))) = some (some (.disc 1 .successful), none) := by decide +kernel

/-- registerConnection's `return false` keeps `muP`: after a duplicate is rejected by registerConnection
    itself, no other thread's registry call is ever enabled again -/
def witnessLeak (m : Mode) : Option Sys :=
  exec m cSameId (mkSys [[.reg 0, .reg 1], [.count]]) [0, 0]

theorem never_blocked_fails_asFound :
    (witnessLeak Mode.asFound).map (fun s => (s.held, (step Mode.asFound cSameId s 1).isSome)) = some (some 0, false) := by
  decide +kernel
theorem never_blocked_fails :
    (witnessLeak onlyNoUnlock).map (fun s => (s.held, (step onlyNoUnlock cSameId s 1).isSome)) = some (some 0, false) := by
  decide +kernel
theorem never_blocked_witness_repaired :
    (witnessLeak Mode.repaired).map (fun s => (s.held, (step Mode.repaired cSameId s 1).isSome)) = some (none, true) := by
  decide +kernel

/-- DESIGN §11 row 7.  Offline mode with the kick flag: both logins pass canRegister, then
    registerConnection takes the kick branch and checks UUIDs only: two registered players share one
    lower-case name although kick mode is off -/
def witnessKick (m : Mode) : Option Sys :=
  exec m cOfflineKick (mkSys [[.canReg 0, .reg 0], [.canReg 1, .reg 1]]) [0, 1, 0, 1]

theorem names_unique_fails_asFound :
    (witnessKick Mode.asFound).map (fun s => (s.ids.get 0, s.ids.get 1, s.names.get 7, cOfflineKick.kickMode))
      = some (some 0, some 1, some 1, false) := by decide +kernel
theorem names_unique_fails :
    (witnessKick onlyKickMismatch).map (fun s => (s.ids.get 0, s.ids.get 1, s.names.get 7, cOfflineKick.kickMode))
      = some (some 0, some 1, some 1, false) := by decide +kernel
theorem names_unique_witness_repaired :
    (witnessKick Mode.repaired).map (fun s => (s.ids.get 0, s.ids.get 1, s.names.get 7, s.log.getLast?))
      = some (some 0, none, some 0, some (.ret 1 false)) := by decide +kernel

/-- check-then-act.  If unregisterConnection decided ownership in a read section and deleted by key in a
    later write section, then in kick mode (online, kick flag) with "bob"(uuid 1) online: bob's
    connection closes and its teardown finds it owns both entries; "Bob"(uuid 2) registers in between and
    takes over the name entry; the write section deletes it by key — player 1 is registered, connected,
    never replaced, yet not findable by name -/
def cKickSameName : Cfg := { online := true, kickFlag := true, nameOf := fun _ => 7, idOf := fun p => p }
def onlySplitUnreg : Mode := { Mode.repaired with splitUnreg := true }
def witnessSplit (m : Mode) (sched : List Nat) : Option Sys :=
  exec m cKickSameName (mkSys [[.reg 0, .disconnect 0], [.reg 1]]) sched

theorem stale_unregister_fails :
    (witnessSplit onlySplitUnreg [0, 0, 0, 1, 0, 0]).map (fun s => ((s.regd 1, s.torn 1, s.closed 1), s.ids.get 1,
        s.names.get (cKickSameName.nameOf 1), s.evictedBy 1)) =
      some ((true, false, false), some 1, (none : Option Pid), (none : Option Pid)) := by
  decide +kernel
theorem stale_unregister_witness_repaired :
    (witnessSplit Mode.repaired [0, 0, 0, 1, 0]).map (fun s => (s.regd 1, s.torn 1, s.ids.get 1,
        s.names.get (cKickSameName.nameOf 1), s.log.getLast?)) =
      some (true, false, some 1, some 1, some (.disc 0 .successful)) := by decide +kernel

/-- `player.OnlineMode()` (true on an offline-mode proxy only for a login whose online mode a
    PreLoginEvent subscriber forced) is a dimension of `Cfg` all theorems above quantify over; the
    repaired machine never reads it: changing it arbitrarily changes no step -/
theorem registry_ignores_login_online_flag (c : Cfg) (f : Pid → Bool) (s : Sys) (t : Nat) :
    step Mode.repaired { c with onlineOf := f } s t = step Mode.repaired c s t := by
  unfold step
  split
  · rename_i task rest _
    cases task with
    | call cl => cases cl <;> rfl
    | setDup e => rfl
    | unreg p => rfl
    | fire p fd => rfl
    | unregWrite p fd o => rfl
  · rfl

theorem exec_ignores_login_online_flag (c : Cfg) (f : Pid → Bool) (s : Sys) (sched : List Nat) :
    exec Mode.repaired { c with onlineOf := f } s sched = exec Mode.repaired c s sched := by
  induction sched generalizing s with
  | nil => rfl
  | cons t ts ih =>
    simp only [exec, registry_ignores_login_online_flag]
    cases step Mode.repaired c s t with
    | none => rfl
    | some s1 => exact ih s1

/-- kick mode decided per login (`Kick && (OnlineMode || player.OnlineMode())`): offline proxy with the
    kick flag, "steve" (offline login, uuid 0) registered, then "Steve" (uuid 1) whose online mode was
    forced logs in — strictly sequentially: canRegister says yes without looking, registerConnection takes
    the kick branch (UUIDs only) and overwrites steve's name entry: two registered players share one
    lower-case name while kick mode is off, steve is connected but not findable by name -/
def cForcedOnline : Cfg :=
  { online := false, kickFlag := true, nameOf := fun _ => 7, idOf := fun p => p, onlineOf := fun p => p == 1 }
def onlyKickPerLogin : Mode := { Mode.repaired with kickPerLogin := true }
def witnessPerLogin (m : Mode) : Option Sys :=
  exec m cForcedOnline (mkSys [[.canReg 0, .reg 0], [.canReg 1, .reg 1]]) [0, 0, 1, 1]

theorem per_login_kick_fails :
    (witnessPerLogin onlyKickPerLogin).map (fun s => ((s.ids.get 0, s.ids.get 1, s.names.get 7),
        (s.regd 0, s.torn 0, cForcedOnline.kickMode), s.log)) =
      some ((some 0, some 1, some 1), (true, false, false), [.ret 0 true, .ret 0 true, .ret 1 true, .ret 1 true]) := by
  decide +kernel
theorem per_login_kick_witness_repaired :
    (witnessPerLogin Mode.repaired).map (fun s => ((s.ids.get 0, s.ids.get 1, s.names.get 7), s.log)) =
      some ((some 0, (none : Option Pid), some 0), [.ret 0 true, .ret 0 true, .ret 1 false, .ret 1 false]) := by
  decide +kernel

/-- online + kick flag, same UUID: the newcomer's thread marks, disconnects and tears down the older
    session (status `conflicting`) and only then writes itself -/
example :
    ((exec Mode.repaired { online := true, kickFlag := true, nameOf := fun _ => 3, idOf := fun _ => 7 }
        (mkSys [[.reg 0], [.reg 1]]) [0, 1, 1, 1, 1, 1, 1]).map
      (fun s => (s.ids.get 7, s.names.get 3, s.closed 0, s.torn 0, s.log))) =
    some (some 1, some 1, true, true, [.ret 0 true, .disc 0 .conflicting, .ret 1 true]) := by decide +kernel

example : Reachable cSameName (mkSys []) := ⟨[], [], rfl⟩

/-! ### source shape (regenerated from /repo on every run) -/

/-- every `return` that comes after the first `lock` is immediately preceded by `unlock` -/
def exitsUnlocked (lock unlock : String) : List String → Bool
  | [] => true
  | a :: rest => if a = lock then go unlock a rest else exitsUnlocked lock unlock rest
where
  go (unlock : String) : String → List String → Bool
    | _, [] => true
    | prev, a :: rest => (if a = "return" then prev = unlock else true) && go unlock a rest

/-- all `accesses` sit between `lock` and `unlock`, and the lock is released at the end -/
def insideRegion (lock unlock : String) (accesses : List String) : Bool → List String → Bool
  | inside, [] => !inside
  | inside, a :: rest =>
    if a = lock then !inside && insideRegion lock unlock accesses true rest
    else if a = unlock then inside && insideRegion lock unlock accesses false rest
    else (inside || !(accesses.contains a)) && insideRegion lock unlock accesses inside rest

/-- `lock` is immediately followed by the deferred `unlock`: the rest of the function is one section -/
def deferredRegion (lock unlock : String) : List String → Bool
  | a :: b :: rest => if a = lock then b = "defer:" ++ unlock && !(rest.contains lock)
                      else deferredRegion lock unlock (b :: rest)
  | _ => false

/-- the operations on mutex `mu` a function performs, in source order (deferred ones included) -/
def muOps (mu : String) (calls : List String) : List String :=
  calls.filter (fun c => [mu ++ ".Lock", mu ++ ".Unlock", mu ++ ".RLock", mu ++ ".RUnlock",
    "defer:" ++ mu ++ ".Unlock", "defer:" ++ mu ++ ".RUnlock", mu ++ ".TryLock", mu ++ ".TryRLock",
    "go:" ++ mu ++ ".Unlock", "go:" ++ mu ++ ".RUnlock"].contains c)

/-- EXACT lock shape of the registry functions: unregisterConnection is ONE write section (no separate
    read section before it: ownership is decided and acted upon atomically), the readers are one deferred
    read section, registerConnection is one Lock with an Unlock on each of its four ways out -/
theorem registry_lock_shape_exact :
    muOps "p.muP" Gate.Gen.C11.unregisterCalls = ["p.muP.Lock", "p.muP.Unlock"] ∧
    muOps "p.muP" Gate.Gen.C11.registerCalls =
      ["p.muP.Lock", "p.muP.Unlock", "p.muP.Unlock", "p.muP.Unlock", "p.muP.Unlock"] ∧
    muOps "p.muP" Gate.Gen.C11.canRegisterCalls = ["p.muP.RLock", "defer:p.muP.RUnlock"] ∧
    muOps "p.muP" Gate.Gen.C11.playerCalls = ["p.muP.RLock", "defer:p.muP.RUnlock"] ∧
    muOps "p.muP" Gate.Gen.C11.playerByNameCalls = ["p.muP.RLock", "defer:p.muP.RUnlock"] ∧
    muOps "p.muP" Gate.Gen.C11.playerCountCalls = ["p.muP.RLock", "defer:p.muP.RUnlock"] ∧
    -- nothing returns from unregisterConnection before its section (no fast path around the lock)
    (Gate.Gen.C11.unregisterCalls.takeWhile (· ≠ "p.muP.Lock")).contains "return" = false := by decide +kernel

/-- (secondary signal) the only things the two admission functions ask the PLAYER for are its name and
    its UUID; the mode comes from `p.config()` alone — no per-login predicate is called -/
theorem admission_reads_config_name_id_only :
    Gate.Gen.C11.canRegisterCalls.filter (fun c => !["p.muP.RLock", "defer:p.muP.RUnlock", "return"].contains c) =
      ["p.config", "player.Username", "strings.ToLower", "player.ID"] ∧
    (Gate.Gen.C11.registerCalls.filter (fun c => !["p.muP.Lock", "p.muP.Unlock", "return"].contains c)).eraseDups =
      ["player.Username", "strings.ToLower", "p.config", "player.ID",
       "existing.disconnectDueToDuplicateConnection.Store", "existing.Disconnect"] := by decide +kernel

/-- registerConnection: one `Lock`; every exit after it is preceded by `Unlock` (no lock leak) -/
theorem register_exits_unlocked :
    exitsUnlocked "p.muP.Lock" "p.muP.Unlock" Gate.Gen.C11.registerCalls = true ∧
    Gate.Gen.C11.registerCalls.count "p.muP.Lock" = 1 ∧
    "existing.Disconnect" ∈ Gate.Gen.C11.registerCalls := by decide +kernel

/-- unregisterConnection: both deletes and the emptiness test sit in one Lock…Unlock section -/
theorem unregister_one_section :
    insideRegion "p.muP.Lock" "p.muP.Unlock" ["delete", "len"] false Gate.Gen.C11.unregisterCalls = true ∧
    Gate.Gen.C11.unregisterCalls.count "delete" = 2 := by decide +kernel

/-- canRegisterConnection and the lookups are single read sections -/
theorem readers_single_section :
    deferredRegion "p.muP.RLock" "p.muP.RUnlock" Gate.Gen.C11.canRegisterCalls = true ∧
    deferredRegion "p.muP.RLock" "p.muP.RUnlock" Gate.Gen.C11.playerCalls = true ∧
    deferredRegion "p.muP.RLock" "p.muP.RUnlock" Gate.Gen.C11.playerByNameCalls = true ∧
    deferredRegion "p.muP.RLock" "p.muP.RUnlock" Gate.Gen.C11.playerCountCalls = true := by decide +kernel

/-- teardown unregisters exactly once and is what the session handlers' `Disconnected` call;
    `Disconnected` is called inside the connection's `closeOnce` -/
theorem teardown_once_from_close :
    Gate.Gen.C11.teardownCalls.count "p.registrar.unregisterConnection" = 1 ∧
    "i.player.teardown" ∈ Gate.Gen.C11.initialDisconnectedCalls ∧
    "a.connectedPlayer.teardown" ∈ Gate.Gen.C11.authDisconnectedCalls ∧
    insideRegion "func:{" "}" ["sh.Disconnected", "c.cancelCtx"] false
      (Gate.Gen.C11.closeKnownCalls.takeWhile (· ≠ "c.closeOnce.Do")) = true ∧
    "sh.Disconnected" ∈ Gate.Gen.C11.closeKnownCalls ∧ "c.closeOnce.Do" ∈ Gate.Gen.C11.closeKnownCalls := by decide +kernel

end Gate.C11.Props
