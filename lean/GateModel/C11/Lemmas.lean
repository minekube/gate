import GateModel.C11.Model
import GateModel.Base.Sched
/-
C11 helper lemmas: association maps, the registry invariant `Inv` and its preservation by every
atomic action of the repaired machine.
-/
namespace Gate.C11

def AMap.keys (m : AMap) : List Key := m.map (·.1)

@[simp] theorem AMap.get_nil (k : Key) : AMap.get [] k = none := rfl
theorem AMap.get_cons (k' : Key) (v : Pid) (r : AMap) (k : Key) :
    AMap.get ((k', v) :: r) k = if k' = k then some v else AMap.get r k := rfl

theorem AMap.get_erase (m : AMap) (k k' : Key) :
    (AMap.erase m k).get k' = if k' = k then none else m.get k' := by
  induction m with
  | nil => simp [AMap.erase]
  | cons e r ih =>
    obtain ⟨a, v⟩ := e
    unfold AMap.erase at ih ⊢
    by_cases hak : a = k
    · subst hak
      simp only [List.filter_cons, beq_self_eq_true, Bool.not_true, Bool.false_eq_true, if_false, ih]
      by_cases h : k' = a
      · simp [h]
      · have : ¬ a = k' := fun e => h e.symm
        simp [h, AMap.get_cons, this]
    · have hb : (!(a == k)) = true := by simp [hak]
      simp only [List.filter_cons, hb, if_true, AMap.get_cons, ih]
      by_cases h1 : a = k'
      · subst h1; simp [hak]
      · simp [h1]

theorem AMap.get_put (m : AMap) (k k' : Key) (v : Pid) :
    (AMap.put m k v).get k' = if k' = k then some v else m.get k' := by
  unfold AMap.put
  rw [AMap.get_cons, AMap.get_erase]
  by_cases h : k' = k
  · subst h; simp
  · have : ¬ k = k' := fun e => h e.symm
    simp [h, this]

theorem AMap.get_put_some {m : AMap} {k k' : Key} {v x : Pid} (h : (AMap.put m k v).get k' = some x) :
    k' = k ∧ x = v ∨ m.get k' = some x := by
  rw [AMap.get_put] at h
  split at h
  · exact .inl ⟨‹_›, (Option.some.inj h).symm⟩
  · exact .inr h

theorem AMap.get_put_self (m : AMap) (k : Key) (v : Pid) : (AMap.put m k v).get k = some v :=
  (AMap.get_put m k k v).trans (if_pos rfl)

/-- writing under a key that was free keeps every entry -/
theorem AMap.get_put_keep {m : AMap} {k k' : Key} {v x : Pid} (hfree : m.get k = none) (h : m.get k' = some x) :
    (AMap.put m k v).get k' = some x := by
  have hne : k' ≠ k := fun e => by rw [e, hfree] at h; cases h
  rw [AMap.get_put, if_neg hne]
  exact h

theorem AMap.get_put_iff {m : AMap} {k k' : Key} {v x : Pid} (hfree : m.get k = none) (hne : x ≠ v) :
    (AMap.put m k v).get k' = some x ↔ m.get k' = some x :=
  ⟨fun h => (AMap.get_put_some h).resolve_left fun e => hne e.2, AMap.get_put_keep hfree⟩

theorem AMap.get_eraseIf (m : AMap) (k k' : Key) (v : Pid) :
    (AMap.eraseIf m k v).get k' = if k' = k ∧ m.get k = some v then none else m.get k' := by
  unfold AMap.eraseIf
  by_cases h : m.get k = some v
  · simp only [h, if_true, and_true, AMap.get_erase]
  · simp [h]

theorem AMap.get_eraseIf_some {m : AMap} {k k' : Key} {v x : Pid} (h : (AMap.eraseIf m k v).get k' = some x) :
    m.get k' = some x := by
  rw [AMap.get_eraseIf] at h
  split at h
  · cases h
  · exact h

theorem AMap.get_eraseIf_keep {m : AMap} {k k' : Key} {v x : Pid} (h : m.get k' = some x) (hne : x ≠ v) :
    (AMap.eraseIf m k v).get k' = some x := by
  rw [AMap.get_eraseIf]
  split
  · rename_i hc
    obtain ⟨rfl, hv⟩ := hc
    rw [h] at hv; injection hv with hv; exact absurd hv hne
  · exact h

theorem AMap.get_eraseIf_iff {m : AMap} {k k' : Key} {v x : Pid} (hne : x ≠ v) :
    (AMap.eraseIf m k v).get k' = some x ↔ m.get k' = some x :=
  ⟨AMap.get_eraseIf_some, fun h => AMap.get_eraseIf_keep h hne⟩

theorem AMap.get_eraseIf_self (m : AMap) (k : Key) (v : Pid) : (AMap.eraseIf m k v).get k ≠ some v := by
  rw [AMap.get_eraseIf]
  by_cases h : m.get k = some v <;> simp [h]

theorem AMap.mem_of_get {m : AMap} {k : Key} {v : Pid} (h : m.get k = some v) : (k, v) ∈ m := by
  induction m with
  | nil => simp at h
  | cons e r ih =>
    obtain ⟨a, w⟩ := e
    rw [AMap.get_cons] at h
    by_cases hak : a = k
    · simp [hak] at h; simp [hak, h]
    · simp [hak] at h; exact List.mem_cons_of_mem _ (ih h)

theorem AMap.get_of_mem {m : AMap} {k : Key} {v : Pid} (hnd : (AMap.keys m).Nodup) (h : (k, v) ∈ m) :
    m.get k = some v := by
  induction m with
  | nil => simp at h
  | cons e r ih =>
    obtain ⟨a, w⟩ := e
    simp only [AMap.keys, List.map_cons, List.nodup_cons] at hnd
    rw [AMap.get_cons]
    rcases List.mem_cons.mp h with h | h
    · injection h with h1 h2; simp [h1, h2]
    · have hk : k ∈ r.map (·.1) := List.mem_map.mpr ⟨(k, v), h, rfl⟩
      have : ¬ a = k := fun e => hnd.1 (e ▸ hk)
      simp [this]; exact ih hnd.2 h

theorem AMap.keys_erase_sub (m : AMap) (k x : Key) (h : x ∈ AMap.keys (AMap.erase m k)) : x ∈ AMap.keys m ∧ x ≠ k := by
  simp only [AMap.keys, AMap.erase, List.mem_map, List.mem_filter] at h ⊢
  obtain ⟨e, ⟨he, hne⟩, rfl⟩ := h
  exact ⟨⟨e, he, rfl⟩, by simpa using hne⟩

theorem AMap.nodup_erase {m : AMap} (k : Key) (h : (AMap.keys m).Nodup) : (AMap.keys (AMap.erase m k)).Nodup := by
  unfold AMap.keys AMap.erase
  exact List.Nodup.sublist (List.Sublist.map _ List.filter_sublist) h

theorem AMap.nodup_eraseIf {m : AMap} (k : Key) (v : Pid) (h : (AMap.keys m).Nodup) :
    (AMap.keys (AMap.eraseIf m k v)).Nodup := by
  unfold AMap.eraseIf; split
  · exact AMap.nodup_erase k h
  · exact h

theorem AMap.nodup_put {m : AMap} (k : Key) (v : Pid) (h : (AMap.keys m).Nodup) : (AMap.keys (AMap.put m k v)).Nodup := by
  unfold AMap.put
  show ((k :: AMap.keys (AMap.erase m k))).Nodup
  refine List.nodup_cons.mpr ⟨fun hk => (AMap.keys_erase_sub m k k hk).2 rfl, AMap.nodup_erase k h⟩

@[simp] theorem upd_same {α} (f : Pid → α) (p : Pid) (a : α) : upd f p a p = a := by simp [upd]
theorem upd_other {α} (f : Pid → α) {p x : Pid} (a : α) (h : x ≠ p) : upd f p a x = f x := by simp [upd, h]
theorem upd_true_mono (f : Pid → Bool) (p x : Pid) (h : f x = true) : upd f p true x = true := by
  unfold upd; split <;> simp [h]

/-- `unregisterConnection(p)` is only ever pending in a thread after `p`'s connection closed -/
def TasksOK (closed : Pid → Bool) (ts : List Task) : Prop :=
  (∀ p, Task.unreg p ∈ ts → closed p = true) ∧ (∀ p f o, Task.unregWrite p f o ∉ ts)

structure Inv (c : Cfg) (s : Sys) : Prop where
  idsKey    : ∀ k p, s.ids.get k = some p → c.idOf p = k
  namesKey  : ∀ k p, s.names.get k = some p → c.nameOf p = k
  idsND     : (AMap.keys s.ids).Nodup
  namesND   : (AMap.keys s.names).Nodup
  free      : s.held = none
  idsRegd   : ∀ k p, s.ids.get k = some p → s.regd p = true
  namesRegd : ∀ k p, s.names.get k = some p → s.regd p = true
  findId    : ∀ p, s.regd p = true → s.torn p = false → s.ids.get (c.idOf p) = some p
  findName  : ∀ p, s.regd p = true → s.torn p = false →
                s.names.get (c.nameOf p) = some p ∨ (s.evictedBy p).isSome = true
  evict     : ∀ p q, s.evictedBy p = some q →
                c.kickMode = true ∧ q ≠ p ∧ c.nameOf q = c.nameOf p ∧ s.regd q = true
  sameSet   : c.kickMode = false → ∀ p, s.names.get (c.nameOf p) = some p ↔ s.ids.get (c.idOf p) = some p
  tornClosed : ∀ p, s.torn p = true → s.closed p = true
  tasksOK   : ∀ ts ∈ s.threads, TasksOK s.closed ts

/-- actions that leave the registry proper untouched -/
theorem Inv.frame {c : Cfg} {s s' : Sys} (h : Inv c s)
    (hn : s'.names = s.names) (hi : s'.ids = s.ids) (hh : s'.held = none)
    (hc : ∀ x, s.closed x = true → s'.closed x = true)
    (hr : s'.regd = s.regd) (ht : s'.torn = s.torn) (he : s'.evictedBy = s.evictedBy)
    (hth : ∀ ts ∈ s'.threads, TasksOK s'.closed ts) : Inv c s' where
  idsKey := by rw [hi]; exact h.idsKey
  namesKey := by rw [hn]; exact h.namesKey
  idsND := by rw [hi]; exact h.idsND
  namesND := by rw [hn]; exact h.namesND
  free := hh
  idsRegd := by rw [hi, hr]; exact h.idsRegd
  namesRegd := by rw [hn, hr]; exact h.namesRegd
  findId := by rw [hi, hr, ht]; exact h.findId
  findName := by rw [hn, hr, ht, he]; exact h.findName
  evict := by rw [he, hr]; exact h.evict
  sameSet := by rw [hn, hi]; exact h.sameSet
  tornClosed := by rw [ht]; exact fun p hp => hc p (h.tornClosed p hp)
  tasksOK := hth

theorem tasksOK_set {closed : Pid → Bool} {l : List (List Task)} {t : Nat} {new : List Task}
    (hl : ∀ ts ∈ l, TasksOK closed ts) (hnew : TasksOK closed new) : ∀ ts ∈ l.set t new, TasksOK closed ts := by
  intro ts hts
  rcases List.mem_or_eq_of_mem_set hts with h | h
  · exact hl ts h
  · exact h ▸ hnew

theorem TasksOK.tail {closed : Pid → Bool} {a : Task} {ts : List Task} (h : TasksOK closed (a :: ts)) : TasksOK closed ts :=
  ⟨fun p hp => h.1 p (List.mem_cons_of_mem _ hp), fun p f o hp => h.2 p f o (List.mem_cons_of_mem _ hp)⟩

theorem TasksOK.mono {c1 c2 : Pid → Bool} {ts : List Task} (h : TasksOK c1 ts) (hc : ∀ x, c1 x = true → c2 x = true) :
    TasksOK c2 ts := ⟨fun p hp => hc p (h.1 p hp), h.2⟩

/-- pushing a task in front of an admissible stack: never `unregWrite`, and `unreg p` only for a closed `p` -/
theorem TasksOK.cons {closed : Pid → Bool} {a : Task} {ts : List Task} (h : TasksOK closed ts)
    (h1 : ∀ p, a = Task.unreg p → closed p = true) (h2 : ∀ p f o, a ≠ Task.unregWrite p f o) :
    TasksOK closed (a :: ts) := by
  constructor
  · intro p hp
    rcases List.mem_cons.mp hp with hp | hp
    · exact h1 p hp.symm
    · exact h.1 p hp
  · intro p f o hp
    rcases List.mem_cons.mp hp with hp | hp
    · exact h2 p f o hp.symm
    · exact h.2 p f o hp

/-- an eviction mark is new only for the previous owner of the name entry, and names the newcomer -/
theorem evictUpd_eq_some {ev : Pid → Option Pid} {prev : Option Pid} {p x q : Pid} (h : evictUpd ev prev p x = some q) :
    ev x = some q ∨ prev = some x ∧ x ≠ p ∧ q = p := by
  unfold evictUpd at h
  split at h
  · split at h
    · exact .inl h
    · next hyp =>
      unfold upd at h
      split at h
      · next hxy => exact .inr ⟨hxy ▸ rfl, hxy ▸ hyp, (Option.some.inj h).symm⟩
      · exact .inl h
  · exact .inl h

/-- and no mark is ever taken back -/
theorem evictUpd_isSome {ev : Pid → Option Pid} {prev : Option Pid} {p x : Pid} (h : (ev x).isSome = true) :
    (evictUpd ev prev p x).isSome = true := by
  unfold evictUpd
  split
  · split
    · exact h
    · unfold upd; split
      · rfl
      · exact h
  · exact h

/-- outside kick mode registerConnection writes only under a free name key -/
theorem kickMode_of_taken {c : Cfg} {m : AMap} {k : Key} {x : Pid} (hname : c.kickMode = false → m.get k = none)
    (h : m.get k = some x) : c.kickMode = true := by
  cases hkm : c.kickMode
  · rw [hname hkm] at h; cases h
  · rfl

/-- the two map writes of registerConnection, performed when the id key is free and (outside kick mode) the name key too -/
theorem register_inv {c : Cfg} {s : Sys} {t : Nat} {p : Pid} {T : List (List Task)} (h : Inv c s)
    (hid : s.ids.get (c.idOf p) = none) (hname : c.kickMode = false → s.names.get (c.nameOf p) = none)
    (hT : ∀ ts ∈ T, TasksOK s.closed ts) : Inv c { register c s t p with threads := T } where
  idsKey := fun k x hx => (AMap.get_put_some hx).elim (fun e => e.1 ▸ e.2 ▸ rfl) (h.idsKey k x)
  namesKey := fun k x hx => (AMap.get_put_some hx).elim (fun e => e.1 ▸ e.2 ▸ rfl) (h.namesKey k x)
  idsND := AMap.nodup_put _ _ h.idsND
  namesND := AMap.nodup_put _ _ h.namesND
  free := h.free
  idsRegd := fun k x hx => (AMap.get_put_some hx).elim (fun e => e.2 ▸ upd_same _ _ _)
    fun hx => upd_true_mono _ _ _ (h.idsRegd k x hx)
  namesRegd := fun k x hx => (AMap.get_put_some hx).elim (fun e => e.2 ▸ upd_same _ _ _)
    fun hx => upd_true_mono _ _ _ (h.namesRegd k x hx)
  findId := by
    intro x hr ht
    by_cases hxp : x = p
    · subst hxp; exact AMap.get_put_self ..
    · exact AMap.get_put_keep hid (h.findId x ((upd_other _ _ hxp).symm.trans hr) ht)
  findName := by
    intro x hr ht
    by_cases hxp : x = p
    · subst hxp; exact .inl (AMap.get_put_self ..)
    · rcases h.findName x ((upd_other _ _ hxp).symm.trans hr) ht with hl | hrr
      · by_cases hk : c.nameOf x = c.nameOf p
        · right
          show (evictUpd s.evictedBy (s.names.get (c.nameOf p)) p x).isSome = true
          rw [← hk, hl]
          simp only [evictUpd, hxp, if_false, upd_same, Option.isSome_some]
        · exact .inl ((AMap.get_put ..).trans ((if_neg hk).trans hl))
      · exact .inr (evictUpd_isSome hrr)
  evict := by
    intro x q hq
    rcases evictUpd_eq_some hq with ho | ⟨hprev, hxp, rfl⟩
    · obtain ⟨a, b, d, e⟩ := h.evict x q ho
      exact ⟨a, b, d, upd_true_mono _ _ _ e⟩
    · exact ⟨kickMode_of_taken hname hprev, fun e => hxp e.symm, (h.namesKey _ _ hprev).symm, upd_same _ _ _⟩
  sameSet := by
    intro hkm x
    by_cases hxp : x = p
    · subst hxp; exact ⟨fun _ => AMap.get_put_self .., fun _ => AMap.get_put_self ..⟩
    · show (s.names.put (c.nameOf p) p).get (c.nameOf x) = some x ↔ (s.ids.put (c.idOf p) p).get (c.idOf x) = some x
      rw [AMap.get_put_iff (hname hkm) hxp, AMap.get_put_iff hid hxp]
      exact h.sameSet hkm x
  tornClosed := h.tornClosed
  tasksOK := hT

/-- the (checked) unregisterConnection critical section of `p`'s teardown -/
theorem unreg_inv {c : Cfg} {s : Sys} {p : Pid} {T : List (List Task)} (h : Inv c s) (hcl : s.closed p = true)
    (hT : ∀ ts ∈ T, TasksOK s.closed ts) :
    Inv c { s with ids := s.ids.eraseIf (c.idOf p) p, names := s.names.eraseIf (c.nameOf p) p,
                   torn := upd s.torn p true, threads := T } where
  idsKey := fun k x hx => h.idsKey k x (AMap.get_eraseIf_some hx)
  namesKey := fun k x hx => h.namesKey k x (AMap.get_eraseIf_some hx)
  idsND := AMap.nodup_eraseIf _ _ h.idsND
  namesND := AMap.nodup_eraseIf _ _ h.namesND
  free := h.free
  idsRegd := fun k x hx => h.idsRegd k x (AMap.get_eraseIf_some hx)
  namesRegd := fun k x hx => h.namesRegd k x (AMap.get_eraseIf_some hx)
  findId := by
    intro x hr ht
    by_cases hxp : x = p
    · subst hxp; simp at ht
    · simp only [upd_other _ _ hxp] at ht
      exact AMap.get_eraseIf_keep (h.findId x hr ht) hxp
  findName := by
    intro x hr ht
    by_cases hxp : x = p
    · subst hxp; simp at ht
    · simp only [upd_other _ _ hxp] at ht
      rcases h.findName x hr ht with hl | hrr
      · exact Or.inl (AMap.get_eraseIf_keep hl hxp)
      · exact Or.inr hrr
  evict := h.evict
  sameSet := by
    intro hkm x
    by_cases hxp : x = p
    · subst hxp
      exact ⟨fun hx => absurd hx (AMap.get_eraseIf_self _ _ _), fun hx => absurd hx (AMap.get_eraseIf_self _ _ _)⟩
    · show (AMap.eraseIf s.names (c.nameOf p) p).get (c.nameOf x) = some x ↔
           (AMap.eraseIf s.ids (c.idOf p) p).get (c.idOf x) = some x
      rw [AMap.get_eraseIf_iff hxp, AMap.get_eraseIf_iff hxp]
      exact h.sameSet hkm x
  tornClosed := by
    intro x hx
    by_cases hxp : x = p
    · subst hxp; exact hcl
    · simp only [upd_other _ _ hxp] at hx; exact h.tornClosed x hx
  tasksOK := hT

theorem regKick_repaired (c : Cfg) (p : Pid) : regKick Mode.repaired c p = c.kickMode := rfl
theorem canKick_repaired (c : Cfg) (p : Pid) : canKick Mode.repaired c p = c.kickMode := rfl

/-- what one atomic action of the repaired machine can do to the two indices -/
inductive StepKind (c : Cfg) (s s' : Sys) (t : Nat) : Prop where
  | same (hi : s'.ids = s.ids) (hn : s'.names = s.names)
  | reg (q : Pid) (rest : List Task) (hth : s.threads[t]? = some (Task.call (.reg q) :: rest))
      (hfree : s.ids.get (c.idOf q) = none) (hname : c.kickMode = false → s.names.get (c.nameOf q) = none)
      (hi : s'.ids = s.ids.put (c.idOf q) q) (hn : s'.names = s.names.put (c.nameOf q) q)
  | unreg (q : Pid) (rest : List Task) (hth : s.threads[t]? = some (Task.unreg q :: rest))
      (hi : s'.ids = s.ids.eraseIf (c.idOf q) q) (hn : s'.names = s.names.eraseIf (c.nameOf q) q)

/-- every atomic action of the repaired machine is of one of these kinds, and preserves the invariant -/
theorem step_kind_inv {c : Cfg} {s s' : Sys} {t : Nat} (hs : step Mode.repaired c s t = some s') :
    StepKind c s s' t ∧ (Inv c s → Inv c s') := by
  unfold step at hs
  split at hs
  case h_2 => cases hs
  rename_i task rest hth
  have hmem := List.mem_of_getElem? hth
  -- actions that touch only the log, the duplicate flags and (keeping it free) the lock, replacing the task by `new`
  have quiet : ∀ (l : List Ev) (d : Pid → Bool) (hd : Option Nat) (new : List Task), (s.held = none → hd = none) →
      (∀ a ∈ new, (∀ p, a ≠ .unreg p) ∧ ∀ p f o, a ≠ .unregWrite p f o) →
      StepKind c s { s with log := l, dup := d, held := hd, threads := s.threads.set t (new ++ rest) } t ∧
        (Inv c s → Inv c { s with log := l, dup := d, held := hd, threads := s.threads.set t (new ++ rest) }) := by
    intro l d hd new hh hnew
    refine ⟨.same rfl rfl, fun h => h.frame rfl rfl (hh h.free) (fun _ a => a) rfl rfl rfl
      (tasksOK_set h.tasksOK ?_)⟩
    induction new with
    | nil => exact (h.tasksOK _ hmem).tail
    | cons a as ih =>
      have ha := hnew a (.head _)
      exact (ih fun x hx => hnew x (.tail _ hx)).cons (fun p e => absurd e (ha.1 p)) ha.2
  cases task with
  | call cl =>
    cases cl with
    | canReg p =>
      simp only [stepTask] at hs
      split at hs
      · injection hs with hs; subst hs; exact quiet _ _ _ [] id nofun
      · split at hs
        · cases hs
        · injection hs with hs; subst hs; exact quiet _ _ _ [] id nofun
    | reg p =>
      simp only [stepTask, regKick_repaired] at hs
      split at hs
      · cases hs
      · have reg : s.ids.get (c.idOf p) = none → (c.kickMode = false → s.names.get (c.nameOf p) = none) →
            StepKind c s { register c s t p with threads := s.threads.set t rest } t ∧
              (Inv c s → Inv c { register c s t p with threads := s.threads.set t rest }) :=
          fun hid hname => ⟨.reg p rest hth hid hname rfl rfl,
            fun h => register_inv h hid hname (tasksOK_set h.tasksOK (h.tasksOK _ hmem).tail)⟩
        by_cases hk : c.kickMode = true
        · simp only [hk, if_true] at hs
          cases hid : s.ids.get (c.idOf p) with
          | some e =>
            rw [hid] at hs; injection hs with hs; subst hs
            exact quiet _ _ _ [.setDup e, .call (.disconnect e), .call (.reg p)] id (by simp)
          | none =>
            rw [hid] at hs; injection hs with hs; subst hs
            exact reg hid fun hf => by rw [hk] at hf; cases hf
        · simp only [hk, Bool.false_eq_true, if_false] at hs
          split at hs
          · injection hs with hs; subst hs; exact quiet _ _ _ [] (fun _ => rfl) nofun
          · rename_i hno
            injection hs with hs; subst hs
            rw [Bool.or_eq_true, not_or, Bool.not_eq_true, Bool.not_eq_true, Option.isSome_eq_false_iff,
              Option.isSome_eq_false_iff, Option.isNone_iff_eq_none, Option.isNone_iff_eq_none] at hno
            exact reg hno.2 fun _ => hno.1
    | disconnect p =>
      simp only [stepTask] at hs
      split at hs
      · injection hs with hs; subst hs; exact quiet _ _ _ [] id nofun
      · injection hs with hs; subst hs
        refine ⟨.same rfl rfl, fun h => ?_⟩
        have hmono : ∀ x, s.closed x = true → upd s.closed p true x = true := fun x hx => upd_true_mono _ _ _ hx
        refine h.frame rfl rfl h.free hmono rfl rfl rfl
          (tasksOK_set (fun ts hts => (h.tasksOK ts hts).mono hmono) ?_)
        exact ((h.tasksOK _ hmem).tail.mono hmono).cons
          (fun q hq => Task.unreg.inj hq ▸ upd_same _ _ _) nofun
    | _ =>
      simp only [stepTask] at hs
      split at hs
      · cases hs
      · injection hs with hs; subst hs; exact quiet _ _ _ [] id nofun
  | setDup e =>
    injection hs with hs; subst hs; exact quiet _ _ _ [] id nofun
  | unreg p =>
    simp only [stepTask, Mode.repaired, if_true, Bool.false_eq_true, if_false] at hs
    split at hs
    · cases hs
    · injection hs with hs; subst hs
      refine ⟨.unreg p rest hth rfl rfl, fun h => ?_⟩
      have hok := h.tasksOK _ hmem
      exact unreg_inv h (hok.1 p (.head _)) (tasksOK_set h.tasksOK (hok.tail.cons nofun nofun))
  | fire p f =>
    injection hs with hs; subst hs; exact quiet _ _ _ [] id nofun
  | unregWrite p f o => cases hs

theorem step_kind {c : Cfg} {s s' : Sys} {t : Nat} (hs : step Mode.repaired c s t = some s') : StepKind c s s' t :=
  (step_kind_inv hs).1

theorem step_inv {c : Cfg} {s s' : Sys} {t : Nat} (h : Inv c s) (hs : step Mode.repaired c s t = some s') : Inv c s' :=
  (step_kind_inv hs).2 h

theorem runs (m : Mode) (c : Cfg) : Runs (step m c) (exec m c) := ⟨fun _ => rfl, fun _ _ _ => rfl⟩

theorem exec_inv {c : Cfg} {s s' : Sys} (sched : List Nat) (h : Inv c s) (hs : exec Mode.repaired c s sched = some s') :
    Inv c s' :=
  (runs _ c).induct (Inv c) (fun _ _ _ hp hst => step_inv hp hst) h hs

theorem mkSys_inv (c : Cfg) (threads : List (List Call)) : Inv c (mkSys threads) where
  idsKey := nofun
  namesKey := nofun
  idsND := List.nodup_nil
  namesND := List.nodup_nil
  free := rfl
  idsRegd := nofun
  namesRegd := nofun
  findId := nofun
  findName := nofun
  evict := nofun
  sameSet := fun _ _ => ⟨nofun, nofun⟩
  tornClosed := nofun
  tasksOK := by
    intro ts hts
    simp only [mkSys, List.mem_map] at hts
    obtain ⟨cs, _, rfl⟩ := hts
    constructor
    · intro p hp; simp at hp
    · intro p f o hp; simp at hp

/-- with `muP` free every pending task is enabled -/
theorem step_enabled {c : Cfg} {s : Sys} {t : Nat} {task : Task} {rest : List Task} (hfree : s.held = none)
    (hth : s.threads[t]? = some (task :: rest)) (hno : ∀ p f o, task ≠ Task.unregWrite p f o) :
    (step Mode.repaired c s t).isSome = true := by
  unfold step
  rw [hth]
  simp only
  cases task with
  | call cl =>
    cases cl <;> simp only [stepTask, hfree, Option.isSome_none, Bool.false_eq_true, if_false] <;>
      repeat' split
    all_goals rfl
  | setDup e => rfl
  | unreg p =>
    simp only [stepTask, hfree, Option.isSome_none, Bool.false_eq_true, if_false, Mode.repaired, if_true]
    rfl
  | fire p f => rfl
  | unregWrite p f o => exact absurd rfl (hno p f o)

/-- states reachable by the repaired machine from an empty registry, for any programs and any schedule -/
def Reachable (c : Cfg) (s : Sys) : Prop :=
  ∃ (threads : List (List Call)) (sched : List Nat), exec Mode.repaired c (mkSys threads) sched = some s

theorem Reachable.inv {c : Cfg} {s : Sys} (h : Reachable c s) : Inv c s := by
  obtain ⟨threads, sched, hs⟩ := h
  exact exec_inv sched (mkSys_inv c threads) hs

end Gate.C11
