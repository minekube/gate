import GateModel.C31.Lemmas
/-
C31 — Lite forwards the connection unchanged apart from configured rewrites.

`backendStream eqFold o env client` is everything the chosen backend receives when the client sends the byte stream
`client` (all of it, however it is split into segments) through a route with options `o`; `eqFold` (strings.EqualFold)
is arbitrary in every theorem.  `acceptHandshake client = some (payload, h, rest)`: the first non-empty frame of the
stream has payload `payload`, which decodes to the handshake `h` with login/transfer intent; `rest` is what follows.
-/
namespace Gate.C31.Props
open Gate Gate.C31
open Gate.C03 (writeVarInt readVarInt wfInt32 defaultMaxStringSize)

/-- the connection is forwarded iff the first non-empty frame is an acceptable handshake: otherwise nothing is dialled -/
theorem dials_iff_handshake (eqFold : Bytes → Bytes → Bool) (o : Opts) (env : Env) (client : Bytes) :
    (backendStream eqFold o env client).isSome = (acceptHandshake client).isSome := by
  unfold backendStream
  cases acceptHandshake client with
  | none => rfl
  | some x => obtain ⟨p, h, r⟩ := x; rfl

/-- an accepted handshake decomposes the client stream: framing prefix (empty frames + length VarInt), the payload,
    and the bytes after the frame; the payload is non-empty and within the frame limit -/
theorem accepted_stream_shape (client payload rest : Bytes) (h : Handshake)
    (ha : acceptHandshake client = some (payload, h, rest)) :
    ∃ pre, client = pre ++ payload ++ rest ∧ pre ≠ [] ∧ 0 < payload.length ∧ payload.length ≤ maxFrame ∧
      (h.next = 2 ∨ h.next = 3) := by
  obtain ⟨hf, hn, _⟩ := acceptHandshake_inv ha
  obtain ⟨pre, hp, hne, h0, h1⟩ := readFrame_spec 12 client payload rest hf
  exact ⟨pre, hp, hne, h0, h1, hn⟩

/-- **Shape of the backend stream**: optional PROXY header, ONE minimally framed packet, then every byte that followed
    the client's handshake frame, unchanged -/
theorem backend_stream_shape (eqFold : Bytes → Bytes → Bool) (o : Opts) (env : Env) (client payload rest : Bytes)
    (h : Handshake) (ha : acceptHandshake client = some (payload, h, rest)) :
    backendStream eqFold o env client =
      some ((if o.proxyProtocol then proxyHeader env.client env.backend else []) ++
            frame (forwardedPayload eqFold o env payload h) ++ rest) := by
  unfold backendStream; rw [ha]

/-! ### no rewrite: the handshake payload is exactly what the client sent -/

/-- neither rewrite applies: virtual-host rewriting is off or the cleaned host equals the backend host
    (case-insensitively), and TCPShield real-IP is off or the address has no `///` -/
def noRewrite (eqFold : Bytes → Bytes → Bool) (o : Opts) (env : Env) (addr : Bytes) : Prop :=
  (o.modifyVirtualHost = false ∨ eqFold (clearVirtualHost addr) env.backendHost = true) ∧
  (o.tcpShield = false ∨ isTCPShield addr = false)

theorem rewriteAddr_of_noRewrite (eqFold : Bytes → Bytes → Bool) (o : Opts) (env : Env) (addr : Bytes)
    (hn : noRewrite eqFold o env addr) : rewriteAddr eqFold o env addr = (addr, false) := by
  obtain ⟨h1, h2⟩ := hn
  unfold rewriteAddr
  have e1 : (o.modifyVirtualHost && !eqFold (clearVirtualHost addr) env.backendHost) = false := by
    rcases h1 with h | h <;> simp [h]
  simp only [e1, Bool.false_eq_true, if_false]
  have e2 : (o.tcpShield && isTCPShield addr) = false := by
    rcases h2 with h | h <;> simp [h]
  simp [e2]

/-- no rewrite ⇒ the forwarded payload IS the client's payload (surplus bytes, non-minimal VarInts inside it
    included), after the optional header and followed by the rest of the client's bytes -/
theorem no_rewrite_payload_identical (eqFold : Bytes → Bytes → Bool) (o : Opts) (env : Env)
    (client payload rest : Bytes) (h : Handshake) (ha : acceptHandshake client = some (payload, h, rest))
    (hn : noRewrite eqFold o env h.addr) :
    backendStream eqFold o env client =
      some ((if o.proxyProtocol then proxyHeader env.client env.backend else []) ++ frame payload ++ rest) := by
  rw [backend_stream_shape eqFold o env client payload rest h ha]
  unfold forwardedPayload
  rw [rewriteAddr_of_noRewrite eqFold o env h.addr hn]
  simp

/-- **Identity.**  No option set, the client framed its handshake with a minimal length prefix and sent no empty
    frame before it: the backend receives the client's byte stream, byte for byte. -/
theorem no_rewrite_identity (eqFold : Bytes → Bytes → Bool) (env : Env) (payload rest : Bytes) (h : Handshake)
    (ha : acceptHandshake (frame payload ++ rest) = some (payload, h, rest)) :
    backendStream eqFold ⟨false, false, false⟩ env (frame payload ++ rest) = some (frame payload ++ rest) := by
  rw [no_rewrite_payload_identical eqFold _ env _ payload rest h ha ⟨Or.inl rfl, Or.inl rfl⟩]
  simp

/-- a minimally framed payload is read back as exactly that frame (so the hypothesis above only asks for a
    decodable login handshake) -/
theorem minimal_frame_is_first_frame (payload rest : Bytes) (h0 : 0 < payload.length) (h1 : payload.length ≤ maxFrame) :
    firstFrame (frame payload ++ rest) = .frame payload rest := by
  have hmax : maxFrame = 2097151 := by decide
  rw [firstFrame, frame, readFrame, List.append_assoc, C03.readVarInt_writeVarInt _ _ (by omega) (by omega)]
  simp only
  rw [if_neg (by omega), if_neg (by omega), Int.toNat_natCast, if_pos (by rw [List.length_append]; omega),
    List.take_left', List.drop_left']
  · rfl
  · rfl

/-- in general the framing prefix is the only thing that may differ: for ANY accepted stream without rewrite,
    client = pre ++ payload ++ rest and the backend gets header? ++ minimalPrefix ++ payload ++ rest -/
theorem only_framing_prefix_changes (eqFold : Bytes → Bytes → Bool) (o : Opts) (env : Env)
    (client payload rest : Bytes) (h : Handshake) (ha : acceptHandshake client = some (payload, h, rest))
    (hn : noRewrite eqFold o env h.addr) :
    ∃ pre, client = pre ++ (payload ++ rest) ∧
      backendStream eqFold o env client =
        some ((if o.proxyProtocol then proxyHeader env.client env.backend else []) ++
              writeVarInt payload.length ++ (payload ++ rest)) := by
  obtain ⟨pre, hp, _⟩ := accepted_stream_shape client payload rest h ha
  refine ⟨pre, by rw [hp, List.append_assoc], ?_⟩
  rw [no_rewrite_payload_identical eqFold o env client payload rest h ha hn]
  simp [frame, List.append_assoc]

/-! ### rewrites change the server address only -/

/-- when a rewrite applies, the backend receives packet id 0 followed by a handshake that DECODES to the client's
    protocol version, port and next state, with the rewritten address (provided it fits a protocol string) -/
theorem rewrite_only_host (eqFold : Bytes → Bytes → Bool) (o : Opts) (env : Env) (client payload rest : Bytes)
    (h : Handshake) (ha : acceptHandshake client = some (payload, h, rest)) (addr' : Bytes)
    (hr : rewriteAddr eqFold o env h.addr = (addr', true)) (hlen : addr'.length ≤ defaultMaxStringSize * 4) :
    forwardedPayload eqFold o env payload h = writeVarInt 0 ++ encodeHandshake { h with addr := addr' } ∧
    readVarInt (forwardedPayload eqFold o env payload h) = .ok (0, encodeHandshake { h with addr := addr' }) ∧
    decodeHandshake (encodeHandshake { h with addr := addr' }) = .ok ({ h with addr := addr' }, []) := by
  have hf : forwardedPayload eqFold o env payload h = writeVarInt 0 ++ encodeHandshake { h with addr := addr' } := by
    unfold forwardedPayload; rw [hr]; simp
  obtain ⟨_, _, _, _, _, hd⟩ := acceptHandshake_inv ha
  have hrange := decoded_fields_in_range hd
  refine ⟨hf, ?_, ?_⟩
  · rw [hf]
    exact C03.readVarInt_writeVarInt 0 _ (by decide) (by decide)
  · have := decode_encode { h with addr := addr' } [] ⟨hrange.1, hlen, hrange.2.1, hrange.2.2⟩
    simpa using this

/-- virtual-host rewriting of a plain host name (no NUL, no `///`, no outer dots: cleaning leaves it as it is) that
    differs from the backend host gives exactly the backend host -/
theorem modify_plain_host (eqFold : Bytes → Bytes → Bool) (env : Env) (addr : Bytes) (hne : addr ≠ [])
    (hplain : clearVirtualHost addr = addr) (hdiff : eqFold addr env.backendHost = false)
    (hnots : isTCPShield env.backendHost = false) :
    rewriteAddr eqFold ⟨false, true, true⟩ env addr = (env.backendHost, true) := by
  unfold rewriteAddr
  simp only [hplain, hdiff, Bool.not_false, Bool.and_self, if_true, replaceAll_self addr env.backendHost hne, hnots,
    Bool.and_false, Bool.false_eq_true, if_false]

/-- … and when the cleaned host already equals the backend host (any case) nothing is rewritten -/
theorem modify_same_host_noop (eqFold : Bytes → Bytes → Bool) (o : Opts) (env : Env) (addr : Bytes)
    (hsame : eqFold (clearVirtualHost addr) env.backendHost = true) (hts : o.tcpShield = false) :
    rewriteAddr eqFold o env addr = (addr, false) :=
  rewriteAddr_of_noRewrite eqFold o env addr ⟨Or.inr hsame, Or.inl hts⟩

/-- TCPShield real-IP: host part, `///`, the client's address, `///`, the unix time, then the first forge segment
    re-wrapped in NULs if there was one -/
theorem tcpshield_shape (addr clientStr : Bytes) (now : Nat) :
    ∃ tail, tcpShieldRealIP addr clientStr now =
      beforeSep nul addr ++ tripleSlash ++ clientStr ++ tripleSlash ++ natDigits now ++ tail ∧
      (afterSep nul addr = none → tail = []) := by
  unfold tcpShieldRealIP
  cases afterSep nul addr with
  | none => exact ⟨[], by simp, fun _ => rfl⟩
  | some r => exact ⟨nul ++ beforeSep nul r ++ nul, by simp [List.append_assoc], fun h => by cases h⟩

/-- the stream starts with the header iff the route enables it (otherwise it starts with the handshake frame) -/
theorem header_iff_enabled (eqFold : Bytes → Bytes → Bool) (o : Opts) (env : Env) (client payload rest : Bytes)
    (h : Handshake) (ha : acceptHandshake client = some (payload, h, rest)) :
    (o.proxyProtocol = true → backendStream eqFold o env client =
        some (proxyHeader env.client env.backend ++ (frame (forwardedPayload eqFold o env payload h) ++ rest))) ∧
    (o.proxyProtocol = false → backendStream eqFold o env client =
        some (frame (forwardedPayload eqFold o env payload h) ++ rest)) := by
  rw [backend_stream_shape eqFold o env client payload rest h ha]
  constructor <;> intro hp <;> simp [hp, List.append_assoc]

/-- IPv4 client, IPv4 backend: a receiver parses exactly the client's address and port (and the backend's), and
    continues with the bytes after the header -/
theorem header_carries_client_address_v4 (s d rest : Bytes) (sp dp : Nat) (hs : s.length = 4) (hd : d.length = 4)
    (hsp : sp < 65536) (hdp : dp < 65536) :
    parseProxyHeader (proxyHeader ⟨.v4 s, sp⟩ ⟨.v4 d, dp⟩ ++ rest) = some (⟨.v4 s, sp⟩, ⟨.v4 d, dp⟩, rest) :=
  parse_layout [0x21, 0x11] 12 4 s d rest sp dp rfl rfl (.inl ⟨rfl, rfl⟩) hs hd hsp hdp

/-- any other pair: TCP over IPv6, IPv4 ends as v4-mapped addresses -/
theorem header_carries_client_address_v6 (src dst : Addr) (rest : Bytes)
    (hmix : ¬ (∃ s d, src.ip = .v4 s ∧ dst.ip = .v4 d)) (hs : src.ip.to16.length = 16) (hd : dst.ip.to16.length = 16)
    (hsp : src.port < 65536) (hdp : dst.port < 65536) :
    parseProxyHeader (proxyHeader src dst ++ rest) =
      some (⟨.v6 src.ip.to16, src.port⟩, ⟨.v6 dst.ip.to16, dst.port⟩, rest) := by
  have hh : proxyHeader src dst = sigV2 ++ [0x21, 0x21] ++ beBytes 2 36 ++ src.ip.to16 ++ dst.ip.to16 ++ beBytes 2 src.port ++ beBytes 2 dst.port := by
    obtain ⟨sip, sp⟩ := src
    obtain ⟨dip, dp⟩ := dst
    cases sip <;> cases dip
    · exact absurd ⟨_, _, rfl, rfl⟩ hmix
    all_goals rfl
  rw [hh]
  exact parse_layout [0x21, 0x21] 36 16 _ _ rest _ _ rfl rfl (.inr ⟨rfl, rfl⟩) hs hd hsp hdp

/-- `io.Copy` delivers the concatenation of the chunks it reads -/
theorem pipe_identity (chunks : List Bytes) : pipe chunks = chunks.flatten := by
  unfold pipe; simpa using foldl_append_flatten [] chunks

/-- however the bytes after the handshake are split between the read buffer (`emptyReadBuff`) and later reads
    (`io.Copy`), the backend receives them all, in order -/
theorem delivery_independent_of_chunking (rest buffered : Bytes) (later : List Bytes)
    (h : rest = buffered ++ later.flatten) : buffered ++ pipe later = rest := by
  rw [pipe_identity, h]

/-! ### non-vacuity -/

def hs1 : Handshake := ⟨765, [104, 46, 99], 25565, 2⟩           -- "h.c"
def pl1 : Bytes := writeVarInt 0 ++ encodeHandshake hs1
def env1 : Env := ⟨⟨.v4 [203, 0, 113, 7], 50000⟩, ⟨.v4 [127, 0, 0, 1], 25566⟩, [], [49, 50, 55, 46, 48, 46, 48, 46, 49], 1700000000⟩

example : acceptHandshake (frame pl1 ++ [1, 2, 3]) = some (pl1, hs1, [1, 2, 3]) := by decide +kernel
example : backendStream eqFoldAscii ⟨false, false, false⟩ env1 (frame pl1 ++ [1, 2, 3]) = some (frame pl1 ++ [1, 2, 3]) := by
  decide +kernel
/-- a non-minimal length prefix (0x8a 0x00 for 10) and a leading empty frame are normalised, the payload is kept -/
example : backendStream eqFoldAscii ⟨false, false, false⟩ env1 ([0] ++ [0x8a, 0x00] ++ pl1 ++ [9]) = some (frame pl1 ++ [9]) := by
  decide +kernel
/-- virtual-host rewriting: "h.c" becomes "127.0.0.1", everything else is kept -/
example : backendStream eqFoldAscii ⟨false, true, false⟩ env1 (frame pl1 ++ [9]) =
    some (frame (writeVarInt 0 ++ encodeHandshake { hs1 with addr := env1.backendHost }) ++ [9]) := by decide +kernel
/-- status intent is not forwarded -/
example : backendStream eqFoldAscii ⟨false, false, false⟩ env1 (frame (writeVarInt 0 ++ encodeHandshake { hs1 with next := 1 })) = none := by
  decide +kernel

/-! ### tie to the source -/

open Gate.Gen.C31 in
/-- `dialRoute`: header (if any) is written before the handshake; both rewrites and `update` precede `writePacket`;
    `writePacket` writes a VarInt length and then the payload; `update` writes the packet id and the encoded packet -/
theorem dialRoute_shape :
    before dialRouteCalls "dialer.DialContext" "protoutil.ProxyHeader" = true ∧
    before dialRouteCalls "header.WriteTo" "writePacket" = true ∧
    before dialRouteCalls "strings.ReplaceAll" "TCPShieldRealIP" = true ∧
    before dialRouteCalls "TCPShieldRealIP" "update" = true ∧
    before dialRouteCalls "update" "writePacket" = true ∧
    count dialRouteCalls "writePacket" = 1 ∧ count dialRouteCalls "header.WriteTo" = 1 ∧
    has dialRouteCalls "strings.EqualFold" = true ∧ has dialRouteCalls "netutil.HostStr" = true ∧
    writePacketCalls = ["len", "util.WriteVarInt", "fmt.Errorf", "return", "dst.Write", "fmt.Errorf", "return", "return"] ∧
    updateCalls = ["new", "int", "util.WriteVarInt", "h.Encode", "payload.Bytes"] := by decide +kernel

open Gate.Gen.C31 in
/-- `Forward`: dial (through `tryBackends`), then the buffered bytes, then the pipe; `emptyReadBuff` writes what
    `ReadBuffered` returned; `pipe` copies in both directions -/
theorem forward_shape :
    before forwardCalls "tryBackends" "emptyReadBuff" = true ∧ before forwardCalls "emptyReadBuff" "pipe" = true ∧
    has forwardCalls "dialRoute" = true ∧
    before emptyReadBuffCalls "buf.ReadBuffered" "dst.Write" = true ∧
    count pipeCalls "io.Copy" = 2 := by decide +kernel

open Gate.Gen.C31 in
/-- constants and helper shapes the model relies on -/
theorem helper_shape :
    maximumFrameLength = 2097151 ∧ forgeSeparator = "\x00" ∧ tcpShieldSeparator = "///" ∧
    clearVirtualHostCalls = ["strings.Split", "strings.Split", "strings.Trim", "return"] ∧
    isTCPShieldCalls = ["strings.Split", "len", "return"] ∧
    has tcpShieldCalls "strings.SplitN" = true ∧ has tcpShieldCalls "clientAddr.String" = true ∧
    has tcpShieldCalls "time.Now().Unix" = true ∧
    has proxyHeaderCalls "proxyproto.HeaderProxyFromAddrs" = true ∧
    handshakeEncodeCalls = ["util.WriteVarInt", "return", "util.WriteString", "return", "int16", "util.WriteInt16",
                            "return", "util.WriteVarInt", "return"] ∧
    handshakeDecodeCalls = ["util.ReadVarInt", "return", "util.ReadString", "return", "util.ReadInt16", "return", "int",
                            "util.ReadVarInt", "return"] := by decide +kernel

end Gate.C31.Props
