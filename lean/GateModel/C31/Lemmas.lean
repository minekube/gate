import GateModel.C31.Model
import GateModel.C03.Lemmas
/-
C31 — helper lemmas: frames, ranges of decoded fields, handshake round trip, what an accepted handshake implies,
ReplaceAll on the plain host, the layout both PROXY header forms share.
-/
namespace Gate.C31
open Gate
open Gate.C03

theorem readInt2_range {bs : Bytes} {v : Int} {r : Bytes} (h : readInt 2 bs = .ok (v, r)) :
    -(2 ^ 15 : Nat) ≤ v ∧ v < (2 ^ 15 : Nat) := by
  unfold readInt at h
  split at h
  · rename_i u r' hu
    cases h
    have := readUint_lt hu
    unfold ofU
    split <;> constructor <;> omega
  · cases h

theorem readFrame_spec (fuel : Nat) (bs payload rest : Bytes) (h : readFrame fuel bs = .frame payload rest) :
    ∃ pre, bs = pre ++ payload ++ rest ∧ pre ≠ [] ∧ 0 < payload.length ∧ payload.length ≤ maxFrame := by
  induction fuel generalizing bs with
  | zero => simp [readFrame] at h
  | succ n ih =>
    simp only [readFrame] at h
    split at h
    · cases h
    · cases h
    · rename_i len r hv
      obtain ⟨pre, hp, hne, _⟩ := readVarInt_consumes hv
      split at h
      · obtain ⟨pre2, hp2, _, h3⟩ := ih r h
        exact ⟨pre ++ pre2, by rw [hp, hp2]; simp, by simp [hne], h3⟩
      · split at h
        · cases h
        · split at h
          · rename_i hz hr hl
            cases h
            refine ⟨pre, ?_, hne, ?_, ?_⟩
            · rw [hp, List.append_assoc, List.take_append_drop]
            · rw [List.length_take]; omega
            · rw [List.length_take]; omega
          · cases h

def wfHandshake (h : Handshake) : Prop :=
  wfInt32 h.proto ∧ h.addr.length ≤ defaultMaxStringSize * 4 ∧
  (-(2 ^ 15 : Nat) ≤ h.port ∧ h.port < (2 ^ 15 : Nat)) ∧ wfInt32 h.next

theorem decode_encode (h : Handshake) (rest : Bytes) (hw : wfHandshake h) :
    decodeHandshake (encodeHandshake h ++ rest) = .ok (h, rest) := by
  obtain ⟨hp, ha, hport, hn⟩ := hw
  simp only [decodeHandshake, encodeHandshake, List.append_assoc, readVarInt_writeVarInt _ _ hp.1 hp.2,
    string_RT h.addr _ ha, readInt_rt 2 (by decide) h.port _ hport.1 hport.2, readVarInt_writeVarInt _ _ hn.1 hn.2]

/-- whatever the decoder produced has fields in range (so re-encoding it is lossless) -/
theorem decoded_fields_in_range {data : Bytes} {h : Handshake} {r : Bytes} (hd : decodeHandshake data = .ok (h, r)) :
    wfInt32 h.proto ∧ (-(2 ^ 15 : Nat) ≤ h.port ∧ h.port < (2 ^ 15 : Nat)) ∧ wfInt32 h.next := by
  unfold decodeHandshake at hd
  split at hd
  · cases hd
  · rename_i p r1 h1
    split at hd
    · cases hd
    · rename_i a r2 h2
      split at hd
      · cases hd
      · rename_i port r3 h3
        split at hd
        · cases hd
        · rename_i n r4 h4
          cases hd
          obtain ⟨_, _, _, hp⟩ := readVarInt_consumes h1
          obtain ⟨_, _, _, hn⟩ := readVarInt_consumes h4
          exact ⟨hp, readInt2_range h3, hn⟩

/-- what an accepted handshake says about the stream: its first frame holds packet id 0 and a handshake that decodes,
    with login or transfer intent -/
theorem acceptHandshake_inv {client payload rest : Bytes} {h : Handshake}
    (ha : acceptHandshake client = some (payload, h, rest)) :
    firstFrame client = .frame payload rest ∧ (h.next = 2 ∨ h.next = 3) ∧
      ∃ data r, readVarInt payload = .ok (0, data) ∧ decodeHandshake data = .ok (h, r) := by
  unfold acceptHandshake at ha
  split at ha
  · rename_i p r hf
    split at ha
    · rename_i pid data hv
      split at ha
      · rename_i hpid
        subst hpid
        split at ha
        · rename_i h' r' hd
          split at ha
          · rename_i hn
            cases ha
            exact ⟨hf, hn, data, r', hv, hd⟩
          · cases ha
        · cases ha
      · cases ha
    · cases ha
  · cases ha

theorem hasPrefix_self (s : Bytes) : hasPrefix s s = true := by
  unfold hasPrefix; exact List.isPrefixOf_iff_prefix.2 (List.prefix_refl s)

theorem replaceAll_self (old new : Bytes) (h : old ≠ []) : replaceAll old old new = new := by
  cases old with
  | nil => exact absurd rfl h
  | cons b rest =>
    unfold replaceAll
    simp only [List.length_cons, replaceAllAux, List.isEmpty_cons, hasPrefix_self,
      Bool.false_eq_true, if_false, if_true]
    simp [replaceAllAux]

theorem foldl_append_flatten (acc : Bytes) (chunks : List Bytes) :
    chunks.foldl (· ++ ·) acc = acc ++ chunks.flatten := by
  induction chunks generalizing acc with
  | nil => simp
  | cons c cs ih => simp [ih, List.append_assoc]

theorem splitN_append {n : Nat} (a b : Bytes) (h : a.length = n) : splitN n (a ++ b) = some (a, b) := by
  unfold splitN
  subst h
  simp

/-- a receiver's parse of the layout both header forms share: signature, version/family pair, length, two addresses of
    the family's width, two ports -/
theorem parse_layout (vf : Bytes) (len alen : Nat) (sa da rest : Bytes) (sp dp : Nat) (hvf : vf.length = 2)
    (halen : (if vf = [0x21, 0x11] then 4 else 16) = alen)
    (hok : (vf = [0x21, 0x11] ∧ len = 12) ∨ (vf = [0x21, 0x21] ∧ len = 36))
    (hs : sa.length = alen) (hd : da.length = alen) (hsp : sp < 65536) (hdp : dp < 65536) :
    parseProxyHeader (sigV2 ++ vf ++ beBytes 2 len ++ sa ++ da ++ beBytes 2 sp ++ beBytes 2 dp ++ rest) =
      if alen = 4 then some (⟨.v4 sa, sp⟩, ⟨.v4 da, dp⟩, rest) else some (⟨.v6 sa, sp⟩, ⟨.v6 da, dp⟩, rest) := by
  have l2 : ∀ n, (beBytes 2 n).length = 2 := fun n => beBytes_length 2 n
  have hlen : len < 65536 := by omega
  simp only [parseProxyHeader, List.append_assoc, splitN_append (n := 12) sigV2 _ rfl, if_true, splitN_append vf _ hvf,
    splitN_append (beBytes 2 len) _ (l2 _), beNat_beBytes 2 len (by omega), halen, if_pos hok, splitN_append sa _ hs,
    splitN_append da _ hd, splitN_append (beBytes 2 sp) _ (l2 _), splitN_append (beBytes 2 dp) _ (l2 _),
    beNat_beBytes 2 sp (by omega), beNat_beBytes 2 dp (by omega)]

end Gate.C31
