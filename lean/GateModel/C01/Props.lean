import GateModel.C01.Lemmas
import GateModel.C01.Pool
import GateModel.C01.BufLife
/-
C01 — Packet frames survive compression, encryption and arbitrary stream chunking.

Theorems about the model of codec.Encoder / codec.Decoder / CFB8 (Model.lean):
  * `stream_roundtrip`   every sequence of (non-empty, transportable) payloads written is read back
                         as exactly the same payloads in the same order, for EVERY threshold
                         (disabled, 0, positive) and any deflate `D` whose inflate `Z` inverts it;
  * `wire_roundtrip`     the same through CFB8 encryption/decryption under ANY block function and IV;
  * `switch_roundtrip`   the same with encryption switched on in mid-stream (the login flow);
  * `cfb8_*_append`      encrypting/decrypting a stream in pieces (any split) equals doing it at once;
  * `chunking_invariant` `io.ReadFull` over any chunking of the byte stream returns the same bytes
                         and leaves the same remainder as on the unsplit stream;
  * `pooled_write_integrity`, `pool_history_integrity`  encoders sharing the buffer pools write their own frame body,
                         under every interleaving and across the pools' self-calibration (each with the defective
                         variant that fails);
  * empty payloads: skipped by the reader (`empty_payload_skipped`), except the two recorded findings
    (`empty_payload_threshold0_fails`, `twelve_empty_frames_fail`).
-/
namespace Gate.C01.Props
open Gate Gate.C01 Gate.C03

/-- Every payload sequence written by the encoder is read back identically, then a clean end of
    stream — for every threshold and any zlib pair with `Z (D p) = some p`. -/
theorem stream_roundtrip (cfg : Cfg) (D : Bytes → Bytes) (Z : Bytes → Option Bytes)
    (ps : List Bytes) (hall : ∀ p ∈ ps, Fits cfg D Z p) (fuel : Nat) (hf : ps.length < fuel) :
    decodeAll cfg Z fuel (encodeAll cfg.threshold D ps) = (ps, none) :=
  decodeAll_encodeAll cfg D Z ps hall fuel hf

/-- single frame, with arbitrary following bytes left untouched -/
theorem frame_roundtrip (cfg : Cfg) (D : Bytes → Bytes) (Z : Bytes → Option Bytes) (p rest : Bytes)
    (h : Fits cfg D Z p) : readPayload cfg Z (encodeFrame cfg.threshold D p ++ rest) = .ok (p, rest) :=
  readPayload_encodeFrame h rest

/-- CFB8 decryption inverts encryption for an arbitrary block function and any starting register. -/
theorem cfb8_roundtrip (E : Bytes → Bytes) (iv bs : Bytes) : cfb8Dec E iv (cfb8Enc E iv bs) = bs := by
  induction bs generalizing iv with
  | nil => rfl
  | cons p ps ih => simp only [cfb8Enc, cfb8Dec, xor_cancel, ih]

/-- writing in pieces: the cipher state carried across `Write` calls makes any split equivalent -/
theorem cfb8_enc_append (E : Bytes → Bytes) (reg a b : Bytes) :
    cfb8Enc E reg (a ++ b) = cfb8Enc E reg a ++ cfb8Enc E (regAfter reg (cfb8Enc E reg a)) b := by
  induction a generalizing reg with
  | nil => rfl
  | cons p ps ih => simp only [List.cons_append, cfb8Enc, regAfter, List.foldl_cons, ih]
/-- reading in pieces likewise -/
theorem cfb8_dec_append (E : Bytes → Bytes) (reg a b : Bytes) :
    cfb8Dec E reg (a ++ b) = cfb8Dec E reg a ++ cfb8Dec E (regAfter reg a) b := by
  induction a generalizing reg with
  | nil => rfl
  | cons p ps ih => simp only [List.cons_append, cfb8Dec, regAfter, List.foldl_cons, ih]

/-- compression + encryption + framing end to end -/
theorem wire_roundtrip (cfg : Cfg) (D : Bytes → Bytes) (Z : Bytes → Option Bytes) (E : Bytes → Bytes) (iv : Bytes)
    (ps : List Bytes) (hall : ∀ p ∈ ps, Fits cfg D Z p) (fuel : Nat) (hf : ps.length < fuel) :
    decodeAll cfg Z fuel (cfb8Dec E iv (cfb8Enc E iv (encodeAll cfg.threshold D ps))) = (ps, none) := by
  rw [cfb8_roundtrip]; exact stream_roundtrip cfg D Z ps hall fuel hf

/-- Encryption switched on in mid-stream (the login flow): `ps1` written in the clear, then the writer enables
    encryption and writes `ps2`; the reader reads `|ps1|` packets, enables encryption, and reads on.  All payloads
    come back, whatever part of the ciphertext had already been pulled into the read buffer — because the
    decrypting reader wraps the buffer, not the socket. -/
theorem switch_roundtrip (cfg : Cfg) (D : Bytes → Bytes) (Z : Bytes → Option Bytes) (E : Bytes → Bytes) (iv : Bytes)
    (ps1 ps2 : List Bytes) (h1 : ∀ p ∈ ps1, Fits cfg D Z p) (h2 : ∀ p ∈ ps2, Fits cfg D Z p)
    (fuel : Nat) (hf : ps2.length < fuel) :
    decodeSwitch cfg Z E iv ps1.length fuel
        (encodeAll cfg.threshold D ps1 ++ cfb8Enc E iv (encodeAll cfg.threshold D ps2))
      = (ps1 ++ ps2, none) := by
  simp only [decodeSwitch, readPackets_encodeAll cfg D Z ps1 _ h1, cfb8_roundtrip,
    stream_roundtrip cfg D Z ps2 h2 fuel hf]

/-- `io.ReadFull` on a stream delivered in arbitrary chunks: same bytes, same remainder, and it fails
    exactly when the whole stream is too short. -/
theorem chunking_invariant (n : Nat) (cs : Chunks) :
    (∀ b rest, readFullChunks n cs = some (b, rest) →
        readFull n cs.flatten = .ok (b, rest.flatten)) ∧
    (readFullChunks n cs = none → readFull n cs.flatten = .error .eof) := by
  have hspec := readFullChunks_spec n cs
  constructor
  · intro b rest h
    rw [h] at hspec
    obtain ⟨hn, hb, hr⟩ := hspec
    rw [readFull, if_pos hn, hb, hr]
  · intro h
    rw [h] at hspec
    rw [readFull, if_neg (by omega)]

/-- an empty payload is written as a frame the reader skips (threshold ≠ 0) -/
theorem empty_payload_skipped (cfg : Cfg) (D : Bytes → Bytes) (Z : Bytes → Option Bytes) (rest : Bytes)
    (h : cfg.threshold ≠ 0) :
    readPayload cfg Z (encodeFrame cfg.threshold D [] ++ rest) = .ok ([], rest) := by
  rw [encodeFrame_eq, List.append_assoc, readPayload]
  by_cases h1 : cfg.threshold < 0
  · rw [envelope, if_pos h1]
    rfl
  · have h2 : (([] : Bytes).length : Int) < cfg.threshold := by
      simp only [List.length_nil, Int.natCast_zero]; omega
    rw [envelope, if_neg h1, if_pos h2, readVarIntFrame_frame [0] rest (by decide)]
    simp only [List.isEmpty_cons, Bool.false_eq_true, if_false, if_neg h1, openEnvelope_zero,
      if_neg (show ¬ (([] : Bytes).length : Int) > cfg.threshold by omega)]

/-- Shared buffer pools: with any number of encoders running concurrently and sharing the process-wide pools,
    under EVERY interleaving of their atomic steps, each encoder writes exactly its own frame body. -/
theorem pooled_write_integrity (content : Nat → Bytes) (sched : List Nat) :
    ∀ p ∈ (Pool.run content sched).out, p.2 = content p.1 :=
  (Pool.inv_run content sched).out_own

/-- …and this depends on giving the buffer back only AFTER the write: with release-before-write, thread 0's
    frame is overwritten by thread 1's before it reaches thread 0's connection. -/
theorem pooled_write_defective_fails :
    (Pool.runDefective (fun t => if t = 0 then [1, 1] else [2, 2]) [0, 0, 0, 1, 1, 0]).out = [(0, [2, 2])] := by
  rfl

/-- The pools over their whole HISTORY, self-calibration included (after `K` Puts fresh buffers are pre-sized and
    large buffers are no longer recycled): as long as a fresh buffer has length 0 — `make([]byte, 0, n)` —
    every use, before and after any number of calibrations and whatever is dropped or recycled, writes exactly
    its own frame body.  `K`, the calibrated size and the capacities are arbitrary. -/
theorem pool_history_integrity (K size : Nat) (uses : List (Bytes × Nat)) :
    BufLife.history (fun _ => []) K size BufLife.init uses = uses.map (·.1) :=
  BufLife.history_writes_contents (fun _ => []) (fun _ => rfl) K size BufLife.init BufLife.clean_init uses

/-- …and this depends on the LENGTH of a fresh buffer being 0: with `make([]byte, n)` (length = the calibrated
    size) the first use after calibration that misses the pool writes `n` zero bytes in front of its frame.
    Witness with K = 2, size 4: the buffer of the third use is dropped (capacity 9 > 4), the fourth misses. -/
theorem pool_presized_length_fails :
    BufLife.history (fun n => List.replicate n 0) 2 4 BufLife.init [([1], 1), ([2], 1), ([3], 9), ([4], 1)]
      = [[1], [2], [3], [0, 0, 0, 0, 4]] := by decide +kernel

open Gate.Gen.C01 in
/-- tie: the calibration threshold is the source's, and `Put` resets a buffer before pooling it -/
theorem src_pool_put_resets_before_pooling :
    calibrateCallsThreshold = 42000 ∧
    poolPutCalls.idxOf "b.Reset" < poolPutCalls.idxOf "p.pool.Put" ∧ "b.Reset" ∈ poolPutCalls := by decide +kernel

/-! ### recorded findings (the unchanged code does this; see findings/C01.json) -/

/-- FINDING `empty-payload-threshold0`: with threshold 0 an empty payload takes the compressed branch
    (`0 < 0` is false), is written with data-length 0, and the reader takes the zlib body for an
    uncompressed packet larger than the threshold: the connection errors instead of skipping. -/
theorem empty_payload_threshold0_fails :
    readPayload ⟨0, true⟩ (fun _ => some []) (encodeFrame 0 (fun _ => [120, 156, 3, 0, 0, 0, 0, 1]) [] ++ [])
      = .error .overThreshold := by rfl

/-- FINDING `many-empty-payloads`: twelve empty frames in a row make `readPacket` fail even though a
    valid frame follows (gate-specific cap of 11 skipped frames). -/
theorem twelve_empty_frames_fail :
    readPacket ⟨-1, true⟩ (fun _ => none) 20 0 (List.replicate 12 0 ++ [1, 7]) = .error .tooManyEmpty := by rfl
theorem eleven_empty_frames_ok :
    readPacket ⟨-1, true⟩ (fun _ => none) 20 0 (List.replicate 11 0 ++ [1, 7]) = .ok ([7], []) := by rfl

/-! ### tie to the source (facts regenerated by tools/gofacts) -/

open Gate.Gen.C01 in
/-- `reader.EnableEncryption` builds the decrypting reader and installs it with `SetReader` (and nothing else:
    in particular it creates no new buffered reader on the raw connection) -/
theorem src_enable_encryption_shape :
    readerEnableEncryptionCalls = ["codec.NewDecryptReader", "return", "r.Decoder.SetReader", "return"] ∧
    writerEnableEncryptionCalls = ["codec.NewEncryptWriter", "return", "w.Encoder.SetWriter", "return"] :=
  ⟨rfl, rfl⟩

open Gate.Gen.C01 in
/-- every `Read` issued by the decoder is an `io.ReadFull`: the decoder's reader is always wrapped in
    `fullReader` (constructor and `SetReader`), whose `Read` calls `io.ReadFull`. -/
theorem src_decoder_reads_are_full :
    "io.ReadFull" ∈ fullReaderReadCalls ∧ "fullReader" ∈ newDecoderLits ∧ "fullReader" ∈ setReaderLits := by
  simp [fullReaderReadCalls, newDecoderLits, setReaderLits]

open Gate.Gen.C01 in
/-- `writeCompressed` takes its pooled buffer and writes it out inside one function, giving it back only on
    return (`defer release()`): the order the pool theorem needs. -/
theorem src_pool_release_after_write :
    writeCompressedCalls.idxOf "compressPool.getBuf" < writeCompressedCalls.idxOf "compressed.WriteTo" ∧
    "compressed.WriteTo" ∈ writeCompressedCalls ∧ "defer:release" ∈ writeCompressedCalls ∧
    "release" ∉ writeCompressedCalls := by decide +kernel

theorem src_caps : maxFrame = 2 ^ 21 - 1 ∧ capServerBound = 2 * 1024 * 1024 ∧ capClientBound = 8 * 1024 * 1024 :=
  ⟨maxFrame_eq, by decide, by decide⟩

example : Fits ⟨-1, true⟩ id some [1, 2, 3] :=
  ⟨by simp, rfl, by decide, by decide⟩
example : Fits ⟨2, false⟩ (fun p => 9 :: p) (fun b => some (b.drop 1)) [1, 2, 3] :=
  ⟨by simp, rfl, by decide, by decide⟩
example : decodeAll ⟨-1, true⟩ some 3 (encodeAll (-1) id [[1], [2, 3]]) = ([[1], [2, 3]], none) :=
  stream_roundtrip ⟨-1, true⟩ id some [[1], [2, 3]] (by
    intro p hp; simp at hp; rcases hp with rfl | rfl <;> exact ⟨by simp, rfl, by decide, by decide⟩) 3 (by simp)

end Gate.C01.Props
