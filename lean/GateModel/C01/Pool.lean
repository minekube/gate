import GateModel.Base.Bytes
/-
C01/C15 — the codec's shared buffer pools (`encodePool`, `compressPool`) under concurrent encoders.

Every encoder takes a buffer from a process-wide pool, fills it with its own frame body, writes it to
its own connection and only then gives it back (`defer release()`).  Threads = encoders (any number),
steps = the four atomic actions; the theorem quantifies over EVERY interleaving: what an encoder writes
is its own content, whatever the others do.  The defective order (release before the write — what a
"return compressed.Bytes()" refactor produces) has a two-thread witness.
-/
namespace Gate.C01.Pool
open Gate

structure St where
  bufs : Nat → Bytes          -- contents of pooled buffers, by index
  free : List Nat             -- buffers currently in the pool
  next : Nat                  -- next fresh buffer index (pool miss ⇒ allocate)
  holds : Nat → Option Nat    -- which buffer a thread holds
  pc : Nat → Nat              -- 0 acquire, 1 fill, 2/3 the two remaining actions, ≥ 4 done
  out : List (Nat × Bytes)    -- (thread, bytes it wrote to its connection)

def init : St := ⟨fun _ => [], [], 0, fun _ => none, fun _ => 0, []⟩

def upd {α} (f : Nat → α) (i : Nat) (v : α) : Nat → α := fun j => if j = i then v else f j

/-- the repaired / original order: acquire, fill, WRITE, release -/
def step (content : Nat → Bytes) (s : St) (t : Nat) : St :=
  match s.pc t with
  | 0 => match s.free with
    | b :: f => { s with free := f, holds := upd s.holds t (some b), pc := upd s.pc t 1 }
    | [] => { s with next := s.next + 1, holds := upd s.holds t (some s.next), pc := upd s.pc t 1 }
  | 1 => match s.holds t with
    | some b => { s with bufs := upd s.bufs b (content t), pc := upd s.pc t 2 }
    | none => s
  | 2 => match s.holds t with
    | some b => { s with out := s.out ++ [(t, s.bufs b)], pc := upd s.pc t 3 }
    | none => s
  | 3 => match s.holds t with
    | some b => { s with free := b :: s.free, holds := upd s.holds t none, pc := upd s.pc t 4 }
    | none => s
  | _ => s

/-- the defective order: acquire, fill, RELEASE, write (the write reads a buffer it no longer owns) -/
def stepDefective (content : Nat → Bytes) (s : St) (t : Nat) : St :=
  match s.pc t with
  | 0 => match s.free with
    | b :: f => { s with free := f, holds := upd s.holds t (some b), pc := upd s.pc t 1 }
    | [] => { s with next := s.next + 1, holds := upd s.holds t (some s.next), pc := upd s.pc t 1 }
  | 1 => match s.holds t with
    | some b => { s with bufs := upd s.bufs b (content t), pc := upd s.pc t 2 }
    | none => s
  | 2 => match s.holds t with       -- release first, but remember which buffer the slice points into
    | some b => { s with free := b :: s.free, pc := upd s.pc t 3 }
    | none => s
  | 3 => match s.holds t with
    | some b => { s with out := s.out ++ [(t, s.bufs b)], holds := upd s.holds t none, pc := upd s.pc t 4 }
    | none => s
  | _ => s

def run (content : Nat → Bytes) (sched : List Nat) : St := sched.foldl (step content) init
def runDefective (content : Nat → Bytes) (sched : List Nat) : St := sched.foldl (stepDefective content) init

structure Inv (content : Nat → Bytes) (s : St) : Prop where
  held_fresh : ∀ t b, s.holds t = some b → b < s.next ∧ b ∉ s.free
  held_excl : ∀ t1 t2 b, s.holds t1 = some b → s.holds t2 = some b → t1 = t2
  pc_holds : ∀ t, (s.pc t = 1 ∨ s.pc t = 2 ∨ s.pc t = 3) → ∃ b, s.holds t = some b
  pc_none : ∀ t, (s.pc t = 0 ∨ 4 ≤ s.pc t) → s.holds t = none
  filled : ∀ t b, (s.pc t = 2 ∨ s.pc t = 3) → s.holds t = some b → s.bufs b = content t
  free_lt : ∀ b ∈ s.free, b < s.next
  free_nodup : s.free.Nodup
  out_own : ∀ p ∈ s.out, p.2 = content p.1

theorem inv_init (content : Nat → Bytes) : Inv content init :=
  ⟨by simp [init], by simp [init], by simp [init], by simp [init], by simp [init], by simp [init],
   by simp [init], by simp [init]⟩

@[simp] theorem upd_same {α} (f : Nat → α) (i : Nat) (v : α) : upd f i v i = v := if_pos rfl
theorem upd_other {α} (f : Nat → α) (i j : Nat) (v : α) (h : j ≠ i) : upd f i v j = f j := if_neg h
theorem upd_eq_self {α} {f : Nat → α} {i : Nat} {v : α} (h : f i = v) : upd f i v = f := by
  funext j
  by_cases hj : j = i
  · rw [hj, upd_same, h]
  · exact upd_other f i j v hj

/-- Every action has this shape: thread `t` moves to program counter `v` holding `o`, and the shared data
    change.  The hypotheses are what the action has to guarantee for `t` (a buffer it holds is allocated, out of
    the pool and held by nobody else; from the fill on it has `t`'s content) and for the other threads (their
    buffers stay out of the pool and keep their contents). -/
theorem inv_update {content : Nat → Bytes} {s : St} (h : Inv content s) (t v : Nat) (o : Option Nat)
    {bufs' : Nat → Bytes} {free' : List Nat} {next' : Nat} {holds' : Nat → Option Nat} {pc' : Nat → Nat}
    {out' : List (Nat × Bytes)} (hholds : holds' = upd s.holds t o) (hpc : pc' = upd s.pc t v)
    (hsome : (v = 1 ∨ v = 2 ∨ v = 3) → ∃ b, o = some b) (hnone : (v = 0 ∨ 4 ≤ v) → o = none)
    (hown : ∀ b, o = some b → (b < next' ∧ b ∉ free') ∧ ∀ t', t' ≠ t → s.holds t' ≠ some b)
    (hfilled : ∀ b, (v = 2 ∨ v = 3) → o = some b → bufs' b = content t)
    (hothers : ∀ t' b, t' ≠ t → s.holds t' = some b →
      (b < next' ∧ b ∉ free') ∧ ((s.pc t' = 2 ∨ s.pc t' = 3) → bufs' b = content t'))
    (hlt : ∀ b ∈ free', b < next') (hnodup : free'.Nodup) (hout : ∀ p ∈ out', p.2 = content p.1) :
    Inv content ⟨bufs', free', next', holds', pc', out'⟩ := by
  subst hholds hpc
  refine ⟨?_, ?_, ?_, ?_, ?_, hlt, hnodup, hout⟩
  · intro t' b (hh : upd s.holds t o t' = some b)
    by_cases ht : t' = t
    · rw [ht, upd_same] at hh
      exact (hown b hh).1
    · rw [upd_other _ _ _ _ ht] at hh
      exact (hothers t' b ht hh).1
  · intro t1 t2 b (h1 : upd s.holds t o t1 = some b) (h2 : upd s.holds t o t2 = some b)
    by_cases e1 : t1 = t <;> by_cases e2 : t2 = t
    · rw [e1, e2]
    · rw [e1, upd_same] at h1
      rw [upd_other _ _ _ _ e2] at h2
      exact absurd h2 ((hown b h1).2 t2 e2)
    · rw [e2, upd_same] at h2
      rw [upd_other _ _ _ _ e1] at h1
      exact absurd h1 ((hown b h2).2 t1 e1)
    · rw [upd_other _ _ _ _ e1] at h1
      rw [upd_other _ _ _ _ e2] at h2
      exact h.held_excl t1 t2 b h1 h2
  · intro t' (hp : upd s.pc t v t' = 1 ∨ upd s.pc t v t' = 2 ∨ upd s.pc t v t' = 3)
    show ∃ b, upd s.holds t o t' = some b
    by_cases ht : t' = t
    · rw [ht, upd_same] at hp ⊢
      exact hsome hp
    · rw [upd_other _ _ _ _ ht] at hp ⊢
      exact h.pc_holds t' hp
  · intro t' (hp : upd s.pc t v t' = 0 ∨ 4 ≤ upd s.pc t v t')
    show upd s.holds t o t' = none
    by_cases ht : t' = t
    · rw [ht, upd_same] at hp ⊢
      exact hnone hp
    · rw [upd_other _ _ _ _ ht] at hp ⊢
      exact h.pc_none t' hp
  · intro t' b (hp : upd s.pc t v t' = 2 ∨ upd s.pc t v t' = 3) (hh : upd s.holds t o t' = some b)
    by_cases ht : t' = t
    · rw [ht, upd_same] at hp hh
      rw [ht]
      exact hfilled b hp hh
    · rw [upd_other _ _ _ _ ht] at hp hh
      exact (hothers t' b ht hh).2 hp

theorem inv_step (content : Nat → Bytes) (s : St) (t : Nat) (h : Inv content s) : Inv content (step content s t) := by
  unfold step
  split
  · -- acquire: a pooled buffer is held by nobody, a new one has an index nobody has seen
    split
    · rename_i b f hf
      have hnd : (b :: f).Nodup := hf ▸ h.free_nodup
      have hbfree : b ∈ s.free := hf ▸ List.mem_cons_self ..
      refine inv_update h t 1 (some b) rfl rfl (fun _ => ⟨b, rfl⟩) (fun hv => by omega) ?_ (fun _ hv => by omega) ?_
        (fun x hx => h.free_lt x (hf ▸ List.mem_cons_of_mem _ hx)) (List.nodup_cons.mp hnd).2 h.out_own
      · intro b' hb'
        cases hb'
        exact ⟨⟨h.free_lt b hbfree, (List.nodup_cons.mp hnd).1⟩, fun t' _ hh => (h.held_fresh t' b hh).2 hbfree⟩
      · intro t' b' _ hh
        exact ⟨⟨(h.held_fresh t' b' hh).1, fun hc => (h.held_fresh t' b' hh).2 (hf ▸ List.mem_cons_of_mem _ hc)⟩,
          fun hp => h.filled t' b' hp hh⟩
    · rename_i hf
      refine inv_update h t 1 (some s.next) rfl rfl (fun _ => ⟨_, rfl⟩) (fun hv => by omega) ?_ (fun _ hv => by omega) ?_
        (fun x hx => Nat.lt_succ_of_lt (h.free_lt x hx)) h.free_nodup h.out_own
      · intro b' hb'
        cases hb'
        exact ⟨⟨Nat.lt_succ_self _, fun hx => nomatch hf ▸ hx⟩, fun t' _ hh => Nat.lt_irrefl _ (h.held_fresh t' _ hh).1⟩
      · intro t' b' _ hh
        exact ⟨⟨Nat.lt_succ_of_lt (h.held_fresh t' b' hh).1, (h.held_fresh t' b' hh).2⟩, fun hp => h.filled t' b' hp hh⟩
  · -- fill: the other threads hold other buffers
    split
    · rename_i b hb
      refine inv_update h t 2 (some b) (upd_eq_self hb).symm rfl (fun _ => ⟨b, rfl⟩) (fun hv => by omega) ?_ ?_ ?_
        h.free_lt h.free_nodup h.out_own
      · intro b' hb'
        cases hb'
        exact ⟨h.held_fresh t b hb, fun t' ht hh => ht (h.held_excl t' t b hh hb)⟩
      · intro b' _ hb'
        cases hb'
        exact upd_same ..
      · intro t' b' ht hh
        refine ⟨h.held_fresh t' b' hh, fun hp => ?_⟩
        rw [upd_other _ _ _ _ (fun (hc : b' = b) => ht (h.held_excl t' t b' hh (hc ▸ hb)))]
        exact h.filled t' b' hp hh
    · exact h
  · -- write: what goes out is the buffer filled with this thread's content
    rename_i hpc
    split
    · rename_i b hb
      refine inv_update h t 3 (some b) (upd_eq_self hb).symm rfl (fun _ => ⟨b, rfl⟩) (fun hv => by omega) ?_ ?_ ?_
        h.free_lt h.free_nodup ?_
      · intro b' hb'
        cases hb'
        exact ⟨h.held_fresh t b hb, fun t' ht hh => ht (h.held_excl t' t b hh hb)⟩
      · intro b' _ hb'
        cases hb'
        exact h.filled t b (Or.inl hpc) hb
      · intro t' b' _ hh
        exact ⟨h.held_fresh t' b' hh, fun hp => h.filled t' b' hp hh⟩
      · intro p hp
        rcases List.mem_append.mp hp with hp | hp
        · exact h.out_own p hp
        · cases List.mem_singleton.mp hp
          exact h.filled t b (Or.inl hpc) hb
    · exact h
  · -- release: the buffer goes back to the pool only now, and nobody else holds it
    split
    · rename_i b hb
      obtain ⟨hblt, hbnf⟩ := h.held_fresh t b hb
      refine inv_update h t 4 none rfl rfl (fun hv => by omega) (fun _ => rfl) (fun _ hx => nomatch hx)
        (fun _ hv => by omega) ?_ ?_ (List.nodup_cons.mpr ⟨hbnf, h.free_nodup⟩) h.out_own
      · intro t' b' ht hh
        refine ⟨⟨(h.held_fresh t' b' hh).1, fun hc => ?_⟩, fun hp => h.filled t' b' hp hh⟩
        rcases List.mem_cons.mp hc with hc | hc
        · exact ht (h.held_excl t' t b' hh (hc ▸ hb))
        · exact (h.held_fresh t' b' hh).2 hc
      · intro b' hb'
        rcases List.mem_cons.mp hb' with hb' | hb'
        · exact hb' ▸ hblt
        · exact h.free_lt b' hb'
    · exact h
  · exact h

theorem inv_run (content : Nat → Bytes) (sched : List Nat) : Inv content (run content sched) := by
  unfold run
  have : ∀ s, Inv content s → Inv content (sched.foldl (step content) s) := by
    induction sched with
    | nil => intro s hs; exact hs
    | cons t ts ih => intro s hs; exact ih _ (inv_step content s t hs)
  exact this init (inv_init content)

end Gate.C01.Pool
