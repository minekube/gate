import GateModel.C03.Model
import GateModel.Base.BytesLemmas
/-
C03 — helper lemmas the property theorems and the other codecs build on: readers return what their writers wrote (`RT`)
and reject each strict prefix of it (`PFX`); a strict prefix of a two-part encoding is handled once, by `rd_take_append`.
-/
namespace Gate.C03
open Gate

/-- round trip, consuming exactly the bytes written -/
def RT {α} (enc : α → Bytes) (dec : Bytes → Rd α) (wf : α → Prop) : Prop :=
  ∀ v rest, wf v → dec (enc v ++ rest) = .ok (v, rest)

/-- every strict prefix of an encoding is rejected -/
def PFX {α} (enc : α → Bytes) (dec : Bytes → Rd α) (wf : α → Prop) : Prop :=
  ∀ v k, wf v → k < (enc v).length → ∃ e, dec ((enc v).take k) = .error e

theorem u8_toNat_ofNat (x : Nat) : (UInt8.ofNat x).toNat = x % 256 := by
  simp [UInt8.toNat_ofNat']

/-- a 7-bit group without the continuation bit ends the loop -/
theorem readVarLoop_low (f i acc x : Nat) (rest : Bytes) (hi : i < 5) (hx : x < 128) :
    readVarLoop (f + 1) i acc (UInt8.ofNat x :: rest) = .ok ((acc + x * 2 ^ (7 * i)) % 2 ^ 32, rest) := by
  have hb : (UInt8.ofNat x).toNat = x := by rw [u8_toNat_ofNat]; omega
  simp only [readVarLoop, hb, ge_iff_le, Nat.not_le.2 hi, hx, Nat.mod_eq_of_lt hx, if_true, if_false]

/-- a 7-bit group with the continuation bit is added and the loop goes on -/
theorem readVarLoop_high (f i acc x : Nat) (rest : Bytes) (hi : i < 5) (hx : x < 128) :
    readVarLoop (f + 1) i acc (UInt8.ofNat (x + 128) :: rest) =
      readVarLoop f (i + 1) ((acc + x * 2 ^ (7 * i)) % 2 ^ 32) rest := by
  have hb : (UInt8.ofNat (x + 128)).toNat = x + 128 := by rw [u8_toNat_ofNat]; omega
  simp only [readVarLoop, hb, ge_iff_le, Nat.not_le.2 hi, Nat.not_lt.2 (Nat.le_add_left 128 x),
    Nat.add_mod_right, Nat.mod_eq_of_lt hx, if_false]

/-- the low group at weight `w` and the remaining groups at weight `128 * w` make up `u` at weight `w` -/
theorem low_add_high (u w : Nat) : u % 128 * w + u / 128 * (128 * w) = u * w := by
  rw [← Nat.mul_assoc, ← Nat.add_mul, Nat.mul_comm (u / 128), Nat.mod_add_div]

/-- reading what `writeVarU` wrote, started in the middle of the loop: group `i` has weight `2 ^ (7 * i)`,
    and nothing is lost to the `uint32` truncation because the total stays below `2 ^ 32` -/
theorem readVarLoop_writeVarU (fuel i acc u : Nat) (rest : Bytes)
    (hi : i + fuel = 4) (hu : acc + u * 2 ^ (7 * i) < 2 ^ 32) :
    readVarLoop (fuel + 2) i acc (writeVarU fuel u ++ rest) = .ok (acc + u * 2 ^ (7 * i), rest) := by
  induction fuel generalizing i acc u with
  | zero =>
    subst hi
    have h7 : u < 128 := by omega
    rw [writeVarU, Nat.mod_eq_of_lt h7, List.singleton_append, readVarLoop_low _ _ _ _ _ (by omega) h7,
      Nat.mod_eq_of_lt hu]
  | succ f ih =>
    unfold writeVarU
    split
    · rename_i h7
      rw [List.singleton_append, readVarLoop_low _ _ _ _ _ (by omega) h7, Nat.mod_eq_of_lt hu]
    · have hw : 2 ^ (7 * (i + 1)) = 128 * 2 ^ (7 * i) := by rw [Nat.mul_succ, Nat.pow_add, Nat.mul_comm]
      have hs := low_add_high u (2 ^ (7 * i))
      rw [List.cons_append, readVarLoop_high _ _ _ _ _ (by omega) (Nat.mod_lt u (by omega)),
        Nat.mod_eq_of_lt (by omega), ih _ _ _ (by omega) (by rw [hw]; omega), hw, Nat.add_assoc, hs]

theorem emod_nonneg_small (v M : Int) (h0 : 0 ≤ v) (h1 : v < M) : v % M = v :=
  Int.emod_eq_of_lt h0 h1

theorem emod_neg_small (v M : Int) (h0 : -M ≤ v) (h1 : v < 0) : v % M = v + M := by
  have : (v + M) % M = v % M := Int.add_emod_right v M
  rw [← this]
  exact Int.emod_eq_of_lt (by omega) (by omega)

theorem ofU_toU (bits : Nat) (hb : 0 < bits) (v : Int)
    (h1 : -(2 ^ (bits - 1) : Nat) ≤ v) (h2 : v < (2 ^ (bits - 1) : Nat)) : ofU bits (toU bits v) = v := by
  have hp : (2 ^ bits : Nat) = 2 ^ (bits - 1) + 2 ^ (bits - 1) := by
    rw [← Nat.mul_two, ← Nat.pow_succ, Nat.succ_eq_add_one, Nat.sub_add_cancel hb]
  rw [ofU, toU, hp]
  generalize 2 ^ (bits - 1) = P at *
  by_cases hv : 0 ≤ v
  · rw [emod_nonneg_small v _ hv (by omega), if_pos (by omega), Int.toNat_of_nonneg hv]
  · rw [emod_neg_small v _ (by omega) (by omega), if_neg (by omega)]
    omega

theorem toU_lt (bits : Nat) (v : Int) : toU bits v < 2 ^ bits := by
  unfold toU
  have : 0 < (2 ^ bits : Nat) := Nat.pow_pos (by omega)
  omega

theorem readVarInt_writeVarInt (v : Int) (rest : Bytes)
    (h1 : -(2 ^ 31 : Nat) ≤ v) (h2 : v < (2 ^ 31 : Nat)) :
    readVarInt (writeVarInt v ++ rest) = .ok (v, rest) := by
  unfold readVarInt writeVarInt
  have hlt := toU_lt 32 v
  rw [readVarLoop_writeVarU 4 0 0 (toU 32 v) rest (by omega) (by simpa using hlt)]
  simp only [Nat.mul_zero, Nat.pow_zero, Nat.mul_one, Nat.zero_add]
  rw [ofU_toU 32 (by omega) v h1 h2]

/-- a strict prefix of `writeVarU` consists of continuation bytes only -/
theorem writeVarU_take_cont (fuel u k : Nat) (hk : k < (writeVarU fuel u).length) :
    ∀ b ∈ (writeVarU fuel u).take k, 128 ≤ b.toNat := by
  induction fuel generalizing u k with
  | zero => simp [writeVarU] at hk; subst hk; simp
  | succ f ih =>
    unfold writeVarU at hk ⊢
    split
    · rename_i h; simp [h] at hk; subst hk; simp
    · rename_i h
      simp only [h, if_false, List.length_cons] at hk
      cases k with
      | zero => simp
      | succ k =>
        simp only [List.take_succ_cons, List.mem_cons]
        intro b hb
        rcases hb with rfl | hb
        · rw [u8_toNat_ofNat]; omega
        · exact ih (u / 128) k (by omega) b hb

theorem writeVarU_length_le (fuel u : Nat) : (writeVarU fuel u).length ≤ fuel + 1 := by
  induction fuel generalizing u with
  | zero => simp [writeVarU]
  | succ f ih => unfold writeVarU; split <;> simp; exact ih _

theorem readVarLoop_cont (fuel i acc : Nat) (pre : Bytes) (hall : ∀ b ∈ pre, 128 ≤ b.toNat)
    (hlen : i + pre.length ≤ 5) (hf : pre.length < fuel) :
    readVarLoop fuel i acc pre = .error .eof := by
  induction pre generalizing fuel i acc with
  | nil => cases fuel with
    | zero => omega
    | succ f => simp [readVarLoop]
  | cons b t ih =>
    rw [List.length_cons] at hlen hf
    cases fuel with
    | zero => omega
    | succ f =>
      have hb := hall b (List.mem_cons_self ..)
      simp only [readVarLoop]
      rw [if_neg (by omega), if_neg (by omega)]
      exact ih f (i + 1) _ (fun x hx => hall x (List.mem_cons_of_mem _ hx)) (by omega) (by omega)

theorem readVarInt_prefix (v : Int) (k : Nat) (hk : k < (writeVarInt v).length) :
    ∃ e, readVarInt ((writeVarInt v).take k) = .error e := by
  unfold readVarInt writeVarInt at *
  have hl := writeVarU_length_le 4 (toU 32 v)
  rw [readVarLoop_cont 6 0 0 _ (writeVarU_take_cont 4 _ k hk) (by simp; omega) (by simp; omega)]
  exact ⟨_, rfl⟩

theorem take_append_cases (a b : Bytes) (k : Nat) (hk : k < (a ++ b).length) :
    (k < a.length ∧ (a ++ b).take k = a.take k) ∨
    (∃ j, j < b.length ∧ (a ++ b).take k = a ++ b.take j) := by
  by_cases h : k < a.length
  · left; refine ⟨h, ?_⟩
    rw [List.take_append]; simp [show k - a.length = 0 by omega]
  · right; refine ⟨k - a.length, by simp at hk; omega, ?_⟩
    rw [List.take_append, List.take_of_length_le (by omega)]

/-- a strict prefix of `a ++ b`, read by a reader that returns `v` from `a` and rejects the strict prefixes of `a`:
    an error, or `v` with a strict prefix of `b` left over -/
theorem rd_take_append {α} {rd : Bytes → Rd α} {a : Bytes} {v : α} (hrt : ∀ rest, rd (a ++ rest) = .ok (v, rest))
    (hp : ∀ k, k < a.length → ∃ e, rd (a.take k) = .error e) (b : Bytes) (k : Nat) (hk : k < (a ++ b).length) :
    (∃ e, rd ((a ++ b).take k) = .error e) ∨ ∃ j, j < b.length ∧ rd ((a ++ b).take k) = .ok (v, b.take j) := by
  rcases take_append_cases a b k hk with ⟨h1, h2⟩ | ⟨j, hj, h2⟩
  · exact .inl (h2 ▸ hp k h1)
  · exact .inr ⟨j, hj, h2 ▸ hrt _⟩

theorem readUint_beBytes (n v : Nat) (rest : Bytes) (h : v < 256 ^ n) :
    readUint n (beBytes n v ++ rest) = .ok (v, rest) := by
  have := readFull_append (beBytes n v) rest
  rw [beBytes_length] at this
  simp only [readUint, this, beNat_beBytes n v h]

theorem readUint_rt (n v : Nat) (rest : Bytes) (h : v < 256 ^ n) :
    readUint n (writeUint n v ++ rest) = .ok (v, rest) := readUint_beBytes n v rest h

theorem readUint_take (n k : Nat) (a : Bytes) (hk : k < n) : readUint n (a.take k) = .error .eof := by
  rw [readUint, readFull_take_lt n k a hk]

theorem readUint_lt {n : Nat} {bs r : Bytes} {u : Nat} (h : readUint n bs = .ok (u, r)) : u < 256 ^ n := by
  unfold readUint at h
  split at h
  · rename_i b r' hf
    cases h
    rw [← (readFull_ok hf).1]
    exact beNat_lt b
  · cases h

theorem readInt_rt (n : Nat) (hn : 0 < n) (v : Int) (rest : Bytes)
    (h1 : -(2 ^ (8 * n - 1) : Nat) ≤ v) (h2 : v < (2 ^ (8 * n - 1) : Nat)) :
    readInt n (writeInt n v ++ rest) = .ok (v, rest) := by
  have hlt : toU (8 * n) v < 256 ^ n := by
    have := toU_lt (8 * n) v
    rwa [show (256 : Nat) = 2 ^ 8 by rfl, ← Nat.pow_mul]
  simp only [readInt, writeInt, readUint_beBytes n _ rest hlt, ofU_toU (8 * n) (by omega) v h1 h2]

theorem readBool_rt (b : Bool) (rest : Bytes) : readBool (writeBool b ++ rest) = .ok (b, rest) := by
  cases b <;> simp [readBool, writeBool, readByte]

theorem readBool_pfx (b : Bool) (k : Nat) (hk : k < (writeBool b).length) :
    ∃ e, readBool ((writeBool b).take k) = .error e := by
  simp [writeBool] at hk; subst hk; exact ⟨_, rfl⟩

theorem readUUID_rt (u rest : Bytes) (h : u.length = 16) : readUUID (writeUUID u ++ rest) = .ok (u, rest) := by
  unfold readUUID writeUUID; rw [← h]; exact readFull_append u rest

/-- four big-endian `uint32` reads take exactly the sixteen bytes one `readFull 16` takes -/
theorem readUUIDIntArray_eq (bs : Bytes) : readUUIDIntArray bs = readFull 16 bs := by
  have e : ∀ (n : Nat) (l : Bytes), readFull n l = if n ≤ l.length then .ok (l.take n, l.drop n) else .error .eof :=
    fun _ _ => rfl
  simp only [readUUIDIntArray, e]
  by_cases h : 16 ≤ bs.length
  · have a1 : 4 ≤ bs.length := by omega
    have a2 : 4 ≤ bs.length - 4 := by omega
    have a3 : 4 ≤ bs.length - 4 - 4 := by omega
    have a4 : 4 ≤ bs.length - 4 - 4 - 4 := by omega
    simp only [List.length_drop, a1, a2, a3, a4, h, if_true]
    simp only [List.drop_drop, ← List.take_add]
  · rw [if_neg h]
    by_cases h1 : 4 ≤ bs.length
    · simp only [h1, if_true, List.length_drop]
      by_cases h2 : 4 ≤ bs.length - 4
      · simp only [h2, if_true, List.length_drop]
        by_cases h3 : 4 ≤ bs.length - 4 - 4
        · simp only [h3, if_true, List.length_drop, show ¬ 4 ≤ bs.length - 4 - 4 - 4 by omega, if_false]
        · simp only [h3, if_false]
      · simp only [h2, if_false]
    · simp only [h1, if_false]

theorem readUUIDIntArray_rt (u rest : Bytes) (h : u.length = 16) :
    readUUIDIntArray (writeUUIDIntArray u ++ rest) = .ok (u, rest) := by
  rw [readUUIDIntArray_eq]; exact readUUID_rt u rest h

theorem writeVarInt_length_pos (v : Int) : 0 < (writeVarInt v).length := by
  unfold writeVarInt writeVarU; split <;> simp

theorem readLenPrefixed_rt (cap : Nat) (b rest : Bytes) (h : b.length ≤ cap) (h31 : b.length < 2 ^ 31) :
    readLenPrefixed cap (writeBytes b ++ rest) = .ok (b, rest) := by
  simp only [readLenPrefixed, writeBytes, List.append_assoc, readVarInt_writeVarInt b.length _ (by omega) (by omega),
    Int.not_ofNat_neg, show ¬ ((b.length : Int) > cap) by omega, if_false, Int.toNat_natCast,
    readFull_append]

theorem readLenPrefixed_pfx (cap : Nat) (b : Bytes) (k : Nat) (h31 : b.length < 2 ^ 31)
    (hk : k < (writeBytes b).length) :
    ∃ e, readLenPrefixed cap ((writeBytes b).take k) = .error e := by
  unfold readLenPrefixed writeBytes at *
  rcases rd_take_append (fun r => readVarInt_writeVarInt _ r (by omega) (by omega)) (readVarInt_prefix _) b k hk
    with ⟨e, he⟩ | ⟨j, hj, he⟩ <;> rw [he]
  · exact ⟨_, rfl⟩
  · simp only
    split
    · exact ⟨_, rfl⟩
    · split
      · exact ⟨_, rfl⟩
      · rw [Int.toNat_natCast, readFull_take_lt _ _ _ hj]; exact ⟨_, rfl⟩

/-- the two-byte form: a short below `2 ^ 15` is the value -/
theorem readExtShort_two (low : Nat) (rest : Bytes) (hl : low < 32768) :
    readExtShort (beBytes 2 low ++ rest) = .ok (low, rest) := by
  rw [readExtShort, readUint_beBytes 2 low rest (by omega)]
  exact if_neg (Nat.not_le.2 hl)

/-- the three-byte form: bit 15 of the short is a flag, the third byte holds bits 15..22 -/
theorem readExtShort_three (low high : Nat) (rest : Bytes) (hl : low < 32768) (hh : high < 256) :
    readExtShort (beBytes 2 (low + 32768) ++ UInt8.ofNat high :: rest) = .ok (high * 32768 + low, rest) := by
  rw [readExtShort, readUint_beBytes 2 _ _ (by omega)]
  simp only [ge_iff_le, Nat.le_add_left, if_true, readByte, u8_toNat_ofNat, Nat.mod_eq_of_lt hh,
    Nat.add_sub_cancel]

theorem readExtShort_rt (n : Nat) (rest : Bytes) (h : n < 2 ^ 23) :
    readExtShort (writeExtShort n ++ rest) = .ok (n, rest) := by
  have hl : n % 32768 < 32768 := Nat.mod_lt n (by omega)
  have hh : n / 32768 % 256 = n / 32768 := by omega
  have hn : n / 32768 * 32768 + n % 32768 = n := Nat.div_add_mod' n 32768
  unfold writeExtShort
  simp only [hh]
  split
  · rw [List.append_assoc, List.singleton_append, readExtShort_three _ _ _ hl (by omega), hn]
  · rename_i h0
    rw [readExtShort_two _ _ hl, ← hn, Decidable.not_not.1 h0, Nat.zero_mul, Nat.zero_add, Nat.mod_mod]

theorem readBytes17_rt (b rest : Bytes) (h : b.length ≤ forgeMaxArrayLength) :
    readBytes17 (writeBytes17 b ++ rest) = .ok (b, rest) := by
  have hf : forgeMaxArrayLength < 2 ^ 23 := by decide
  simp only [readBytes17, writeBytes17, List.append_assoc, readExtShort_rt b.length _ (by omega),
    show ¬ b.length > forgeMaxArrayLength by omega, if_false, readFull_append]

/-- element-wise round trip, the decoder returning an image `f x` of what was written -/
theorem readN_map_rt {α β : Type} (enc : α → Bytes) (dec : Bytes → Rd β) (f : α → β) (wf : α → Prop)
    (h : ∀ x rest, wf x → dec (enc x ++ rest) = .ok (f x, rest))
    (xs : List α) (rest : Bytes) (hw : ∀ x ∈ xs, wf x) :
    readN dec xs.length ((xs.map enc).flatten ++ rest) = .ok (xs.map f, rest) := by
  induction xs with
  | nil => rfl
  | cons x t ih =>
    simp only [List.map_cons, List.flatten_cons, List.length_cons, readN, List.append_assoc,
      h x _ (hw x (List.mem_cons_self ..)), ih (fun y hy => hw y (List.mem_cons_of_mem _ hy))]

theorem readN_rt {α} (enc : α → Bytes) (dec : Bytes → Rd α) (wf : α → Prop) (h : RT enc dec wf)
    (xs : List α) (rest : Bytes) (hw : ∀ x ∈ xs, wf x) :
    readN dec xs.length ((xs.map enc).flatten ++ rest) = .ok (xs, rest) := by
  have := readN_map_rt enc dec id wf h xs rest hw
  rwa [List.map_id] at this

theorem readN_pfx {α} (enc : α → Bytes) (dec : Bytes → Rd α) (wf : α → Prop)
    (h : RT enc dec wf) (hp : PFX enc dec wf)
    (xs : List α) (k : Nat) (hw : ∀ x ∈ xs, wf x) (hk : k < ((xs.map enc).flatten).length) :
    ∃ e, readN dec xs.length (((xs.map enc).flatten).take k) = .error e := by
  induction xs generalizing k with
  | nil => simp at hk
  | cons x t ih =>
    simp only [List.map_cons, List.flatten_cons, List.length_cons, readN] at *
    have hx := hw x (by simp)
    rcases rd_take_append (fun r => h x r hx) (fun k => hp x k hx) _ k hk with ⟨e, he⟩ | ⟨j, hj, he⟩ <;> rw [he]
    · exact ⟨_, rfl⟩
    · simp only
      obtain ⟨e, he⟩ := ih j (fun y hy => hw y (by simp [hy])) hj
      rw [he]; exact ⟨_, rfl⟩

theorem readArray_rt {α} (enc : α → Bytes) (dec : Bytes → Rd α) (wf : α → Prop) (h : RT enc dec wf)
    (xs : List α) (rest : Bytes) (hw : ∀ x ∈ xs, wf x) (h31 : xs.length < 2 ^ 31) :
    readArray dec (writeList enc xs ++ rest) = .ok (xs, rest) := by
  simp only [readArray, writeList, List.append_assoc, readVarInt_writeVarInt xs.length _ (by omega) (by omega),
    Int.not_ofNat_neg, if_false, Int.toNat_natCast, readN_rt enc dec wf h xs rest hw]

theorem readArray_pfx {α} (enc : α → Bytes) (dec : Bytes → Rd α) (wf : α → Prop)
    (h : RT enc dec wf) (hp : PFX enc dec wf)
    (xs : List α) (k : Nat) (hw : ∀ x ∈ xs, wf x) (h31 : xs.length < 2 ^ 31)
    (hk : k < (writeList enc xs).length) :
    ∃ e, readArray dec ((writeList enc xs).take k) = .error e := by
  unfold readArray writeList at *
  rcases rd_take_append (fun r => readVarInt_writeVarInt _ r (by omega) (by omega)) (readVarInt_prefix _) _ k hk
    with ⟨e, he⟩ | ⟨j, hj, he⟩ <;> rw [he]
  · exact ⟨_, rfl⟩
  · simp only [Int.not_ofNat_neg, if_false, Int.toNat_natCast]
    exact readN_pfx enc dec wf h hp xs j hw hj

def wfString (s : Bytes) : Prop := s.length ≤ defaultMaxStringSize * 4

theorem string_RT : RT writeBytes readString wfString := by
  intro v rest h
  have : defaultMaxStringSize * 4 < 2 ^ 31 := by decide
  exact readLenPrefixed_rt _ v rest h (by unfold wfString at h; omega)

theorem string_PFX : PFX writeBytes readString wfString := by
  intro v k h hk
  have : defaultMaxStringSize * 4 < 2 ^ 31 := by decide
  exact readLenPrefixed_pfx _ v k (by unfold wfString at h; omega) hk

def wfInt32 (v : Int) : Prop := -(2 ^ 31 : Nat) ≤ v ∧ v < (2 ^ 31 : Nat)

theorem readVarLoop_consumes (fuel i acc : Nat) (bs : Bytes) (u : Nat) (r : Bytes)
    (h : readVarLoop fuel i acc bs = .ok (u, r)) : ∃ pre, bs = pre ++ r ∧ pre ≠ [] ∧ u < 2 ^ 32 := by
  induction fuel generalizing i acc bs with
  | zero => simp [readVarLoop] at h
  | succ n ih =>
    cases bs with
    | nil => simp [readVarLoop] at h
    | cons b rest =>
      simp only [readVarLoop] at h
      split at h
      · cases h
      · split at h
        · cases h
          exact ⟨[b], rfl, by simp, Nat.mod_lt _ (by decide)⟩
        · obtain ⟨pre, hp, _, hu⟩ := ih _ _ _ h
          exact ⟨b :: pre, by rw [hp]; rfl, by simp, hu⟩

theorem readVarInt_consumes {bs : Bytes} {v : Int} {r : Bytes} (h : readVarInt bs = .ok (v, r)) :
    ∃ pre, bs = pre ++ r ∧ pre ≠ [] ∧ wfInt32 v := by
  unfold readVarInt at h
  split at h
  · rename_i u r' hl
    cases h
    obtain ⟨pre, hp, hne, hu⟩ := readVarLoop_consumes _ _ _ _ _ _ hl
    refine ⟨pre, hp, hne, ?_⟩
    unfold wfInt32 ofU
    split <;> constructor <;> omega
  · cases h

theorem varint_RT : RT writeVarInt readVarInt wfInt32 := fun v rest h => readVarInt_writeVarInt v rest h.1 h.2
theorem varint_PFX : PFX writeVarInt readVarInt wfInt32 := fun v k _ hk => readVarInt_prefix v k hk

def wfProperty (p : Property) : Prop := wfString p.name ∧ wfString p.value ∧ wfString p.signature

theorem property_RT : RT writeProperty readProperty wfProperty := by
  intro p rest ⟨h1, h2, h3⟩
  by_cases hs : p.signature.length ≠ 0
  · simp only [writeProperty, readProperty, if_pos hs, List.append_assoc, string_RT _ _ h1, string_RT _ _ h2,
      readBool_rt, string_RT _ _ h3]
  · simp only [writeProperty, readProperty, if_neg hs, List.append_assoc, string_RT _ _ h1, string_RT _ _ h2,
      readBool_rt]
    rw [← List.eq_nil_of_length_eq_zero (Decidable.not_not.1 hs)]

theorem property_PFX : PFX writeProperty readProperty wfProperty := by
  intro p k ⟨h1, h2, h3⟩ hk
  unfold writeProperty readProperty at *
  rw [List.append_assoc] at hk ⊢
  rcases rd_take_append (fun r => string_RT _ r h1) (fun k => string_PFX _ k h1) _ k hk
    with ⟨e, he⟩ | ⟨j, hj, he⟩ <;> rw [he]
  · exact ⟨_, rfl⟩
  simp only
  rcases rd_take_append (fun r => string_RT _ r h2) (fun k => string_PFX _ k h2) _ j hj
    with ⟨e, he⟩ | ⟨i, hi, he⟩ <;> rw [he]
  · exact ⟨_, rfl⟩
  simp only
  by_cases hs : p.signature.length ≠ 0
  · rw [if_pos hs] at hi ⊢
    rcases rd_take_append (readBool_rt true) (readBool_pfx true) _ i hi with ⟨e, he⟩ | ⟨l, hl, he⟩ <;> rw [he]
    · exact ⟨_, rfl⟩
    · simp only
      obtain ⟨e, he⟩ := string_PFX _ l h3 hl
      rw [he]; exact ⟨_, rfl⟩
  · rw [if_neg hs] at hi ⊢
    obtain ⟨e, he⟩ := readBool_pfx false i hi
    rw [he]; exact ⟨_, rfl⟩

def wfKey (k : Key) : Prop := keyValid k = true ∧ k.ns ≠ [] ∧ wfString (keyString k)

theorem splitColon_ns (ns val : Bytes) (h : ns.all nsCharOk = true) :
    splitColon (ns ++ 58 :: val) = some (ns, val) := by
  induction ns with
  | nil => simp [splitColon]
  | cons a t ih =>
    simp only [List.all_cons, Bool.and_eq_true] at h
    have ha : a ≠ 58 := by
      intro hc; subst hc; exact absurd h.1 (by decide)
    simp only [List.cons_append, splitColon, ha, if_false]
    rw [ih h.2]

theorem parseKey_keyString (k : Key) (h : wfKey k) : parseKey (keyString k) = k := by
  obtain ⟨hv, hne, _⟩ := h
  unfold keyValid at hv
  simp only [Bool.and_eq_true] at hv
  unfold parseKey keyString
  rw [List.append_assoc, List.singleton_append, splitColon_ns k.ns k.val hv.1.2]
  simp only
  simp [List.isEmpty_eq_false_iff.2 hne]

theorem key_RT : RT writeKey readKey wfKey := by
  intro k rest h
  simp only [writeKey, readKey, string_RT _ _ h.2.2, parseKey_keyString k h, if_pos h.1]

end Gate.C03
