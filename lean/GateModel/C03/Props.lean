import GateModel.C03.Lemmas
/-
C03 — Primitive field codecs are exact inverses and reject truncated input.

For each primitive `P`:
  * `P_roundtrip`  : the reader returns exactly the value written and leaves exactly `rest`
                     (so it consumed exactly the bytes written);
  * `P_prefix`     : every strict prefix of an encoding is an error (never a zero-padded value);
and for length-prefixed primitives
  * `…_len_reject` : a negative or oversized length prefix is an error decided before the
                     payload is touched (the model performs no `readFull`/allocation on that path).
`wf…` hypotheses are the explicit domains: the integer range of the Go type, the reader's own
maximum, the writer's own limit.
-/
namespace Gate.C03.Props
open Gate Gate.C03

theorem varint_roundtrip (v : Int) (rest : Bytes) (h : wfInt32 v) :
    readVarInt (writeVarInt v ++ rest) = .ok (v, rest) := varint_RT v rest h
theorem varint_prefix (v : Int) (k : Nat) (hk : k < (writeVarInt v).length) :
    ∃ e, readVarInt ((writeVarInt v).take k) = .error e := readVarInt_prefix v k hk

/-! ### fixed width: uint8/16/32/64 (n = 1,2,4,8), float32/64 as bit patterns, signed via two's complement -/
theorem uint_roundtrip (n v : Nat) (rest : Bytes) (h : v < 256 ^ n) :
    readUint n (writeUint n v ++ rest) = .ok (v, rest) := readUint_rt n v rest h
theorem uint_prefix (n v k : Nat) (hk : k < (writeUint n v).length) :
    ∃ e, readUint n ((writeUint n v).take k) = .error e :=
  ⟨_, readUint_take n k _ (by rwa [writeUint, beBytes_length] at hk)⟩
/-- stronger form: *any* input shorter than the width is rejected -/
theorem uint_short_input (n : Nat) (bs : Bytes) (h : bs.length < n) : readUint n bs = .error .eof := by
  rw [readUint, readFull_short n bs h]
theorem int_roundtrip (n : Nat) (hn : 0 < n) (v : Int) (rest : Bytes)
    (h1 : -(2 ^ (8 * n - 1) : Nat) ≤ v) (h2 : v < (2 ^ (8 * n - 1) : Nat)) :
    readInt n (writeInt n v ++ rest) = .ok (v, rest) := readInt_rt n hn v rest h1 h2
theorem int_prefix (n : Nat) (v : Int) (k : Nat) (hk : k < (writeInt n v).length) :
    ∃ e, readInt n ((writeInt n v).take k) = .error e := by
  rw [writeInt, beBytes_length] at hk
  rw [readInt, readUint_take n k _ hk]
  exact ⟨_, rfl⟩
theorem bool_roundtrip (b : Bool) (rest : Bytes) : readBool (writeBool b ++ rest) = .ok (b, rest) :=
  readBool_rt b rest
theorem bool_prefix (b : Bool) (k : Nat) (hk : k < (writeBool b).length) :
    ∃ e, readBool ((writeBool b).take k) = .error e := readBool_pfx b k hk

theorem uuid_roundtrip (u rest : Bytes) (h : u.length = 16) : readUUID (writeUUID u ++ rest) = .ok (u, rest) :=
  readUUID_rt u rest h
theorem uuid_prefix (u : Bytes) (k : Nat) (h : u.length = 16) (hk : k < (writeUUID u).length) :
    ∃ e, readUUID ((writeUUID u).take k) = .error e := by
  unfold readUUID writeUUID at *
  rw [readFull_take_lt 16 k u (by omega)]
  exact ⟨_, rfl⟩
theorem uuid_intarray_roundtrip (u rest : Bytes) (h : u.length = 16) :
    readUUIDIntArray (writeUUIDIntArray u ++ rest) = .ok (u, rest) := readUUIDIntArray_rt u rest h
theorem uuid_intarray_prefix (u : Bytes) (k : Nat) (h : u.length = 16) (hk : k < (writeUUIDIntArray u).length) :
    ∃ e, readUUIDIntArray ((writeUUIDIntArray u).take k) = .error e := by
  rw [readUUIDIntArray_eq]
  exact uuid_prefix u k h hk

theorem string_roundtrip (max : Nat) (s rest : Bytes) (h : s.length ≤ max * 4) (h31 : s.length < 2 ^ 31) :
    readStringMax max (writeBytes s ++ rest) = .ok (s, rest) := readLenPrefixed_rt _ s rest h h31
theorem string_prefix (max : Nat) (s : Bytes) (k : Nat) (h31 : s.length < 2 ^ 31) (hk : k < (writeBytes s).length) :
    ∃ e, readStringMax max ((writeBytes s).take k) = .error e := readLenPrefixed_pfx _ s k h31 hk
theorem bytes_roundtrip (max : Nat) (b rest : Bytes) (h : b.length ≤ max) (h31 : b.length < 2 ^ 31) :
    readBytesLen max (writeBytes b ++ rest) = .ok (b, rest) := readLenPrefixed_rt _ b rest h h31
theorem bytes_prefix (max : Nat) (b : Bytes) (k : Nat) (h31 : b.length < 2 ^ 31) (hk : k < (writeBytes b).length) :
    ∃ e, readBytesLen max ((writeBytes b).take k) = .error e := readLenPrefixed_pfx _ b k h31 hk
/-- negative or oversized length prefixes are rejected before anything is allocated or read -/
theorem lenprefixed_len_reject (cap : Nat) (bs r : Bytes) (len : Int)
    (h : readVarInt bs = .ok (len, r)) (hbad : len < 0 ∨ len > cap) :
    readLenPrefixed cap bs = .error .negative ∨ readLenPrefixed cap bs = .error .tooLong := by
  unfold readLenPrefixed; rw [h]; simp only
  by_cases h0 : len < 0
  · left; simp [h0]
  · right
    have : len > (cap : Int) := by omega
    simp [h0, this]

/-! ### 1.7-style byte arrays (2-byte short, 3 bytes for Forge lengths ≥ 2^15) -/
theorem extshort_roundtrip (n : Nat) (rest : Bytes) (h : n < 2 ^ 23) :
    readExtShort (writeExtShort n ++ rest) = .ok (n, rest) := readExtShort_rt n rest h
theorem extshort_prefix (n k : Nat) (hk : k < (writeExtShort n).length) :
    ∃ e, readExtShort ((writeExtShort n).take k) = .error e := by
  unfold writeExtShort at *
  simp only at *
  by_cases hh : n / 32768 % 256 ≠ 0
  · rw [if_pos hh] at hk ⊢
    rcases take_append_cases _ _ k hk with ⟨h1, h2⟩ | ⟨j, hj, h2⟩
    · rw [beBytes_length] at h1
      rw [h2, readExtShort, readUint_take 2 k _ h1]; exact ⟨_, rfl⟩
    · obtain rfl : j = 0 := by simpa using hj
      rw [h2, readExtShort, readUint_beBytes 2 _ _ (by omega)]
      exact ⟨.eof, by simp [readByte]⟩
  · rw [if_neg hh] at hk ⊢
    rw [beBytes_length] at hk
    rw [readExtShort, readUint_take 2 k _ hk]; exact ⟨_, rfl⟩
theorem bytes17_roundtrip (b rest : Bytes) (h : b.length ≤ forgeMaxArrayLength) :
    readBytes17 (writeBytes17 b ++ rest) = .ok (b, rest) := readBytes17_rt b rest h
theorem bytes17_prefix (b : Bytes) (k : Nat) (h : b.length ≤ forgeMaxArrayLength) (hk : k < (writeBytes17 b).length) :
    ∃ e, readBytes17 ((writeBytes17 b).take k) = .error e := by
  unfold readBytes17 writeBytes17 at *
  have hf : forgeMaxArrayLength < 2 ^ 23 := by decide
  rcases rd_take_append (fun r => readExtShort_rt _ r (by omega)) (extshort_prefix _) _ k hk
    with ⟨e, he⟩ | ⟨j, hj, he⟩ <;> rw [he]
  · exact ⟨_, rfl⟩
  · simp only [show ¬ b.length > forgeMaxArrayLength by omega, if_false]
    rw [readFull_take_lt _ _ _ hj]; exact ⟨_, rfl⟩

theorem utf_roundtrip (s rest : Bytes) (h : s.length < 65536) : readUTF (writeUTF s ++ rest) = .ok (s, rest) := by
  rw [readUTF, writeUTF, List.append_assoc, readUint_beBytes 2 s.length _ (by omega)]
  exact readFull_append s rest
theorem utf_prefix (s : Bytes) (k : Nat) (h : s.length < 65536) (hk : k < (writeUTF s).length) :
    ∃ e, readUTF ((writeUTF s).take k) = .error e := by
  unfold readUTF writeUTF at *
  rcases rd_take_append (fun r => readUint_beBytes 2 s.length r (by omega)) (uint_prefix 2 _) _ k hk
    with ⟨e, he⟩ | ⟨j, hj, he⟩ <;> rw [he]
  · exact ⟨_, rfl⟩
  · exact ⟨_, readFull_take_lt _ _ _ hj⟩

theorem properties_roundtrip (ps : List Property) (rest : Bytes) (hw : ∀ p ∈ ps, wfProperty p)
    (h31 : ps.length < 2 ^ 31) : readProperties (writeProperties ps ++ rest) = .ok (ps, rest) :=
  readArray_rt _ _ _ property_RT ps rest hw h31
theorem properties_prefix (ps : List Property) (k : Nat) (hw : ∀ p ∈ ps, wfProperty p)
    (h31 : ps.length < 2 ^ 31) (hk : k < (writeProperties ps).length) :
    ∃ e, readProperties ((writeProperties ps).take k) = .error e :=
  readArray_pfx _ _ _ property_RT property_PFX ps k hw h31 hk
theorem string_array_roundtrip (xs : List Bytes) (rest : Bytes) (hw : ∀ x ∈ xs, wfString x) (h31 : xs.length < 2 ^ 31) :
    readStringArray (writeStrings xs ++ rest) = .ok (xs, rest) :=
  readArray_rt _ _ _ string_RT xs rest hw h31
theorem string_array_prefix (xs : List Bytes) (k : Nat) (hw : ∀ x ∈ xs, wfString x) (h31 : xs.length < 2 ^ 31)
    (hk : k < (writeStrings xs).length) : ∃ e, readStringArray ((writeStrings xs).take k) = .error e :=
  readArray_pfx _ _ _ string_RT string_PFX xs k hw h31 hk
theorem varint_array_roundtrip (xs : List Int) (rest : Bytes) (hw : ∀ x ∈ xs, wfInt32 x) (h31 : xs.length < 2 ^ 31) :
    readVarIntArray (writeVarIntArray xs ++ rest) = .ok (xs, rest) :=
  readArray_rt _ _ _ varint_RT xs rest hw h31
theorem varint_array_prefix (xs : List Int) (k : Nat) (hw : ∀ x ∈ xs, wfInt32 x) (h31 : xs.length < 2 ^ 31)
    (hk : k < (writeVarIntArray xs).length) : ∃ e, readVarIntArray ((writeVarIntArray xs).take k) = .error e :=
  readArray_pfx _ _ _ varint_RT varint_PFX xs k hw h31 hk
theorem array_negative_length_rejected {α} (dec : Bytes → Rd α) (bs r : Bytes) (len : Int)
    (h : readVarInt bs = .ok (len, r)) (hneg : len < 0) : readArray dec bs = .error .negative := by
  unfold readArray; rw [h]; simp [hneg]

theorem key_roundtrip (k : Key) (rest : Bytes) (h : wfKey k) : readKey (writeKey k ++ rest) = .ok (k, rest) :=
  key_RT k rest h
theorem key_prefix (k : Key) (j : Nat) (h : wfKey k) (hk : j < (writeKey k).length) :
    ∃ e, readKey ((writeKey k).take j) = .error e := by
  unfold writeKey readKey at *
  obtain ⟨e, he⟩ := string_PFX _ j h.2.2 hk
  rw [he]; exact ⟨_, rfl⟩

/-! ### tie to the source: facts regenerated by `tools/gofacts` from util/reader.go, writer.go

The model above uses `readFull` for every multi-byte read and a 2-byte extended short.  These
theorems are stated over the *generated* call sequences, so a source change that re-introduces a
short read (`rd.Read`) or moves an allocation before its length check breaks a proof obligation. -/

/-- a call sequence performs no raw `Read` (the short-reading primitive) -/
def noShortRead (cs : List String) : Bool := cs.all fun c => c != "rd.Read" && c != "reader.Read" && c != "r.Read"
/-- in a call sequence `a` occurs, and before the first `b` -/
def before (a b : String) (cs : List String) : Bool := cs.idxOf a < cs.idxOf b && cs.idxOf a < cs.length

open Gate.Gen.C03 in
theorem src_readers_use_readfull :
    noShortRead readUint8Calls ∧ noShortRead readUint16Calls ∧ noShortRead readUint32Calls ∧
    noShortRead readUint64Calls ∧ noShortRead readBytesLenCalls ∧ noShortRead readBytes17Calls ∧
    noShortRead readStringMaxCalls ∧ noShortRead readUUIDCalls ∧ noShortRead readUTFCalls ∧
    "io.ReadFull" ∈ readUint16Calls ∧ "io.ReadFull" ∈ readUint32Calls ∧ "io.ReadFull" ∈ readUint64Calls ∧
    "io.ReadFull" ∈ readBytesLenCalls ∧ "io.ReadFull" ∈ readBytes17Calls ∧ "io.ReadFull" ∈ readStringMaxCalls := by
  decide +kernel

open Gate.Gen.C03 in
/-- length checks (the `fmt.Errorf`/`errors.New` rejections) come before `make` in the source -/
theorem src_length_checked_before_alloc :
    before "fmt.Errorf" "make" readBytesLenCalls ∧ before "fmt.Errorf" "make" readBytes17Calls ∧
    before "errors.New" "make" readStringMaxCalls ∧ before "fmt.Errorf" "make" readPropertiesCalls := by
  decide +kernel

open Gate.Gen.C03 in
theorem src_extshort_is_two_bytes :
    "ReadUint16" ∈ readExtShortCalls ∧ "WriteUint16" ∈ writeExtShortCalls := by decide +kernel

theorem src_caps_fit_int32 : defaultMaxStringSize * 4 < 2 ^ 31 ∧ forgeMaxArrayLength < 2 ^ 23 := by decide +kernel

/-! ### the defects repaired by the `fix:` commits stay documented as kernel-checked witnesses
(the *defective variants* are what the code did before; a regression to them is caught by the
correspondence and reported with exactly these inputs). -/

/-- pre-fix `ReadUint16` (short read accepted): one byte `0x12` decodes as `0x1200`. -/
theorem uint_prefix_fails_for_short_read_variant :
    readUintShort 2 ((writeUint 2 0x1234).take 1) = .ok (0x1200, []) := by rfl
/-- pre-fix one-byte extended short: length 300 reads back as 44. -/
theorem extshort_roundtrip_fails_for_one_byte_variant :
    readExtShortOneByte (writeExtShortOneByte 300) = .ok (44, []) := by rfl

/-! ### non-vacuity: the hypotheses are met by ordinary values -/
example : wfInt32 (-1) ∧ wfInt32 2147483647 ∧ wfInt32 (-2147483648) := by unfold wfInt32; omega
example : wfKey ⟨minecraftNs, [98, 114, 97, 110, 100]⟩ := by
  refine ⟨by decide, by decide, ?_⟩
  have hd : 4 ≤ defaultMaxStringSize := by decide
  unfold wfString keyString minecraftNs
  simp only [List.length_cons, List.length_nil, List.length_append]; omega
example : wfProperty ⟨[116], [118], []⟩ := by
  have hd : 4 ≤ defaultMaxStringSize := by decide
  refine ⟨?_, ?_, ?_⟩ <;> (unfold wfString; simp only [List.length_cons, List.length_nil]; omega)
example : readVarInt (writeVarInt (-1) ++ [7]) = .ok (-1, [7]) :=
  varint_roundtrip (-1) [7] (by unfold wfInt32; omega)
example : readBytes17 (writeBytes17 (List.replicate 300 1) ++ [9]) = .ok (List.replicate 300 1, [9]) :=
  bytes17_roundtrip _ _ (by have : 300 ≤ forgeMaxArrayLength := by decide
                            simp only [List.length_replicate]; omega)

end Gate.C03.Props
