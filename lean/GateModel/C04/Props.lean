import GateModel.C04.Lemmas
import GateModel.C04.Packets
/-
C04 — Every packet type round-trips losslessly in every supported protocol version.

`Schema`/`PSchema` (Model.lean) is an interpreter for wire layouts; `schemaOf` (Packets.lean) gives, as data, the
layout of each registered packet type in each context (protocol, direction, registry, packet id), transcribed from
the Go `Encode/Decode` bodies.  The theorems below are about ALL schemas, hence about every packet schema in every
context — there is no bound on protocol numbers, string lengths, array sizes or nesting:

  * `schema_roundtrip`          decoding an encoding gives the value back and leaves exactly the bytes that followed it
  * `packet_roundtrip`          … for whole packets: all bytes are consumed
  * `packet_reencode_identical` … and the decoded packet re-encodes to identical bytes
  * `registered_packet_roundtrip` the instance for every modelled registered type, every context
  * `encode_accepted`           the encoder does not reject a value of the schema's domain

`wf` is the explicit domain "all field values the protocol permits" (integer ranges of the wire types, the readers'
own length limits, 16-byte ids, valid resource keys).  A value carries exactly the fields that exist in that version:
the schema of a context contains no others, so "same values for every field that exists in that version" is the
equality of values in `schema_roundtrip`.

Opaque leaves (chat components from 1.20.3, NBT, player keys) are `Prim.blob len`: their value is the blob's wire
bytes, and the DOMAIN of such a leaf is, by definition, the blobs on which the blob reader `len` is self-delimiting.
Nothing is assumed about `len`: the theorems hold for every `len`; what is NOT proved is that the Go blob codecs
(go-mc NBT, JSON<->NBT conversion, x509) round-trip — that is only exercised by the Go-side re-encode check.
-/
namespace Gate.C04.Props
open Gate Gate.C03 Gate.C04

theorem schema_roundtrip (s : Schema) (v : Val) (rest : Bytes) (h : s.wf v) :
    s.decode (s.encode v ++ rest) = .ok (v, rest) := schema_RT s v rest h

theorem packet_roundtrip (ps : PSchema) (v : Val) (h : ps.wf v) :
    ps.decode (ps.encode v) = .ok (v, []) := packet_RT ps v h

theorem packet_reencode_identical (ps : PSchema) (v : Val) (h : ps.wf v) :
    ∃ v', ps.decode (ps.encode v) = .ok (v', []) ∧ ps.encode v' = ps.encode v :=
  ⟨v, packet_RT ps v h, rfl⟩

theorem encode_accepted (s : Schema) (v : Val) (h : s.wf v) : s.encOk v = true := schema_encOk s v h

/-- every packet type that has a schema, in EVERY context (all protocol numbers, both directions, every registry
    and id): lossless, consumes everything, re-encodes identically -/
theorem registered_packet_roundtrip (name : String) (c : Ctx) (ps : PSchema) (v : Val)
    (hs : schemaOf name c = some ps) (h : ps.wf v) :
    ps.decode (ps.encode v) = .ok (v, []) ∧
    ∃ v', ps.decode (ps.encode v) = .ok (v', []) ∧ ps.encode v' = ps.encode v := by
  have := hs
  exact ⟨packet_roundtrip ps v h, packet_reencode_identical ps v h⟩

/-- every type gate registers is classified; a newly registered type breaks this obligation -/
theorem registry_classified :
    ∀ t ∈ Gate.Gen.C04.registryTypes, t ∈ fullTypes ∨ t ∈ opaqueTypes ∨ t ∈ unmodelledTypes := by
  intro t ht
  simpa only [List.mem_append, or_assoc] using registry_partition.mem_iff.1 ht

/-- the classification only talks about registered types and the classes are disjoint -/
theorem classes_registered_and_disjoint :
    (∀ t ∈ fullTypes ++ opaqueTypes ++ unmodelledTypes, t ∈ Gate.Gen.C04.registryTypes) ∧
    (∀ t ∈ fullTypes, t ∉ opaqueTypes ∧ t ∉ unmodelledTypes) ∧ (∀ t ∈ opaqueTypes, t ∉ unmodelledTypes) :=
  ⟨fun _ => registry_partition.mem_iff.2, by decide +kernel⟩

/-- exact coverage: 66 registered types = 45 with a full schema + 17 with opaque fields + 4 without a schema -/
theorem coverage_counts :
    Gate.Gen.C04.registryTypes.length = 66 ∧ fullTypes.length = 45 ∧ opaqueTypes.length = 17 ∧
    unmodelledTypes.length = 4 := by decide

/-- one probe context (1.21 Play, serverbound) is enough: whether `schemaOf` has a schema depends on the name alone
    (`modelled_have_schema`) -/
def probe : Ctx := { proto := 767, dir := 0, state := 4, id := 1 }

theorem modelled_types_have_schemas :
    (∀ t ∈ fullTypes ++ opaqueTypes, (schemaOf t probe).isSome = true) ∧
    (∀ t ∈ unmodelledTypes, (schemaOf t probe).isSome = false) :=
  ⟨fun t ht => modelled_have_schema t ht probe, by decide +kernel⟩

/-! ### source shape of the decoders reachable before authentication (regenerated call sequences)

The schemas were transcribed from these bodies; a change of the sequence of reads breaks an obligation here
(in addition to the differential run, which compares bytes and values). -/

open Gate.Gen.C04 in
theorem src_prelogin_decoders :
    handshakeDecode = ["util.ReadVarInt", "return", "util.ReadString", "return", "util.ReadInt16", "return", "int",
      "util.ReadVarInt", "return"] ∧
    statusPingDecode = ["util.ReadInt64", "return"] ∧
    serverLoginDecode = ["util.ReadStringMax", "len", "return", "c.Protocol.GreaterEqual", "c.Protocol.GreaterEqual",
      "util.ReadBool", "return", "crypto.ReadPlayerKey", "return", "c.Protocol.GreaterEqual", "util.ReadUUID", "return",
      "return", "c.Protocol.GreaterEqual", "util.ReadBool", "return", "util.ReadUUID", "return", "return"] ∧
    encryptionResponseDecode = ["c.Protocol.GreaterEqual", "util.ReadBytesLen", "return", "c.Protocol.GreaterEqual",
      "c.Protocol.Lower", "util.ReadBool", "return", "util.ReadInt64", "return", "c.Protocol.Lower", "util.ReadBytesLen",
      "return", "util.ReadBytes17", "return", "util.ReadBytes17", "return"] ∧
    loginPluginResponseDecode = ["util.ReadVarInt", "return", "util.ReadBool", "return", "util.ReadRawBytes",
      "errors.Is", "return", "return"] := ⟨rfl, rfl, rfl, rfl, rfl⟩

open Gate.Gen.C04 in
theorem src_play_decoders :
    keepAliveDecode = ["c.Protocol.GreaterEqual", "util.ReadInt64", "c.Protocol.GreaterEqual", "util.ReadVarInt",
      "int64", "util.ReadInt32", "int64", "return"] ∧
    clientSettingsDecode = ["util.PanicReader", "r.StringMax", "r.Byte", "r.VarInt", "r.Bool", "c.Protocol.LowerEqual",
      "r.Byte", "r.Byte", "c.Protocol.GreaterEqual", "r.VarInt", "c.Protocol.GreaterEqual", "r.Bool",
      "c.Protocol.GreaterEqual", "r.Bool", "c.Protocol.GreaterEqual", "r.VarInt", "return"] ∧
    pluginMessageDecode = ["util.ReadString", "return", "c.Protocol.GreaterEqual", "TransformLegacyToModernChannel",
      "c.Protocol.GreaterEqual", "io.LimitReader", "io.ReadAll", "len", "len", "fmt.Errorf", "return", "io.ReadAll",
      "util.ReadBytes17", "return"] := ⟨rfl, rfl, rfl⟩

open Gate.Gen.C04 in
/-- `ReadMinimalKey` parses `ns:value` (the repaired reader the `minKey` leaf mirrors) -/
theorem src_minimal_key_is_parsed : "parseIdentifierKey" ∈ readMinimalKeyCalls := by decide

/-- pre-fix `ReadMinimalKey`: the sound `ab:c` came back as `minecraft:"ab:c"` -/
theorem minimal_key_roundtrip_fails_for_unparsed_variant :
    readMinimalKeyDefective (writeBytes (minimalKey ⟨[97, 98], [99]⟩)) = .ok (⟨minecraftNs, [97, 98, 58, 99]⟩, []) := by
  rfl

/-- pre-fix loop of `TabCompleteResponse.Decode` (1.13+): the `tooltip` variable lives outside the loop and is only
    assigned when an offer has a tooltip -/
def readOffersCarry (tip : Bytes → Rd Val) : Nat → Val → Bytes → Rd (List Val)
  | 0, _, bs => .ok ([], bs)
  | n + 1, carry, bs =>
    match readString bs with
    | .error e => .error e
    | .ok (text, r1) => match readBool r1 with
      | .error e => .error e
      | .ok (has, r2) =>
        if has then
          match tip r2 with
          | .error e => .error e
          | .ok (t, r3) => match readOffersCarry tip n (.some t) r3 with
            | .error e => .error e
            | .ok (xs, r4) => .ok (.pair (.bytes text) (.some t) :: xs, r4)
        else
          match readOffersCarry tip n carry r2 with
          | .error e => .error e
          | .ok (xs, r4) => .ok (.pair (.bytes text) carry :: xs, r4)

/-- offers `[("a", tooltip "t"), ("b", no tooltip)]`: the pre-fix loop gives the second offer the first one's tooltip -/
theorem tabcomplete_roundtrip_fails_for_carry_variant :
    let offer := seqs [string, .opt true string]
    let v1 := Val.pair (.bytes [97]) (.some (.bytes [116]))
    let v2 := Val.pair (.bytes [98]) .none
    readOffersCarry string.decode 2 .none (offer.encode v1 ++ offer.encode v2) =
      .ok ([v1, .pair (.bytes [98]) (.some (.bytes [116]))], []) := by
  rfl

/-- pre-fix map-valued fields were written in Go map iteration order: two orders of the same two entries are two
    different encodings of the same packet -/
theorem map_encoding_order_matters :
    let entry := seqs [string, string]
    let e1 := Val.pair (.bytes [97]) (.bytes [49])
    let e2 := Val.pair (.bytes [98]) (.bytes [50])
    writeList entry.encode [e1, e2] ≠ writeList entry.encode [e2, e1] := by
  decide

/-! ### AvailableCommands: the brigadier number-argument bounds (the argument property with sentinels)

AvailableCommands has no schema (its graph is not a field list), but its one value-dependent property codec is
modelled and proved on its own (`NumBounds.lean`), for float/double (bit patterns)/integer/long alike. -/

/-- every pair of bounds — the "unbounded" sentinels, bounds beyond them (long minima below −2³¹ = brigodier's
    `MinInt64`, ±Inf, NaN, −0.0, subnormals as bit patterns) and ordinary ones — comes back exactly -/
theorem number_bounds_roundtrip (k : NumKind) (mn mx : Val) (rest : Bytes) (h1 : k.leaf.wf mn) (h2 : k.leaf.wf mx) :
    nbDecode k (nbEncode k mn mx ++ rest) = .ok ((mn, mx), rest) := numBounds_RT k mn mx rest h1 h2

/-- the flag byte is exactly (min ≠ lo, max ≠ hi) -/
theorem number_bounds_flag (k : NumKind) (mn mx : Val) :
    (nbEncode k mn mx).head? =
      some (UInt8.ofNat ((if mn ≠ k.lo then 1 else 0) + (if mx ≠ k.hi then 2 else 0))) := rfl

/-- the sentinels themselves are values of the leaf's domain, for all four kinds (so the theorem is not vacuous
    for the defaults) -/
theorem number_bounds_sentinels_wf :
    ∀ name ∈ ["f32", "f64", "i32", "i64"], ∃ k, numKind name = some k ∧ k.leaf.wf k.lo ∧ k.leaf.wf k.hi := by
  intro name hn
  simp only [List.mem_cons, List.mem_nil_iff, or_false] at hn
  rcases hn with rfl | rfl | rfl | rfl
  · exact ⟨_, rfl, ⟨0xFF7FFFFF, rfl, by decide⟩, ⟨0x7F7FFFFF, rfl, by decide⟩⟩
  · exact ⟨_, rfl, ⟨0xFFEFFFFFFFFFFFFF, rfl, by decide⟩, ⟨0x7FEFFFFFFFFFFFFF, rfl, by decide⟩⟩
  · exact ⟨_, rfl, ⟨_, rfl, by decide, by decide, by decide⟩, ⟨_, rfl, by decide, by decide, by decide⟩⟩
  · exact ⟨_, rfl, ⟨_, rfl, by decide, by decide, by decide⟩, ⟨_, rfl, by decide, by decide, by decide⟩⟩

/-- writing a bound only when it lies strictly inside (lo, hi) loses every bound outside: a long minimum of −5·10⁹
    is omitted (flag = max only) although it is not the sentinel -/
theorem number_bounds_fails_for_ordered_variant :
    ∃ k, numKind "i64" = some k ∧
      (nbEncodeOrdered k (.int (-5000000000)) (.int 5000000000)).head? = some 2 ∧
      (nbEncode k (.int (-5000000000)) (.int 5000000000)).head? = some 3 :=
  ⟨_, rfl, by decide, by decide⟩

/-- a handshake: protocol 767, host "a.b", port 25565, next state 2 -/
example : ∃ ps, schemaOf "packet.Handshake" ⟨767, 1, 0, 0⟩ = some ps ∧
    ps.wf (.pair (.int 767) (.pair (.bytes [97, 46, 98]) (.pair (.int 25565) (.int 2)))) := by
  refine ⟨_, rfl, ?_⟩
  have hd : 4 ≤ defaultMaxStringSize := by decide
  refine ⟨_, _, rfl, ⟨767, rfl, by unfold wfInt32; omega⟩, _, _, rfl, ⟨_, rfl, ?_, ?_⟩, _, _, rfl, ?_, ?_⟩
  · show ([97, 46, 98] : Bytes).length ≤ defaultMaxStringSize * 4
    simp only [List.length_cons, List.length_nil]; omega
  · simp
  · exact ⟨_, rfl, by decide, by decide, by decide⟩
  · exact ⟨2, rfl, by unfold wfInt32; omega⟩

example : (mk (seqs [varint, bool])).decode ((mk (seqs [varint, bool])).encode (.pair (.int 300) (.bool true))) =
    .ok (.pair (.int 300) (.bool true), []) :=
  packet_roundtrip _ _ ⟨_, _, rfl, ⟨300, rfl, by unfold wfInt32; omega⟩, ⟨true, rfl⟩⟩

end Gate.C04.Props
