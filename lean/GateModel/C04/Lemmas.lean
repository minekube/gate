import GateModel.C04.Model
import GateModel.C04.NumBounds
import GateModel.C04.Packets
import GateModel.C03.Lemmas
/-
C04 — the value domains (`wf`) and the generic round-trip theorem of the schema interpreter, by induction over `Schema`.
Leaf cases are the primitive lemmas of `GateModel.C03.Lemmas`.  At the end, the two facts that tie the classification of
`Packets.lean` to the regenerated registry table and to `schemaOf`.
-/
namespace Gate.C04
open Gate Gate.C03

def Prim.wf : Prim → Val → Prop
  | .varint, v => ∃ i, v = .int i ∧ wfInt32 i
  | .sint n, v => ∃ i, v = .int i ∧ 0 < n ∧ -(2 ^ (8 * n - 1) : Nat) ≤ i ∧ i < (2 ^ (8 * n - 1) : Nat)
  | .uint n, v => ∃ u : Nat, v = .int u ∧ u < 256 ^ n
  | .bool, v => ∃ b, v = .bool b
  | .constBool _, v => v = .unit
  | .uuid, v => ∃ b, v = .bytes b ∧ b.length = 16
  | .uuidInts, v => ∃ b, v = .bytes b ∧ b.length = 16
  | .str max, v => ∃ b, v = .bytes b ∧ b.length ≤ max * 4 ∧ b.length < 2 ^ 31
  | .strNE max, v => ∃ b, v = .bytes b ∧ b ≠ [] ∧ b.length ≤ max * 4 ∧ b.length < 2 ^ 31
  | .bytes max, v => ∃ b, v = .bytes b ∧ b.length ≤ max ∧ b.length < 2 ^ 31
  | .bytes17 ext, v => ∃ b, v = .bytes b ∧ writeBytes17Ok ext b = true
  | .fixed n, v => ∃ b, v = .bytes b ∧ b.length = n
  | .key, v => ∃ k : Key, v = .pair (.bytes k.ns) (.bytes k.val) ∧ wfKey k
  | .minKey, v => ∃ k : Key, v = .pair (.bytes k.ns) (.bytes k.val) ∧ k.ns.all nsCharOk = true ∧
      k.val.all valCharOk = true ∧ k.ns ≠ [] ∧ wfString (minimalKey k)
  | .blob len, v => ∃ b, v = .bytes b ∧ ∀ rest, len (b ++ rest) = some b.length

def Schema.wf : Schema → Val → Prop
  | .unit, v => v = .unit
  | .fail, _ => False
  | .prim p, v => p.wf v
  | .seq a b, v => ∃ x y, v = .pair x y ∧ wf a x ∧ wf b y
  | .opt _ s, v => v = .none ∨ ∃ x, v = .some x ∧ wf s x
  | .optD d s, v => v = d ∨ (v ≠ d ∧ wf s v)
  | .arr _ max s, v => ∃ xs : List Val, v = Val.ofList xs ∧ (∀ x ∈ xs, wf s x) ∧ xs.length < 2 ^ 31 ∧
      overMax max xs.length = false
  | .sw tag n body dflt, v => ∃ t x, v = .pair (.int t) x ∧ tag.wf (.int t) ∧
      (if h : 0 ≤ t ∧ t.toNat < n then wf (body ⟨t.toNat, h.2⟩) x else wf dflt x)

def PSchema.wf (ps : PSchema) (v : Val) : Prop :=
  match ps.tail with
  | .none => ps.body.wf v
  | .rest max => ∃ x r, v = .pair x (.bytes r) ∧ ps.body.wf x ∧ overMax max r.length = false

theorem getInt_int (i : Int) : (Val.int i).getInt = i := rfl

theorem elems_ofList (xs : List Val) : (Val.ofList xs).elems = xs := by
  induction xs with
  | nil => rfl
  | cons x t ih => simp [Val.ofList, Val.elems, ih]

theorem bytes17Ok_le (ext : Bool) (b : Bytes) (h : writeBytes17Ok ext b = true) :
    b.length ≤ forgeMaxArrayLength := by
  have hf : 32767 ≤ forgeMaxArrayLength := by decide
  unfold writeBytes17Ok at h
  cases ext <;> simp at h <;> omega

theorem splitColon_none (s : Bytes) (h : s.all valCharOk = true) : splitColon s = none := by
  induction s with
  | nil => rfl
  | cons a t ih =>
    simp only [List.all_cons, Bool.and_eq_true] at h
    have ha : a ≠ 58 := by intro hc; subst hc; exact absurd h.1 (by decide)
    simp only [splitColon, ha, if_false, ih h.2]

theorem parseKey_minimal (k : Key) (hns : k.ns.all nsCharOk = true) (hval : k.val.all valCharOk = true)
    (hne : k.ns ≠ []) : parseKey (minimalKey k) = k := by
  unfold minimalKey
  by_cases hm : k.ns = minecraftNs
  · rw [if_pos hm]; unfold parseKey; rw [splitColon_none _ hval]
    cases k; simp_all
  · rw [if_neg hm]; unfold parseKey keyString
    rw [List.append_assoc, List.singleton_append, splitColon_ns k.ns k.val hns]
    have : k.ns.isEmpty = false := by
      cases hk : k.ns with
      | nil => exact absurd hk hne
      | cons a t => rfl
    simp [this]

theorem prim_RT (p : Prim) : RT p.enc p.dec p.wf := by
  intro v rest h
  cases p with
  | varint =>
    obtain ⟨i, rfl, hi⟩ := h
    simp only [Prim.enc, Prim.dec, Val.getInt, varint_RT i rest hi, Prim.mapRd]
  | sint n =>
    obtain ⟨i, rfl, hn, h1, h2⟩ := h
    simp only [Prim.enc, Prim.dec, Val.getInt, readInt_rt n hn i rest h1 h2, Prim.mapRd]
  | uint n =>
    obtain ⟨u, rfl, hu⟩ := h
    simp only [Prim.enc, Prim.dec, Val.getInt, Int.toNat_natCast, readUint_rt n u rest hu, Prim.mapRd]
  | bool =>
    obtain ⟨b, rfl⟩ := h
    simp only [Prim.enc, Prim.dec, Val.getBool, readBool_rt, Prim.mapRd]
  | constBool b =>
    subst h
    simp only [Prim.enc, Prim.dec, readBool_rt, Prim.mapRd]
  | uuid =>
    obtain ⟨b, rfl, hb⟩ := h
    simp only [Prim.enc, Prim.dec, Val.getBytes, readUUID_rt b rest hb, Prim.mapRd]
  | uuidInts =>
    obtain ⟨b, rfl, hb⟩ := h
    simp only [Prim.enc, Prim.dec, Val.getBytes, readUUIDIntArray_rt b rest hb, Prim.mapRd]
  | str max =>
    obtain ⟨b, rfl, h1, h2⟩ := h
    have := readLenPrefixed_rt (max * 4) b rest h1 h2
    simp only [Prim.enc, Prim.dec, Val.getBytes, readStringMax, this, Prim.mapRd]
  | strNE max =>
    obtain ⟨b, rfl, hne, h1, h2⟩ := h
    have := readLenPrefixed_rt (max * 4) b rest h1 h2
    have he : b.isEmpty = false := by cases b <;> simp_all
    simp only [Prim.enc, Prim.dec, Val.getBytes, readStringMax, this, he]
    simp
  | bytes max =>
    obtain ⟨b, rfl, h1, h2⟩ := h
    have := readLenPrefixed_rt max b rest h1 h2
    simp only [Prim.enc, Prim.dec, Val.getBytes, readBytesLen, this, Prim.mapRd]
  | bytes17 ext =>
    obtain ⟨b, rfl, hb⟩ := h
    simp only [Prim.enc, Prim.dec, Val.getBytes, readBytes17_rt b rest (bytes17Ok_le ext b hb), Prim.mapRd]
  | fixed n =>
    obtain ⟨b, rfl, hb⟩ := h
    subst hb
    simp only [Prim.enc, Prim.dec, Val.getBytes, readFull_append, Prim.mapRd]
  | key =>
    obtain ⟨k, rfl, hk⟩ := h
    simp only [Prim.enc, Prim.dec, Val.fst, Val.snd, Val.getBytes, key_RT k rest hk, Prim.mapRd]
  | minKey =>
    obtain ⟨k, rfl, h1, h2, h3, h4⟩ := h
    simp only [Prim.enc, Prim.dec, Val.fst, Val.snd, Val.getBytes, string_RT _ rest h4, Prim.mapRd,
      parseKey_minimal k h1 h2 h3]
  | blob len =>
    obtain ⟨b, rfl, hb⟩ := h
    simp only [Prim.enc, Prim.dec, Val.getBytes, hb rest]
    simp

theorem encode_sw (tag : Prim) (n : Nat) (body : Fin n → Schema) (dflt : Schema) (v : Val) :
    (Schema.sw tag n body dflt).encode v = tag.enc v.fst ++ (Schema.pick n body dflt v.fst.getInt).encode v.snd := by
  simp only [Schema.encode, Schema.pick]; split <;> rfl

theorem encOk_sw (tag : Prim) (n : Nat) (body : Fin n → Schema) (dflt : Schema) (v : Val) :
    (Schema.sw tag n body dflt).encOk v = (tag.encOk v.fst && (Schema.pick n body dflt v.fst.getInt).encOk v.snd) := by
  simp only [Schema.encOk, Schema.pick]; split <;> rfl

theorem decode_sw (tag : Prim) (n : Nat) (body : Fin n → Schema) (dflt : Schema) (bs : Bytes) :
    (Schema.sw tag n body dflt).decode bs =
      match tag.dec bs with
      | .error e => .error e
      | .ok (t, r) => match (Schema.pick n body dflt t.getInt).decode r with
        | .error e => .error e
        | .ok (x, r') => .ok (.pair t x, r') := by
  simp only [Schema.decode, Schema.pick]
  cases tag.dec bs with
  | error e => rfl
  | ok p =>
    simp only
    by_cases hc : 0 ≤ p.1.getInt ∧ p.1.getInt.toNat < n
    · simp only [dif_pos hc]; rfl
    · simp only [dif_neg hc]; rfl

theorem wf_sw (tag : Prim) (n : Nat) (body : Fin n → Schema) (dflt : Schema) (v : Val) :
    (Schema.sw tag n body dflt).wf v ↔
      ∃ t x, v = .pair (.int t) x ∧ tag.wf (.int t) ∧ (Schema.pick n body dflt t).wf x := by
  simp only [Schema.wf, Schema.pick]
  refine exists_congr fun t => exists_congr fun x => and_congr_right fun _ => and_congr_right fun _ => ?_
  split <;> exact Iff.rfl

theorem pick_ind {P : Schema → Prop} (n : Nat) (body : Fin n → Schema) (dflt : Schema)
    (hb : ∀ i, P (body i)) (hd : P dflt) (t : Int) : P (Schema.pick n body dflt t) := by
  unfold Schema.pick; split
  · exact hb _
  · exact hd

theorem schema_RT (s : Schema) : RT s.encode s.decode s.wf := by
  induction s with
  | unit => intro v rest h; cases h; simp [Schema.encode, Schema.decode]
  | fail => intro v rest h; exact absurd h (by simp [Schema.wf])
  | prim p => exact prim_RT p
  | seq a b iha ihb =>
    intro v rest h
    obtain ⟨x, y, rfl, hx, hy⟩ := h
    simp only [Schema.encode, Schema.decode, Val.fst, Val.snd, List.append_assoc]
    rw [iha x _ hx]; simp only
    rw [ihb y _ hy]
  | opt present s ih =>
    intro v rest h
    rcases h with rfl | ⟨x, rfl, hx⟩
    · simp only [Schema.encode, Schema.decode, readBool_rt]
      cases present <;> simp
    · simp only [Schema.encode, Schema.decode, List.append_assoc, readBool_rt, if_true]
      rw [ih x _ hx]
  | optD d s ih =>
    intro v rest h
    rcases h with rfl | ⟨hne, hv⟩
    · simp only [Schema.encode, Schema.decode, if_true, readBool_rt]
      simp
    · simp only [Schema.encode, Schema.decode, if_neg hne, List.append_assoc, readBool_rt, if_true]
      exact ih v _ hv
  | arr neg max s ih =>
    intro v rest h
    obtain ⟨xs, rfl, hw, h31, hmax⟩ := h
    simp only [Schema.encode, Schema.decode, elems_ofList, writeList, List.append_assoc]
    rw [readVarInt_writeVarInt _ _ (by omega) (by omega)]
    simp only [show ¬ ((xs.length : Int) < 0) by omega, if_false, hmax, Int.toNat_natCast, Bool.false_eq_true]
    rw [readN_rt s.encode s.decode s.wf ih xs rest hw]
  | sw tag n body dflt ihb ihd =>
    intro v rest h
    obtain ⟨t, x, rfl, ht, hx⟩ := (wf_sw tag n body dflt v).1 h
    have ih := pick_ind (P := fun s => RT s.encode s.decode s.wf) n body dflt ihb ihd t
    rw [encode_sw, decode_sw]
    simp only [Val.fst, Val.snd, getInt_int, List.append_assoc]
    rw [prim_RT tag _ _ ht]; simp only [getInt_int]
    rw [ih x rest hx]

theorem schema_encOk (s : Schema) (v : Val) (h : s.wf v) : s.encOk v = true := by
  induction s generalizing v with
  | unit => rfl
  | fail => exact absurd h (by simp [Schema.wf])
  | prim p =>
    -- the two writers that can refuse a value; its domain is what they accept
    cases p
    case bytes17 ext => obtain ⟨b, rfl, hb⟩ := h; simpa [Schema.encOk, Prim.encOk, Val.getBytes] using hb
    case key => obtain ⟨k, rfl, hk⟩ := h; simpa [Schema.encOk, Prim.encOk, Val.fst, Val.snd, Val.getBytes] using hk.1
    all_goals rfl
  | seq a b iha ihb =>
    obtain ⟨x, y, rfl, hx, hy⟩ := h
    simp [Schema.encOk, Val.fst, Val.snd, iha x hx, ihb y hy]
  | opt present s ih =>
    rcases h with rfl | ⟨x, rfl, hx⟩
    · simp [Schema.encOk]
    · simp [Schema.encOk, ih x hx]
  | optD d s ih =>
    rcases h with rfl | ⟨hne, hv⟩
    · simp [Schema.encOk]
    · simp [Schema.encOk, hne, ih v hv]
  | arr neg max s ih =>
    obtain ⟨xs, rfl, hw, _, _⟩ := h
    simp only [Schema.encOk, elems_ofList, List.all_eq_true]
    exact fun x hx => ih x (hw x hx)
  | sw tag n body dflt ihb ihd =>
    obtain ⟨t, x, rfl, ht, hx⟩ := (wf_sw tag n body dflt v).1 h
    have h1 : tag.encOk (.int t) = true := by
      cases tag
      case bytes17 => obtain ⟨b, hb, _⟩ := ht; cases hb   -- no integer is in the domain of a byte-array tag
      all_goals rfl
    have ih := pick_ind (P := fun s => ∀ v, s.wf v → s.encOk v = true) n body dflt ihb ihd t
    rw [encOk_sw]
    simp only [Val.fst, Val.snd, getInt_int, h1, Bool.true_and]
    exact ih x hx

theorem packet_RT (ps : PSchema) (v : Val) (h : ps.wf v) : ps.decode (ps.encode v) = .ok (v, []) := by
  unfold PSchema.wf at h
  unfold PSchema.decode PSchema.encode
  cases ht : ps.tail with
  | none =>
    rw [ht] at h; simp only
    have := schema_RT ps.body v [] h
    simpa using this
  | rest max =>
    rw [ht] at h; simp only
    obtain ⟨x, r, rfl, hx, hm⟩ := h
    simp only [Val.fst, Val.snd, Val.getBytes]
    rw [schema_RT ps.body x r hx]
    simp [hm]

theorem numBounds_RT (k : NumKind) (mn mx : Val) (rest : Bytes) (h1 : k.leaf.wf mn) (h2 : k.leaf.wf mx) :
    nbDecode k (nbEncode k mn mx ++ rest) = .ok ((mn, mx), rest) := by
  unfold nbDecode nbEncode nbFlag
  by_cases hmn : mn = k.lo <;> by_cases hmx : mx = k.hi
  · subst hmn; subst hmx
    simp [readByte]
  · subst hmn
    have := prim_RT k.leaf mx rest h2
    simp [readByte, hmx, this]
  · subst hmx
    have := prim_RT k.leaf mn rest h1
    simp [readByte, hmn, this]
  · have e1 := prim_RT k.leaf mn (k.leaf.enc mx ++ rest) h1
    have e2 := prim_RT k.leaf mx rest h2
    simp [readByte, hmn, hmx, e1, e2]

theorem registry_partition :
    Gate.Gen.C04.registryTypes.Perm (fullTypes ++ opaqueTypes ++ unmodelledTypes) := by decide +kernel

/-- whether a type has a schema is a matter of its name alone: a classified one has it in every context -/
theorem modelled_have_schema (name : String) (hn : name ∈ fullTypes ++ opaqueTypes) (c : Ctx) :
    (schemaOf name c).isSome = true := by
  unfold schemaOf
  split
  -- `h_63` is the catch-all arm of `schemaOf`: there the 62 name tests before it have failed, which membership in
  -- the two lists (62 names) contradicts
  case h_63 =>
    simp only [fullTypes, opaqueTypes, List.cons_append, List.nil_append, List.mem_cons, List.mem_nil_iff,
      or_false] at hn
    grind
  all_goals rfl

end Gate.C04
