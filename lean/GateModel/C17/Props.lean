import GateModel.C17.Lemmas
import GateModel.C17.Spec
/-
C17 — Initial and fallback server choice follows forced hosts, then the try list.

`w : World` is ANY configuration (forced hosts, try list), registry and virtual host;
`s : PState` ANY player state (remembered list, cursor, current and in-flight server).
-/
namespace Gate.C17.Props
open Gate Gate.C17

/-! ### the virtual host is compared without case, port, Forge and TCPShield suffixes -/

/-- "<host>:<port>" -/
theorem host_with_port (h p : Bytes) (hh : HostChars h) (hd : NoEdgeDots h)
    (hp : ∀ b ∈ p, b ≠ 0 ∧ b ≠ 46 ∧ b ≠ 47 ∧ b ≠ 58 ∧ b ≠ 91 ∧ b ≠ 93) :
    cleanHost (h ++ 58 :: p) = lower h := by
  have hall0 : ∀ b ∈ h ++ 58 :: p, b ≠ 0 :=
    forall_ne_append_cons (by decide) (fun b hb => (hh b hb).1) (fun b hb => (hp b hb).1)
  have hall47 : ∀ b ∈ h ++ 58 :: p, b ≠ 47 :=
    forall_ne_append_cons (by decide) (fun b hb => (hh b hb).2.1) (fun b hb => (hp b hb).2.2.1)
  have hdots : NoEdgeDots (h ++ 58 :: p) := by
    constructor
    · cases h with
      | nil => simp
      | cons b t => simpa using hd.1
    · -- the last byte is the colon or a byte of the port
      rw [List.getLast?_append]
      cases hy : (58 :: p : Bytes).getLast? with
      | none => simp at hy
      | some y =>
        rcases List.mem_cons.mp (List.mem_of_getLast? hy) with rfl | hm
        · simp
        · simpa using (hp y hm).2.1
  unfold cleanHost clearVirtualHost
  rw [beforeNul_id _ hall0, beforeTriple_id _ hall47, trimDots_id _ hdots,
    hostStr_hostPort h p hh (fun b hb => ⟨(hp b hb).2.2.2.1, (hp b hb).2.2.2.2⟩)]

/-- "<host>\0<anything>" (Forge marker; the port the proxy appends comes after it) -/
theorem host_with_forge_suffix (h x : Bytes) (hh : HostChars h) (hd : NoEdgeDots h) :
    cleanHost (h ++ 0 :: x) = lower h := by
  unfold cleanHost clearVirtualHost
  rw [beforeNul_append h _ (fun b hb => (hh b hb).1), beforeNul_nul, List.append_nil,
    beforeTriple_id h (fun b hb => (hh b hb).2.1), trimDots_id h hd,
    hostStr_noColon h (fun b hb => (hh b hb).2.2.1)]

/-- "<host>///<anything>" (TCPShield real-ip data, possibly followed by a Forge marker and the port) -/
theorem host_with_tcpshield_suffix (h x : Bytes) (hh : HostChars h) (hd : NoEdgeDots h) :
    cleanHost (h ++ 47 :: 47 :: 47 :: x) = lower h := by
  unfold cleanHost clearVirtualHost
  rw [beforeNul_append h _ (fun b hb => (hh b hb).1), beforeTriple_append h _ (fun b hb => (hh b hb).2.1)]
  have hb : beforeNul (47 :: 47 :: 47 :: x) = 47 :: 47 :: 47 :: beforeNul x :=
    beforeNul_append [47, 47, 47] x (by decide)
  rw [hb, beforeTriple_triple, List.append_nil, trimDots_id h hd, hostStr_noColon h (fun b hb => (hh b hb).2.2.1)]

/-- a bare host -/
theorem host_bare (h : Bytes) (hh : HostChars h) (hd : NoEdgeDots h) : cleanHost h = lower h := by
  unfold cleanHost clearVirtualHost
  rw [beforeNul_id h (fun b hb => (hh b hb).1), beforeTriple_id h (fun b hb => (hh b hb).2.1), trimDots_id h hd,
    hostStr_noColon h (fun b hb => (hh b hb).2.2.1)]

/-- hence: two spellings of hosts that differ only in case (and port) select the same forced-host entry -/
theorem forced_lookup_spelling_independent (forced : List (Bytes × List Name)) (h₁ h₂ p₁ p₂ : Bytes)
    (hh₁ : HostChars h₁) (hd₁ : NoEdgeDots h₁) (hh₂ : HostChars h₂) (hd₂ : NoEdgeDots h₂)
    (hp₁ : ∀ b ∈ p₁, b ≠ 0 ∧ b ≠ 46 ∧ b ≠ 47 ∧ b ≠ 58 ∧ b ≠ 91 ∧ b ≠ 93)
    (hp₂ : ∀ b ∈ p₂, b ≠ 0 ∧ b ≠ 46 ∧ b ≠ 47 ∧ b ≠ 58 ∧ b ≠ 91 ∧ b ≠ 93) (hcase : lower h₁ = lower h₂) :
    lookupForced forced (cleanHost (h₁ ++ 58 :: p₁)) = lookupForced forced (cleanHost (h₂ ++ 58 :: p₂)) := by
  rw [host_with_port h₁ p₁ hh₁ hd₁ hp₁, host_with_port h₂ p₂ hh₂ hd₂ hp₂, hcase]

/-- what the real code does NOT remove (outside the property's statement, recorded): a trailing dot in front of
    a port survives, behind a Forge marker it is trimmed -/
-- "play.example.com.:25565" ↦ "play.example.com."
example : cleanHost [112, 108, 97, 121, 46, 101, 120, 97, 109, 112, 108, 101, 46, 99, 111, 109, 46, 58, 50, 53, 53, 54, 53] = [112, 108, 97, 121, 46, 101, 120, 97, 109, 112, 108, 101, 46, 99, 111, 109, 46] := by decide +kernel
-- "play.example.com.\0FML\0:25565" ↦ "play.example.com"
example : cleanHost [112, 108, 97, 121, 46, 101, 120, 97, 109, 112, 108, 101, 46, 99, 111, 109, 46, 0, 70, 77, 76, 0, 58, 50, 53, 53, 54, 53] = [112, 108, 97, 121, 46, 101, 120, 97, 109, 112, 108, 101, 46, 99, 111, 109] := by decide +kernel
-- "PLAY.Example.COM///10.0.0.1:5///17\0FML\0:25565" ↦ "play.example.com"
example : cleanHost [80, 76, 65, 89, 46, 69, 120, 97, 109, 112, 108, 101, 46, 67, 79, 77, 47, 47, 47, 49, 48, 46, 48, 46, 48, 46, 49, 58, 53, 47, 47, 47, 49, 55, 0, 70, 77, 76, 0, 58, 50, 53, 53, 54, 53] = [112, 108, 97, 121, 46, 101, 120, 97, 109, 112, 108, 101, 46, 99, 111, 109] := by decide +kernel

/-! ### the choice: the first registered entry from the cursor on that is not excluded -/

/-- The model's choice IS the property's choice: the first entry at or after the cursor that is registered and
    is neither the failed (`cur`), the current nor the in-flight server. -/
theorem next_is_spec_choice (w : World) (s : PState) (cur : Option Name) :
    (nextServerToTry .repaired w s cur).2 =
      specChoice w.reg (chosenList w s) s.idx (optList cur ++ optList s.conn ++ optList s.infl) := by
  have hskip : ∀ n, skips .repaired s cur n =
      (optList cur ++ optList s.conn ++ optList s.infl).any (fun x => lower x = lower n) := by
    intro n
    cases cur <;> cases hc : s.conn <;> cases hi : s.infl <;>
      simp [skips, same, optList, hc, hi, Bool.or_comm]
  unfold nextServerToTry specChoice
  by_cases he : (chosenList w s).isEmpty = true
  · have : chosenList w s = [] := by simpa using he
    simp [this]
  · simp only [he]
    rw [scan_snd]
    simp only [hskip, Bool.false_eq_true, if_false]

/-- A joining player (fresh state, nothing to skip) is sent to the first registered server listed for its
    virtual host, or of the try list when there is no (non-empty) forced-host entry. -/
theorem initial_choice (w : World) :
    (nextServerToTry .repaired w PState.fresh none).2 =
      (let f := lookupForced w.forced (cleanHost w.vhost)
       (if f.isEmpty then w.try_ else f).findSome? (lookupReg w.reg)) := by
  rw [next_is_spec_choice]
  simp [specChoice, chosenList, PState.fresh, optList]

/-- After a kick from `failed`: the server returned is registered, is listed at the new cursor position, and is
    none of the failed, the current and the in-flight server; every earlier position from the old cursor on
    was excluded or unregistered. -/
theorem next_after_kick (w : World) (s s' : PState) (failed r : Name)
    (h : nextServerToTry .repaired w s (some failed) = (s', some r)) :
    r ∈ w.reg ∧ r ≠ failed ∧ s.conn ≠ some r ∧ s.infl ≠ some r ∧
    ∃ n, (chosenList w s)[s'.idx]? = some n ∧ s.idx ≤ s'.idx ∧ lookupReg w.reg n = some r ∧
      ∀ j n', s.idx ≤ j → j < s'.idx → (chosenList w s)[j]? = some n' →
        skips .repaired s (some failed) n' = true ∨ lookupReg w.reg n' = none := by
  obtain ⟨_, _, _, _, _, n, hn, hle, hreg, hskip, hbefore⟩ := next_some h
  obtain ⟨hmem, hlow⟩ := lookupReg_lower hreg
  simp only [skips, Bool.or_eq_false_iff] at hskip
  obtain ⟨⟨hc, hi⟩, hf⟩ := hskip
  -- `r` has the lower-cased name of the list entry `n`, which none of the three excluded servers has
  exact ⟨hmem, fun he => same_repaired_false hf r (congrArg some he.symm) hlow,
    fun he => same_repaired_false hc r he hlow, fun he => same_repaired_false hi r he hlow,
    n, hn, hle, hreg, hbefore⟩

/-- When the call returns nothing, no listed server from the cursor on is registered and eligible. -/
theorem none_left (w : World) (s s' : PState) (cur : Option Name)
    (h : nextServerToTry .repaired w s cur = (s', none)) :
    ∀ j n, s.idx ≤ j → (chosenList w s)[j]? = some n →
      skips .repaired s cur n = true ∨ lookupReg w.reg n = none := by
  intro j' n hlo hn
  rcases next_cases h with ⟨he, _⟩ | ⟨_, j, hsc, _⟩
  · rw [he] at hn
    cases hn
  · refine scan_none hsc n (List.mem_of_getElem? (i := j' - s.idx) ?_)
    rw [List.getElem?_drop, show s.idx + (j' - s.idx) = j' by omega]
    exact hn

/-- … and then the player is disconnected with the given reason (one event, DisconnectPlayerKickResult). -/
theorem exhausted_disconnects (w : World) (fuel : Nat) (s s' : PState) (rs : Name) (reason : Bytes)
    (ha : s.active = true) (hcur : s.conn = none ∨ s.conn = some rs)
    (h : nextServerToTry .repaired w s (some rs) = (s', none)) :
    (kick .repaired w (fuel + 1) s rs reason true).evs = [⟨rs, false, .disconnect reason⟩] ∧
    (kick .repaired w (fuel + 1) s rs reason true).st.active = false := by
  have hc : (s.conn.isNone || s.conn == some rs) = true := by
    rcases hcur with h1 | h1 <;> simp [h1]
  simp [kick, ha, hc, h]

/-- A kick from a server that is not the current one (a failed switch) only notifies: the player stays. -/
theorem notify_when_not_current (w : World) (fuel : Nat) (s : PState) (rs cur : Name) (reason : Bytes)
    (ha : s.active = true) (hconn : s.conn = some cur) (hne : cur ≠ rs) :
    (kick .repaired w (fuel + 1) s rs reason true).evs = [⟨rs, true, .notify reason⟩] ∧
    (kick .repaired w (fuel + 1) s rs reason true).st = { s with infl := none } := by
  have hc : (s.conn.isNone || s.conn == some rs) = false := by simp [hconn, hne]
  simp [kick, ha, hc]

theorem cursor_reset_on_connect (s : PState) (c : Option Name) : (setConnected s c).idx = 0 := rfl

/-! ### a chain of failing redirects moves through the list and ends -/

/-- Re-entered after a redirect to `rs` failed, the choice moves strictly forward in the list. -/
theorem failed_redirect_moves_on (w : World) (L : List Name) (s s' : PState) (rs r : Name)
    (hot : Hot w L s rs) (h : nextServerToTry .repaired w s (some rs) = (s', some r)) : s.idx < s'.idx :=
  (next_hot hot h).1

/-- A chain of failing redirects always ends: with fuel ≥ length of the list + 2 the model never runs out of
    fuel, for every configuration, state, failed server and reason (the real recursion is bounded). -/
theorem chain_always_ends (w : World) (s : PState) (rs : Name) (reason : Bytes) (safe : Bool) (fuel : Nat)
    (hf : (chosenList w s).length + 2 ≤ fuel) :
    (kick .repaired w fuel s rs reason safe).runaway = false := by
  cases fuel with
  | zero => omega
  | succ fuel =>
    rcases kick_runaway_succ .repaired w fuel s rs reason safe with h | ⟨s1, r, hnx, he⟩
    · exact h
    · -- after the first redirect the chain is in a `Hot` state, with all of the list still ahead at most
      obtain ⟨hl, hne, _, _, _, n, hn, _, hreg, _, _⟩ := next_some hnx
      rw [he]
      exact kick_hot_no_runaway w (chosenList w s) fuel { s1 with infl := none, conn := none } r (unableMsg r)
        ⟨hl, hne, rfl, rfl, n, hn, hreg⟩ (by dsimp only; omega)

/-! ### the pre-fix comparison (`rs.ServerInfo().Name() == name`) violates the property -/

def nLobby : Name := [76, 111, 98, 98, 121]   -- "Lobby"
def nlobby : Name := [108, 111, 98, 98, 121]   -- "lobby"
def ns1 : Name := [115, 49]
def ns2 : Name := [115, 50]

/-- try: ["Lobby"], registered: "lobby" -/
def lobbyWorld : World := { forced := [], try_ := [nLobby], reg := [nlobby], vhost := [120, 58, 49] }

/-- the server that just failed is chosen again -/
theorem defective_rechooses_failed_fails :
    ¬ (∀ s' r, nextServerToTry .defective lobbyWorld PState.fresh (some nlobby) = (s', some r) → r ≠ nlobby) := by
  intro h
  have hrun : nextServerToTry .defective lobbyWorld PState.fresh (some nlobby) =
      ({ PState.fresh with list := [nLobby] }, some nlobby) := by decide
  exact h _ _ hrun rfl

/-- … and a chain of failures never ends (any fuel is exhausted; the real code overflowed its stack) -/
theorem defective_chain_runs_away_fails :
    ¬ (kick .defective lobbyWorld 40 PState.fresh nlobby [70] true).runaway = false := by decide +kernel

example : (kick .repaired lobbyWorld 40 PState.fresh nlobby [70] true).evs = [⟨nlobby, false, .disconnect [70]⟩] := by
  decide +kernel

/-! ### the source has the modelled shape (regenerated facts) -/

theorem source_sameName_lowercases : codeVariant = .repaired := by decide +kernel

theorem source_nextServerToTry_shape :
    Gate.Gen.C17.nextServerToTryCalls =
      ["p.mu.Lock", "defer:p.mu.Unlock", "len", "p.getVirtualHostname", "p.config", "len", "p.config", "len", "return",
       "func:{", "rs.ServerInfo", "rs.ServerInfo().Name", "strings.ToLower", "strings.ToLower", "return", "}",
       "len", "p.connectedServer_.Server", "sameName", "p.connInFlight.Server", "sameName", "sameName",
       "p.proxy.Server", "return", "return"] := by decide +kernel

theorem source_getVirtualHostname_shape :
    Gate.Gen.C17.getVirtualHostnameCalls =
      ["return", "p.virtualHost.String", "lite.ClearVirtualHost", "netutil.HostStr", "strings.ToLower", "return"] := by
  decide +kernel

theorem source_clearVirtualHost_shape :
    Gate.Gen.C17.clearVirtualHostCalls = ["strings.Split", "strings.Split", "strings.Trim", "return"] ∧
    Gate.Gen.C17.forgeSeparator = "\x00" ∧ Gate.Gen.C17.tcpShieldSeparator = "///" ∧
    Gate.Gen.C17.clearVirtualHostStrings = ["."] := by decide +kernel

theorem source_hostStr_shape :
    Gate.Gen.C17.splitHostPortCalls =
      ["net.SplitHostPort", "strconv.Atoi", "isMissingPortErr", "isTooManyColonsErr", "uint16", "return"] := by decide +kernel

/-- the registry lower-cases the name it looks up; gate's config loaders lower-case forced-host keys -/
theorem source_case_normalisation :
    Gate.Gen.C17.proxyServerCalls.head? = some "strings.ToLower" ∧
    Gate.Gen.C17.finishConfigCandidateCalls.contains "strings.ToLower" = true := by decide +kernel

theorem source_kick_result_shape :
    Gate.Gen.C17.handleConnectionErr2Calls =
      ["p.Active", "return", "p.Disconnect", "return", "p.CurrentServer", "currentServer.Server",
       "RegisteredServerEqual", "p.nextServerToTry", "p.mu.Lock", "p.connInFlight.Server", "RegisteredServerEqual",
       "p.resetInFlightConnection0", "p.mu.Unlock", "newKickedFromServerEvent", "p.handleKickEvent"] := by decide +kernel

theorem source_messages :
    Gate.Gen.C17.handleConnectionErrStrings.contains "Unable to connect to %q. Try again later." = true ∧
    Gate.Gen.C17.handleDisconnectStrings.contains "Can't connect to server %q: " = true ∧
    Gate.Gen.C17.movedToNewServerStrings = ["The server you were on kicked you: "] := by decide +kernel

/-! ### non-vacuity -/

-- "play.example.com"
example : HostChars [112, 108, 97, 121, 46, 101, 120, 97, 109, 112, 108, 101, 46, 99, 111, 109] ∧ NoEdgeDots [112, 108, 97, 121, 46, 101, 120, 97, 109, 112, 108, 101, 46, 99, 111, 109] := by
  constructor
  · intro b hb; revert b; decide
  · exact ⟨by decide, by decide⟩

/-- forced hosts: play.example.com → [s1, s2]; try: [lobby]; registered: s2, lobby; virtual host
    "PLAY.example.com\0FML\0:25565" -/
def demoWorld : World :=
  { forced := [([112, 108, 97, 121, 46, 101, 120, 97, 109, 112, 108, 101, 46, 99, 111, 109], [ns1, ns2])], try_ := [nlobby], reg := [ns2, nlobby], vhost := [80, 76, 65, 89, 46, 101, 120, 97, 109, 112, 108, 101, 46, 99, 111, 109, 0, 70, 77, 76, 0, 58, 50, 53, 53, 54, 53] }

example : (nextServerToTry .repaired demoWorld PState.fresh none).2 = some ns2 := by decide +kernel
example : (nextServerToTry .repaired demoWorld { PState.fresh with list := [ns1, ns2], idx := 1 } (some ns2)).2 = none := by
  decide +kernel

end Gate.C17.Props
