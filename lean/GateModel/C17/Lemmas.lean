import GateModel.C17.Model
/-
C17 helper lemmas: string-level facts about the host normalisation, the characterisation of the cursor loop,
and the progress argument for a chain of failing redirects.
-/
namespace Gate.C17
open Gate

/-- bytes that cannot occur in a plain host name as far as the normalisation is concerned:
    NUL (Forge separator), '/', ':', '[' and ']' -/
def HostChars (h : Bytes) : Prop := ∀ b ∈ h, b ≠ 0 ∧ b ≠ 47 ∧ b ≠ 58 ∧ b ≠ 91 ∧ b ≠ 93

def NoEdgeDots (h : Bytes) : Prop := h.head? ≠ some 46 ∧ h.getLast? ≠ some 46

theorem beforeNul_append (h r : Bytes) (hh : ∀ b ∈ h, b ≠ 0) : beforeNul (h ++ r) = h ++ beforeNul r := by
  induction h with
  | nil => rfl
  | cons b t ih =>
    have hb : b ≠ 0 := hh b (by simp)
    simp only [List.cons_append, beforeNul, if_neg hb]
    rw [ih (fun x hx => hh x (by simp [hx]))]

theorem beforeNul_nul (x : Bytes) : beforeNul (0 :: x) = [] := by simp [beforeNul]
theorem beforeNul_id (h : Bytes) (hh : ∀ b ∈ h, b ≠ 0) : beforeNul h = h := by
  have := beforeNul_append h [] hh
  simpa [beforeNul] using this

theorem beforeTriple_append (h r : Bytes) (hh : ∀ b ∈ h, b ≠ 47) : beforeTriple (h ++ r) = h ++ beforeTriple r := by
  induction h with
  | nil => rfl
  | cons b t ih =>
    have hb : b ≠ 47 := hh b (by simp)
    simp only [List.cons_append, beforeTriple]
    rw [if_neg (fun h => hb h.1), ih (fun x hx => hh x (by simp [hx]))]

theorem beforeTriple_triple (x : Bytes) : beforeTriple (47 :: 47 :: 47 :: x) = [] := by simp [beforeTriple]
theorem beforeTriple_id (h : Bytes) (hh : ∀ b ∈ h, b ≠ 47) : beforeTriple h = h := by
  have := beforeTriple_append h [] hh
  simpa [beforeTriple] using this

theorem dropDots_id (s : Bytes) (h : s.head? ≠ some 46) : dropDots s = s := by
  cases s with
  | nil => rfl
  | cons b t =>
    have : b ≠ 46 := by simpa using h
    simp [dropDots, List.dropWhile, this]

theorem trimDots_id (s : Bytes) (h : NoEdgeDots s) : trimDots s = s := by
  unfold trimDots
  rw [dropDots_id s h.1, dropDots_id s.reverse (by simpa using h.2), List.reverse_reverse]

theorem lastIndexOf_none (c : UInt8) (p : Bytes) (h : ∀ b ∈ p, b ≠ c) : lastIndexOf c p = none := by
  induction p with
  | nil => rfl
  | cons b t ih =>
    have hb : b ≠ c := h b (by simp)
    simp [lastIndexOf, ih (fun x hx => h x (by simp [hx])), hb]

theorem lastIndexOf_append (c : UInt8) (h p : Bytes) (hp : ∀ b ∈ p, b ≠ c) :
    lastIndexOf c (h ++ c :: p) = some h.length := by
  induction h with
  | nil => simp [lastIndexOf, lastIndexOf_none c p hp]
  | cons b t ih => simp [lastIndexOf, ih]

theorem forall_ne_append_cons {c x : UInt8} {h p : Bytes} (hx : x ≠ c) (h1 : ∀ b ∈ h, b ≠ c)
    (h2 : ∀ b ∈ p, b ≠ c) : ∀ b ∈ h ++ x :: p, b ≠ c := by
  intro b hb
  rcases List.mem_append.mp hb with hb | hb
  · exact h1 b hb
  · rcases List.mem_cons.mp hb with hb | hb
    · rw [hb]
      exact hx
    · exact h2 b hb

theorem contains_false_of (c : UInt8) (s : Bytes) (h : ∀ b ∈ s, b ≠ c) : s.contains c = false := by
  cases hc : s.contains c with
  | false => rfl
  | true =>
    have := List.contains_iff_mem.mp hc
    exact absurd rfl (h c this)

theorem hostStr_noColon (h : Bytes) (hh : ∀ b ∈ h, b ≠ 58) : hostStr h = h := by
  simp [hostStr, lastIndexOf_none 58 h hh]

/-- "<host>:<port>" → host, for a host without the special bytes and a port without ':' '[' ']' -/
theorem hostStr_hostPort (h p : Bytes) (hh : HostChars h) (hp : ∀ b ∈ p, b ≠ 58 ∧ b ≠ 91 ∧ b ≠ 93) :
    hostStr (h ++ 58 :: p) = h := by
  have hl := lastIndexOf_append 58 h p (fun b hb => (hp b hb).1)
  have hhead : (h ++ 58 :: p).head? ≠ some 91 := by
    cases h with
    | nil => simp
    | cons b t =>
      have := (hh b (by simp)).2.2.2.1
      simpa using this
  have h58 : (List.take h.length (h ++ 58 :: p)).contains 58 = false := by
    rw [List.take_left']
    · exact contains_false_of 58 h (fun b hb => (hh b hb).2.2.1)
    · rfl
  have h91 := contains_false_of 91 _ (forall_ne_append_cons (x := 58) (by decide)
    (fun b hb => (hh b hb).2.2.2.1) (fun b hb => (hp b hb).2.1))
  have h93 := contains_false_of 93 _ (forall_ne_append_cons (x := 58) (by decide)
    (fun b hb => (hh b hb).2.2.2.2) (fun b hb => (hp b hb).2.2))
  simp only [hostStr, hl]
  rw [if_neg hhead]
  simp only [h58, h91, h93]
  simp [List.take_left']

theorem lower_append (a b : Bytes) : lower (a ++ b) = lower a ++ lower b := by simp [lower]

theorem scan_some {skip : Name → Bool} {reg : Name → Option Name} :
    ∀ {l : List Name} {i idx j : Nat} {r : Name}, scan skip reg l i idx = (j, some r) →
      ∃ k n, l[k]? = some n ∧ j = i + k ∧ skip n = false ∧ reg n = some r ∧
        ∀ k' n', k' < k → l[k']? = some n' → skip n' = true ∨ reg n' = none
  | [], i, idx, j, r, h => by simp [scan] at h
  | n :: rest, i, idx, j, r, h => by
    -- when `n` is passed over, the entry found in `rest` sits one position further
    have pass {idx' : Nat} (hn : skip n = true ∨ reg n = none)
        (h' : scan skip reg rest (i + 1) idx' = (j, some r)) :
        ∃ k m, (n :: rest)[k]? = some m ∧ j = i + k ∧ skip m = false ∧ reg m = some r ∧
          ∀ k' n', k' < k → (n :: rest)[k']? = some n' → skip n' = true ∨ reg n' = none := by
      obtain ⟨k, m, hk, hj, h1, h2, h3⟩ := scan_some h'
      refine ⟨k + 1, m, by simpa using hk, by omega, h1, h2, ?_⟩
      intro k' n' hk' hn'
      cases k' with
      | zero => simp at hn'; subst hn'; exact hn
      | succ k'' => exact h3 k'' n' (by omega) (by simpa using hn')
    simp only [scan] at h
    by_cases hs : skip n = true
    · rw [if_pos hs] at h
      exact pass (.inl hs) h
    · rw [if_neg hs] at h
      cases hr : reg n with
      | some r' =>
        rw [hr] at h
        simp only [Prod.mk.injEq, Option.some.injEq] at h
        refine ⟨0, n, by simp, by omega, by simpa using hs, by rw [hr, h.2], ?_⟩
        intro k' n' hk' _
        omega
      | none =>
        rw [hr] at h
        exact pass (.inr hr) h

/-- what the loop returns: the first entry that is not skipped and is registered -/
theorem scan_snd {skip : Name → Bool} {reg : Name → Option Name} :
    ∀ (l : List Name) (i idx : Nat),
      (scan skip reg l i idx).2 = l.findSome? fun n => if skip n = true then none else reg n
  | [], _, _ => rfl
  | n :: rest, i, idx => by
    rw [scan, List.findSome?_cons]
    by_cases hs : skip n = true
    · rw [if_pos hs, if_pos hs]
      exact scan_snd rest _ _
    · rw [if_neg hs, if_neg hs]
      cases reg n with
      | some r => rfl
      | none => exact scan_snd rest _ _

theorem scan_none {skip : Name → Bool} {reg : Name → Option Name} {l : List Name} {i idx j : Nat}
    (h : scan skip reg l i idx = (j, none)) : ∀ n ∈ l, skip n = true ∨ reg n = none := by
  intro n hn
  have h2 := congrArg Prod.snd h
  rw [scan_snd, List.findSome?_eq_none_iff] at h2
  have := h2 n hn
  by_cases hs : skip n = true
  · exact .inl hs
  · rw [if_neg hs] at this
    exact .inr this

/-- with nothing to skip the loop returns the first registered entry -/
theorem scan_noskip {skip : Name → Bool} {reg : Name → Option Name} :
    ∀ (l : List Name) (i idx : Nat), (∀ n ∈ l, skip n = false) → (scan skip reg l i idx).2 = l.findSome? reg := by
  intro l i idx h
  rw [scan_snd]
  induction l with
  | nil => rfl
  | cons n rest ih =>
    have hn : ¬ skip n = true := by
      rw [h n List.mem_cons_self]
      exact Bool.false_ne_true
    rw [List.findSome?_cons, List.findSome?_cons, if_neg hn]
    cases reg n with
    | some r => rfl
    | none => exact ih fun m hm => h m (List.mem_cons_of_mem _ hm)

theorem lookupReg_lower {reg : List Name} {n r : Name} (h : lookupReg reg n = some r) :
    r ∈ reg ∧ lower r = lower n := by
  unfold lookupReg at h
  have h1 := List.find?_some h
  have h2 := List.mem_of_find?_eq_some h
  exact ⟨h2, by simpa using h1⟩

theorem same_repaired_of_lower {a n : Name} (h : lower a = lower n) : same .repaired (some a) n = true := by
  simp [same, h]

theorem same_repaired_false {a : Option Name} {n : Name} (h : same .repaired a n = false) :
    ∀ x, a = some x → lower x ≠ lower n := by
  intro x hx
  subst hx
  simpa [same] using h

theorem chosenList_of_nonempty (w : World) (s : PState) (h : s.list ≠ []) : chosenList w s = s.list := by
  unfold chosenList
  have : s.list.isEmpty = false := by
    cases hl : s.list with
    | nil => exact absurd hl h
    | cons a t => rfl
  simp [this]

/-- a call is one run of the cursor loop over the chosen list, from the remembered position -/
theorem next_cases {w : World} {s s1 : PState} {cur o : Option Name}
    (h : nextServerToTry .repaired w s cur = (s1, o)) :
    (chosenList w s = [] ∧ o = none) ∨
    (chosenList w s ≠ [] ∧ ∃ j,
      scan (skips .repaired s cur) (lookupReg w.reg) ((chosenList w s).drop s.idx) s.idx s.idx = (j, o) ∧
      s1 = { s with list := chosenList w s, idx := j }) := by
  unfold nextServerToTry at h
  by_cases he : (chosenList w s).isEmpty = true
  · simp only [he, if_true, Prod.mk.injEq] at h
    exact .inl ⟨List.isEmpty_iff.mp he, h.2.symm⟩
  · simp only [he] at h
    cases hsc : scan (skips .repaired s cur) (lookupReg w.reg) ((chosenList w s).drop s.idx) s.idx s.idx with
    | mk j r' =>
      rw [hsc] at h
      simp only [Bool.false_eq_true, ↓reduceIte, Prod.mk.injEq] at h
      exact .inr ⟨fun hn => he (by rw [hn]; rfl), j, by rw [h.2], h.1.symm⟩

/-- everything a successful call guarantees (repaired code) -/
theorem next_some {w : World} {s s1 : PState} {cur : Option Name} {r : Name}
    (h : nextServerToTry .repaired w s cur = (s1, some r)) :
    let L := chosenList w s
    s1.list = L ∧ L ≠ [] ∧ s1.conn = s.conn ∧ s1.infl = s.infl ∧ s1.active = s.active ∧
    ∃ n, L[s1.idx]? = some n ∧ s.idx ≤ s1.idx ∧ lookupReg w.reg n = some r ∧
      skips .repaired s cur n = false ∧
      ∀ j n', s.idx ≤ j → j < s1.idx → L[j]? = some n' →
        skips .repaired s cur n' = true ∨ lookupReg w.reg n' = none := by
  intro L
  rcases next_cases h with ⟨_, ho⟩ | ⟨hne, j, hsc, rfl⟩
  · cases ho
  obtain ⟨k, n, hk, hj, h1, h2, h3⟩ := scan_some hsc
  refine ⟨rfl, hne, rfl, rfl, rfl, n, ?_, by dsimp only; omega, h2, h1, ?_⟩
  · dsimp only
    rw [hj, ← List.getElem?_drop]
    exact hk
  · intro j' n' hlo hhi hn'
    dsimp only at hhi
    refine h3 (j' - s.idx) n' (by omega) ?_
    rw [List.getElem?_drop, show s.idx + (j' - s.idx) = j' by omega]
    exact hn'

/-! ### a chain of failing redirects makes progress -/

/-- the state in which handleConnectionErr2 is re-entered after a redirect to `rs` failed -/
structure Hot (w : World) (L : List Name) (s : PState) (rs : Name) : Prop where
  list_eq : s.list = L
  ne      : L ≠ []
  conn    : s.conn = none
  infl    : s.infl = none
  at_idx  : ∃ n', L[s.idx]? = some n' ∧ lookupReg w.reg n' = some rs

theorem next_hot {w : World} {L : List Name} {s s1 : PState} {rs r : Name} (hot : Hot w L s rs)
    (h : nextServerToTry .repaired w s (some rs) = (s1, some r)) :
    s.idx < s1.idx ∧ Hot w L { s1 with infl := none, conn := none } r := by
  have hL : chosenList w s = L := by
    rw [chosenList_of_nonempty w s (by rw [hot.list_eq]; exact hot.ne), hot.list_eq]
  obtain ⟨hl, hne, _, _, _, n, hn, hle, hreg, hskip, _⟩ := next_some h
  rw [hL] at hl hn
  obtain ⟨n', hn', hreg'⟩ := hot.at_idx
  have hlt : s.idx < s1.idx := by
    rcases Nat.lt_or_ge s.idx s1.idx with h1 | h1
    · exact h1
    · exfalso
      have heq : s1.idx = s.idx := by omega
      rw [heq, hn'] at hn
      simp only [Option.some.injEq] at hn
      subst hn
      have := same_repaired_of_lower (lookupReg_lower hreg').2
      simp [skips, this] at hskip
  exact ⟨hlt, ⟨hl, hot.ne, rfl, rfl, n, hn, hreg⟩⟩

/-- one round of `kick` ends the chain, or redirects and goes on from where `nextServerToTry` stopped -/
theorem kick_runaway_succ (v : Variant) (w : World) (fuel : Nat) (s : PState) (rs : Name) (fr : Bytes)
    (safe : Bool) :
    (kick v w (fuel + 1) s rs fr safe).runaway = false ∨
    ∃ s1 r, nextServerToTry v w s (some rs) = (s1, some r) ∧
      (kick v w (fuel + 1) s rs fr safe).runaway =
        (kick v w fuel { s1 with infl := none, conn := none } r (unableMsg r) true).runaway := by
  simp only [kick]
  by_cases ha : s.active = true
  · by_cases hs : safe = true
    · by_cases hc : (s.conn.isNone || s.conn == some rs) = true
      · simp only [ha, hs, hc, Bool.not_true, Bool.false_eq_true, ↓reduceIte]
        cases hnx : nextServerToTry v w s (some rs) with
        | mk s1 next =>
          cases next with
          | none => exact .inl rfl
          | some r => exact .inr ⟨s1, r, rfl, rfl⟩
      · left
        simp only [ha, hs, hc, Bool.not_true, Bool.false_eq_true, ↓reduceIte]
    · left
      simp only [ha, hs, Bool.not_true, Bool.false_eq_true, ↓reduceIte, Bool.not_false]
  · left
    simp only [ha, Bool.not_false, ↓reduceIte]

theorem kick_hot_no_runaway (w : World) (L : List Name) :
    ∀ (fuel : Nat) (s : PState) (rs : Name) (fr : Bytes), Hot w L s rs → L.length - s.idx ≤ fuel →
      (kick .repaired w fuel s rs fr true).runaway = false
  | 0, s, rs, _, hot, hf => by
    exfalso
    obtain ⟨n', hn', _⟩ := hot.at_idx
    have : s.idx < L.length := by
      rcases Nat.lt_or_ge s.idx L.length with h | h
      · exact h
      · rw [List.getElem?_eq_none h] at hn'; simp at hn'
    omega
  | fuel + 1, s, rs, fr, hot, hf => by
    rcases kick_runaway_succ .repaired w fuel s rs fr true with h | ⟨s1, r, hnx, he⟩
    · exact h
    · -- the cursor has moved on, so the smaller fuel still covers the rest of the list
      obtain ⟨hlt, hot'⟩ := next_hot hot hnx
      rw [he]
      exact kick_hot_no_runaway w L fuel { s1 with infl := none, conn := none } r (unableMsg r) hot'
        (by dsimp only; omega)

end Gate.C17
