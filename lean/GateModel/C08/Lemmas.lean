import GateModel.C08.Model
/- C08 helper lemmas: equations of the step function branch by branch, the kinds of step they add up to
   (`StepKind`), and by cases on those the reachability invariant of the login machine (including the phase
   in which the completion of the login start is deferred) and the count of LoginSuccess. -/
namespace Gate.C08

theorem closeWith_fst (o : List Out) : (closeWith o).1 = { phase := .closed } := rfl
theorem closeWith_snd (o : List Out) : (closeWith o).2 = o := rfl

/-- the state in which an accepted login start leaves the connection until its completion has run -/
def started (cfg : Cfg) (name nonce : Bytes) (key : KeyClass) : St :=
  { phase := .waiting, name := name, verify := nonce, outstanding := msgIds (cfg.preMsgs name),
    hasKey := effKey cfg key == .valid }

section eqs
variable {cfg : Cfg} {env : Env} {s : St} {name nonce : Bytes} {key : KeyClass}

theorem loginStep_undecodable (hd : decodable name = false) : loginStep cfg name nonce key = closeWith [.close] := by
  simp [loginStep, hd]
theorem loginStep_badname (hd : decodable name = true) (hv : validName name = false) :
    loginStep cfg name nonce key = closeWith [.disconnect .badName] := by
  simp [loginStep, hd, hv]
section
variable (hd : decodable name = true) (hv : validName name = true)
include hd hv
theorem loginStep_keyreject {r : Reason} (hk : keyReject cfg key = some r) :
    loginStep cfg name nonce key = closeWith [.disconnect r] := by
  simp [loginStep, hd, hv, hk]
variable (hkr : keyReject cfg key = none)
include hkr
theorem loginStep_denied (hden : cfg.preLogin name = .denied) :
    loginStep cfg name nonce key = closeWith [.preLoginEvent name, .disconnect .denied] := by
  simp [loginStep, hd, hv, hkr, hden]
theorem loginStep_wait (hden : cfg.preLogin name ≠ .denied) (hk : cfg.preMsgs name ≠ 0) :
    loginStep cfg name nonce key =
      (started cfg name nonce key, .preLoginEvent name :: (msgIds (cfg.preMsgs name)).map .pluginMsg) := by
  simp [loginStep, hd, hv, hkr, hden, hk, started]
theorem loginStep_now (hden : cfg.preLogin name ≠ .denied) (hk : cfg.preMsgs name = 0) :
    loginStep cfg name nonce key =
      ((complete cfg (started cfg name nonce key)).1,
       .preLoginEvent name :: (complete cfg (started cfg name nonce key)).2) := by
  simp [loginStep, hd, hv, hkr, hden, hk, started]
end

theorem complete_auth (h : needsAuth cfg s.name = true) :
    complete cfg s = ({ s with phase := .encSent, outstanding := [] }, [.encReq s.verify]) := by
  simp [complete, h]
theorem complete_offline (h : needsAuth cfg s.name = false) :
    complete cfg s = ({ s with phase := .successSent, outstanding := [] }, admitSeq cfg s.name false) := by
  simp [complete, h]

theorem pluginStep_unknown {id : Int} (h : s.outstanding.contains id = false) : pluginStep cfg s id = (s, []) := by
  simp only [pluginStep, h, Bool.false_eq_true, ↓reduceIte]
theorem pluginStep_more {id : Int} (h : s.outstanding.contains id = true)
    (hr : (s.outstanding.filter (· != id)).isEmpty = false) :
    pluginStep cfg s id = ({ s with outstanding := s.outstanding.filter (· != id) }, [.consumed id]) := by
  simp only [pluginStep, h, hr]; rfl
theorem pluginStep_last {id : Int} (h : s.outstanding.contains id = true)
    (hr : (s.outstanding.filter (· != id)).isEmpty = true) :
    pluginStep cfg s id = ((complete cfg { s with outstanding := [] }).1,
      .consumed id :: (complete cfg { s with outstanding := [] }).2) := by
  simp only [pluginStep, h, hr]; rfl

section
variable {tok : Option Bytes} {salt sg : Bool} {sec : Bytes}
theorem encStep_noverify {secret} (he : s.verify.isEmpty = true) :
    encStep cfg env s tok secret salt sg = closeWith [.close] := by
  simp [encStep, he]
variable (he : s.verify.isEmpty = false)
include he
theorem encStep_badtoken {secret} (ht : tokenOk s tok salt sg = false) :
    encStep cfg env s tok secret salt sg = closeWith [.close] := by
  simp [encStep, he, ht]
variable (ht : tokenOk s tok salt sg = true)
include ht
theorem encStep_nosecret : encStep cfg env s tok none salt sg = closeWith [.close] := by
  simp [encStep, he, ht]
theorem encStep_badlen (hk : keyLenOk sec.length = false) :
    encStep cfg env s tok (some sec) salt sg = closeWith [.disconnect .internal] := by
  simp [encStep, he, ht, hk]
variable (hk : keyLenOk sec.length = true)
include hk
theorem encStep_error (hs : env.sess s.name sec = .error) :
    encStep cfg env s tok (some sec) salt sg = closeWith [.encOn sec, .hasJoined s.name sec, .disconnect .unable] := by
  simp [encStep, he, ht, hk, hs]
theorem encStep_offline (hs : env.sess s.name sec = .offline) :
    encStep cfg env s tok (some sec) salt sg = closeWith [.encOn sec, .hasJoined s.name sec, .disconnect .onlineOnly] := by
  simp [encStep, he, ht, hk, hs]
theorem encStep_badprofile (hs : env.sess s.name sec = .badProfile) :
    encStep cfg env s tok (some sec) salt sg = closeWith [.encOn sec, .hasJoined s.name sec, .disconnect .unable] := by
  simp [encStep, he, ht, hk, hs]
theorem encStep_online (hs : env.sess s.name sec = .online) :
    encStep cfg env s tok (some sec) salt sg =
      ({ s with phase := .successSent }, [.encOn sec, .hasJoined s.name sec] ++ admitSeq cfg s.name true) := by
  simp [encStep, he, ht, hk, hs]
end

theorem step_login_expect (hp : s.phase = .expect) : step cfg env s (.login name nonce key) = loginStep cfg name nonce key := by
  simp [step, hp]
theorem step_login_wrong (h : s.phase = .waiting ∨ s.phase = .encSent ∨ s.phase = .successSent) :
    step cfg env s (.login name nonce key) = closeWith [.close] := by
  rcases h with h | h | h <;> simp [step, h]
theorem step_enc_encSent {tok secret} {salt sg : Bool} (hp : s.phase = .encSent) :
    step cfg env s (.encResp tok secret salt sg) = encStep cfg env s tok secret (cfg.keyEra && salt) sg := by
  simp [step, hp]
theorem step_enc_wrong {tok secret} {salt sg : Bool} (h : s.phase = .expect ∨ s.phase = .waiting ∨ s.phase = .successSent) :
    step cfg env s (.encResp tok secret salt sg) = closeWith [.close] := by
  rcases h with h | h | h <;> simp [step, h]
theorem step_plugin_waiting {id : Int} (hp : s.phase = .waiting) : step cfg env s (.pluginResp id) = pluginStep cfg s id := by
  simp [step, hp]
theorem step_plugin_other {id : Int} (hp : s.phase ≠ .waiting) : step cfg env s (.pluginResp id) = (s, []) := by
  cases h : s.phase <;> simp [step, h] <;> exact absurd h hp
theorem step_ack_wrong (h : s.phase = .expect ∨ s.phase = .waiting ∨ s.phase = .encSent) :
    step cfg env s .ack = closeWith [.close] := by
  rcases h with h | h | h <;> simp [step, h]
theorem step_other_open (h : s.phase = .expect ∨ s.phase = .waiting ∨ s.phase = .encSent ∨ s.phase = .successSent) :
    step cfg env s .other = closeWith [.close] := by
  rcases h with h | h | h | h <;> simp [step, h]
theorem step_done (i : In) (h : s.phase = .closed ∨ s.phase = .config) : step cfg env s i = (s, []) := by
  rcases h with h | h <;> cases i <;> simp [step, h]
end eqs

/-! ### at most one LoginSuccess: the measures -/

/-- rank of a phase: the machine only moves forward -/
def rank : Phase → Nat
  | .expect => 0 | .waiting => 1 | .encSent => 2 | .successSent => 3 | .config => 4 | .closed => 5

def successCount (outs : List Out) : Nat := (outs.filter fun o => match o with | .success _ _ => true | _ => false).length

/-! ### the invariant -/

/-- an admission (LoginSuccess / registration) of a username for which authentication is required -/
def isAuthAdm (cfg : Cfg) : Out → Bool
  | .success n _ => needsAuth cfg n
  | .registered n => needsAuth cfg n
  | _ => false

/-- what has been emitted while the completion is deferred: the PreLogin event, its plugin messages, the
    consumers invoked so far -/
def preamble (cfg : Cfg) (name : Bytes) (cs : List Int) : List Out :=
  .preLoginEvent name :: (msgIds (cfg.preMsgs name)).map .pluginMsg ++ cs.map .consumed

/-- the only way to an admission of a username that requires authentication -/
def chain (cfg : Cfg) (name : Bytes) (cs : List Int) (nonce sec : Bytes) : List Out :=
  preamble cfg name cs ++ [.encReq nonce, .encOn sec, .hasJoined name sec] ++ admitSeq cfg name true

theorem any_map_pluginMsg (cfg : Cfg) (l : List Int) : (l.map Out.pluginMsg).any (isAuthAdm cfg) = false := by
  induction l with
  | nil => rfl
  | cons x xs ih => simp [isAuthAdm, ih]
theorem any_map_consumed (cfg : Cfg) (l : List Int) : (l.map Out.consumed).any (isAuthAdm cfg) = false := by
  induction l with
  | nil => rfl
  | cons x xs ih => simp [isAuthAdm, ih]
theorem preamble_noadm (cfg : Cfg) (name : Bytes) (cs : List Int) : (preamble cfg name cs).any (isAuthAdm cfg) = false := by
  simp [preamble, List.any_append, isAuthAdm]
theorem preamble_snoc (cfg : Cfg) (name : Bytes) (cs : List Int) (id : Int) :
    preamble cfg name (cs ++ [id]) = preamble cfg name cs ++ [.consumed id] := by
  simp [preamble, List.append_assoc]
theorem admitSeq_adm (cfg : Cfg) (n : Bytes) (o : Bool) : (admitSeq cfg n o).any (isAuthAdm cfg) = needsAuth cfg n := by
  cases hc : cfg.compression <;> simp [admitSeq, hc, isAuthAdm]

/-- what the client proved about the verify token: with a (valid) profile key a salted response whose signature
    over (token, salt) verifies; without a key a token field that decrypts to exactly the issued token -/
def TokenProof (cfg : Cfg) (key : KeyClass) (nonce : Bytes) (tok : Option Bytes) (salt sg : Bool) : Prop :=
  if effKey cfg key = .valid then (cfg.keyEra = true ∧ salt = true ∧ sg = true) else tok = some nonce

/-- the machine's verify-token check, made on a connection whose key flag is that of the login start's key,
    establishes `TokenProof` -/
theorem tokenProof_of_tokenOk {cfg : Cfg} {key : KeyClass} {s : St} {tok : Option Bytes} {salt sg : Bool}
    (hkey : s.hasKey = (effKey cfg key == .valid)) (ht : tokenOk s tok (cfg.keyEra && salt) sg = true) :
    TokenProof cfg key s.verify tok salt sg := by
  unfold TokenProof
  unfold tokenOk at ht
  rw [hkey] at ht
  by_cases hkv : effKey cfg key = .valid
  · simp [hkv] at ht ⊢; exact ⟨ht.1.1, ht.1.2, ht.2⟩
  · simp [hkv] at ht ⊢; exact ht

def Good (cfg : Cfg) (env : Env) (done : List In) (outs : List Out) : Prop :=
  outs.any (isAuthAdm cfg) = false ∨
  ∃ name key cs nonce sec tok salt sg tail, outs = chain cfg name cs nonce sec ++ tail ∧ tail.any (isAuthAdm cfg) = false ∧
    In.login name nonce key ∈ done ∧ In.encResp tok (some sec) salt sg ∈ done ∧ TokenProof cfg key nonce tok salt sg ∧
    env.sess name sec = .online ∧ keyLenOk sec.length = true ∧ validName name = true ∧ needsAuth cfg name = true

structure Inv (cfg : Cfg) (env : Env) (done : List In) (s : St) (outs : List Out) : Prop where
  expect : s.phase = .expect → outs = []
  waiting : s.phase = .waiting →
    ∃ cs key, outs = preamble cfg s.name cs ∧ In.login s.name s.verify key ∈ done ∧ validName s.name = true ∧
      s.hasKey = (effKey cfg key == .valid)
  encSent : s.phase = .encSent →
    ∃ cs key, outs = preamble cfg s.name cs ++ [.encReq s.verify] ∧ In.login s.name s.verify key ∈ done ∧
      validName s.name = true ∧ needsAuth cfg s.name = true ∧ s.hasKey = (effKey cfg key == .valid)
  good : Good cfg env done outs

theorem good_mono {cfg env done outs} (i : In) (extra : List Out) (h : Good cfg env done outs)
    (he : extra.any (isAuthAdm cfg) = false) : Good cfg env (done ++ [i]) (outs ++ extra) := by
  rcases h with h | ⟨name, key, cs, nonce, sec, tok, salt, sg, tail, ho, ht, h1, h2, hp, h3, h4, h5, h6⟩
  · left; simp [List.any_append, h, he]
  · right
    refine ⟨name, key, cs, nonce, sec, tok, salt, sg, tail ++ extra, by simp [ho], by simp [List.any_append, ht, he], ?_, ?_, hp, h3, h4, h5, h6⟩
    · simp [h1]
    · simp [h2]

theorem good_done {cfg env done outs} (i : In) (h : Good cfg env done outs) : Good cfg env (done ++ [i]) outs := by
  have := good_mono i [] h rfl
  rwa [List.append_nil] at this

/-- running the completion callback from the deferred phase establishes the invariant -/
theorem complete_inv (cfg : Cfg) (env : Env) (done : List In) (st : St) (cs : List Int) (key : KeyClass)
    (hlog : In.login st.name st.verify key ∈ done) (hv : validName st.name = true)
    (hkey : st.hasKey = (effKey cfg key == .valid)) :
    Inv cfg env done (complete cfg st).1 (preamble cfg st.name cs ++ (complete cfg st).2) := by
  cases hn : needsAuth cfg st.name with
  | true =>
    rw [complete_auth hn]
    refine ⟨by intro h; simp at h, by intro h; simp at h, fun _ => ⟨cs, key, rfl, hlog, hv, hn, hkey⟩, Or.inl ?_⟩
    simp [List.any_append, preamble_noadm, isAuthAdm]
  | false =>
    rw [complete_offline hn]
    refine ⟨by intro h; simp at h, by intro h; simp at h, by intro h; simp at h, Or.inl ?_⟩
    simp only [List.any_append, preamble_noadm, admitSeq_adm, hn, Bool.or_self]

/-- Every step is of one of these kinds.  `close` covers all rejections: what is emitted with them is
    never an admission.  The side conditions are what the invariants need of the branch taken. -/
inductive StepKind (cfg : Cfg) (env : Env) (s : St) (i : In) : St × List Out → Prop
  | nop : StepKind cfg env s i (s, [])
  | close (o : List Out) (hadm : o.any (isAuthAdm cfg) = false) (hsucc : successCount o = 0) :
      StepKind cfg env s i (closeWith o)
  | wait (name nonce : Bytes) (key : KeyClass) (hi : i = .login name nonce key) (hp : s.phase = .expect)
      (hv : validName name = true) :
      StepKind cfg env s i
        (started cfg name nonce key, .preLoginEvent name :: (msgIds (cfg.preMsgs name)).map .pluginMsg)
  | loginNow (name nonce : Bytes) (key : KeyClass) (hi : i = .login name nonce key) (hp : s.phase = .expect)
      (hv : validName name = true) (hk : cfg.preMsgs name = 0) :
      StepKind cfg env s i
        ((complete cfg (started cfg name nonce key)).1,
         .preLoginEvent name :: (complete cfg (started cfg name nonce key)).2)
  | pluginMore (id : Int) (hp : s.phase = .waiting) :
      StepKind cfg env s i ({ s with outstanding := s.outstanding.filter (· != id) }, [.consumed id])
  | pluginLast (id : Int) (hp : s.phase = .waiting) :
      StepKind cfg env s i
        ((complete cfg { s with outstanding := [] }).1, .consumed id :: (complete cfg { s with outstanding := [] }).2)
  | online (tok : Option Bytes) (sec : Bytes) (salt sg : Bool) (hi : i = .encResp tok (some sec) salt sg)
      (hp : s.phase = .encSent) (ht : tokenOk s tok (cfg.keyEra && salt) sg = true)
      (hk : keyLenOk sec.length = true) (hs : env.sess s.name sec = .online) :
      StepKind cfg env s i
        ({ s with phase := .successSent }, [.encOn sec, .hasJoined s.name sec] ++ admitSeq cfg s.name true)
  | ack (hp : s.phase = .successSent) : StepKind cfg env s i ({ s with phase := .config }, [])

theorem step_kind (cfg : Cfg) (env : Env) (s : St) (i : In) : StepKind cfg env s i (step cfg env s i) := by
  by_cases hdone : s.phase = .closed ∨ s.phase = .config
  · rw [step_done i hdone]; exact .nop
  cases i with
  | login name nonce key =>
    by_cases hw : s.phase = .waiting ∨ s.phase = .encSent ∨ s.phase = .successSent
    · rw [step_login_wrong hw]; exact .close _ rfl rfl
    · have hp : s.phase = .expect := by cases h : s.phase <;> simp [h] at hdone hw ⊢
      rw [step_login_expect hp]
      cases hd : decodable name with
      | false => rw [loginStep_undecodable hd]; exact .close _ rfl rfl
      | true =>
        cases hv : validName name with
        | false => rw [loginStep_badname hd hv]; exact .close _ rfl rfl
        | true =>
          cases hkr : keyReject cfg key with
          | some r => rw [loginStep_keyreject hd hv hkr]; exact .close _ rfl rfl
          | none =>
          by_cases hden : cfg.preLogin name = .denied
          · rw [loginStep_denied hd hv hkr hden]; exact .close _ rfl rfl
          · by_cases hk : cfg.preMsgs name = 0
            · rw [loginStep_now hd hv hkr hden hk]; exact .loginNow name nonce key rfl hp hv hk
            · rw [loginStep_wait hd hv hkr hden hk]; exact .wait name nonce key rfl hp hv
  | pluginResp id =>
    by_cases hp : s.phase = .waiting
    · rw [step_plugin_waiting hp]
      cases hc : s.outstanding.contains id with
      | false => rw [pluginStep_unknown hc]; exact .nop
      | true =>
        cases hr : (s.outstanding.filter (· != id)).isEmpty with
        | false => rw [pluginStep_more hc hr]; exact .pluginMore id hp
        | true => rw [pluginStep_last hc hr]; exact .pluginLast id hp
    · rw [step_plugin_other hp]; exact .nop
  | encResp tok secret salt sg =>
    by_cases hw : s.phase = .expect ∨ s.phase = .waiting ∨ s.phase = .successSent
    · rw [step_enc_wrong hw]; exact .close _ rfl rfl
    · have hp : s.phase = .encSent := by cases h : s.phase <;> simp [h] at hdone hw ⊢
      rw [step_enc_encSent hp]
      cases he : s.verify.isEmpty with
      | true => rw [encStep_noverify he]; exact .close _ rfl rfl
      | false =>
        cases ht : tokenOk s tok (cfg.keyEra && salt) sg with
        | false => rw [encStep_badtoken he ht]; exact .close _ rfl rfl
        | true =>
          cases secret with
          | none => rw [encStep_nosecret he ht]; exact .close _ rfl rfl
          | some sec =>
            cases hk : keyLenOk sec.length with
            | false => rw [encStep_badlen he ht hk]; exact .close _ rfl rfl
            | true =>
              cases hs : env.sess s.name sec with
              | error => rw [encStep_error he ht hk hs]; exact .close _ rfl rfl
              | offline => rw [encStep_offline he ht hk hs]; exact .close _ rfl rfl
              | badProfile => rw [encStep_badprofile he ht hk hs]; exact .close _ rfl rfl
              | online => rw [encStep_online he ht hk hs]; exact .online tok sec salt sg rfl hp ht hk hs
  | ack =>
    by_cases hw : s.phase = .expect ∨ s.phase = .waiting ∨ s.phase = .encSent
    · rw [step_ack_wrong hw]; exact .close _ rfl rfl
    · have hp : s.phase = .successSent := by cases h : s.phase <;> simp [h] at hdone hw ⊢
      simp only [step, hp]
      exact .ack hp
  | other =>
    have hp : s.phase = .expect ∨ s.phase = .waiting ∨ s.phase = .encSent ∨ s.phase = .successSent := by
      cases h : s.phase <;> simp [h] at hdone ⊢
    rw [step_other_open hp]; exact .close _ rfl rfl

theorem inv_step (cfg : Cfg) (env : Env) {done : List In} {s : St} {outs : List Out}
    (hI : Inv cfg env done s outs) (i : In) :
    Inv cfg env (done ++ [i]) (step cfg env s i).1 (outs ++ (step cfg env s i).2) := by
  have hd : ∀ x ∈ done, x ∈ done ++ [i] := fun _ hx => List.mem_append_left _ hx
  have hi : i ∈ done ++ [i] := List.mem_append_right _ (List.mem_singleton.mpr rfl)
  have hk := step_kind cfg env s i
  generalize step cfg env s i = r at hk
  cases hk with
  | nop =>
    show Inv cfg env (done ++ [i]) s (outs ++ [])
    rw [List.append_nil]
    exact ⟨hI.expect,
      fun h => let ⟨cs, key, h1, h2, h3, h4⟩ := hI.waiting h; ⟨cs, key, h1, hd _ h2, h3, h4⟩,
      fun h => let ⟨cs, key, h1, h2, h3, h4, h5⟩ := hI.encSent h; ⟨cs, key, h1, hd _ h2, h3, h4, h5⟩,
      good_done i hI.good⟩
  | close o hadm _ =>
    exact ⟨(nomatch ·), (nomatch ·), (nomatch ·), good_mono i o hI.good hadm⟩
  | wait name nonce key hi' hp hv =>
    have e : outs ++ .preLoginEvent name :: (msgIds (cfg.preMsgs name)).map .pluginMsg = preamble cfg name [] := by
      rw [hI.expect hp, List.nil_append, preamble, List.map_nil, List.append_nil]
    rw [e]
    exact ⟨(nomatch ·), fun _ => ⟨[], key, rfl, hi' ▸ hi, hv, rfl⟩, (nomatch ·), Or.inl (preamble_noadm cfg name [])⟩
  | loginNow name nonce key hi' hp hv hk =>
    have := complete_inv cfg env (done ++ [i]) (started cfg name nonce key) [] key (hi' ▸ hi) hv rfl
    rw [preamble, show cfg.preMsgs (started cfg name nonce key).name = 0 from hk] at this
    rw [hI.expect hp]
    exact this
  | pluginMore id hp =>
    obtain ⟨cs, key, ho, hin, hv, hkey⟩ := hI.waiting hp
    exact ⟨(fun h => nomatch hp.symm.trans h),
      fun _ => ⟨cs ++ [id], key, by rw [ho, preamble_snoc], hd _ hin, hv, hkey⟩,
      (fun h => nomatch hp.symm.trans h), good_mono _ _ hI.good rfl⟩
  | pluginLast id hp =>
    obtain ⟨cs, key, ho, hin, hv, hkey⟩ := hI.waiting hp
    have := complete_inv cfg env (done ++ [i]) { s with outstanding := [] } (cs ++ [id]) key (hd _ hin) hv hkey
    rw [preamble_snoc, List.append_assoc] at this
    rw [ho]
    exact this
  | online tok sec salt sg hi' hp ht hk hs =>
    obtain ⟨cs, key, ho, hin, hv, hn, hkey⟩ := hI.encSent hp
    refine ⟨(nomatch ·), (nomatch ·), (nomatch ·),
      Or.inr ⟨s.name, key, cs, s.verify, sec, tok, salt, sg, [], ?_, rfl, hd _ hin, hi' ▸ hi,
        tokenProof_of_tokenOk hkey ht, hs, hk, hv, hn⟩⟩
    rw [ho, chain, List.append_nil, List.append_assoc, List.append_assoc]
    rfl
  | ack hp =>
    show Inv cfg env (done ++ [i]) _ (outs ++ [])
    rw [List.append_nil]
    exact ⟨(nomatch ·), (nomatch ·), (nomatch ·), good_done i hI.good⟩

theorem inv_run (cfg : Cfg) (env : Env) (ins : List In) :
    ∀ (done : List In) (s : St) (outs : List Out), Inv cfg env done s outs →
      Inv cfg env (done ++ ins) (run cfg env s ins).1 (outs ++ (run cfg env s ins).2) := by
  induction ins with
  | nil => intro done s outs h; simpa [run] using h
  | cons i is ih =>
    intro done s outs h
    have h1 := inv_step cfg env h i
    have h2 := ih (done ++ [i]) _ _ h1
    simpa [run, List.append_assoc] using h2

theorem run_append (cfg : Cfg) (env : Env) (a b : List In) (s : St) :
    run cfg env s (a ++ b) =
      ((run cfg env (run cfg env s a).1 b).1, (run cfg env s a).2 ++ (run cfg env (run cfg env s a).1 b).2) := by
  induction a generalizing s with
  | nil => simp [run]
  | cons i is ih => simp [run, ih, List.append_assoc]

theorem run_closed (cfg : Cfg) (env : Env) (ins : List In) (s : St) (h : s.phase = .closed) :
    run cfg env s ins = (s, []) := by
  induction ins with
  | nil => rfl
  | cons i is ih =>
    have : step cfg env s i = (s, []) := step_done i (Or.inl h)
    simp [run, this, ih]

/-! ### at most one LoginSuccess -/

theorem successCount_append (a b : List Out) : successCount (a ++ b) = successCount a + successCount b := by
  simp only [successCount, List.filter_append, List.length_append]
theorem successCount_cons_other (o : Out) (l : List Out) (h : (match o with | .success _ _ => true | _ => false) = false) :
    successCount (o :: l) = successCount l := by
  simp only [successCount, List.filter_cons, h, Bool.false_eq_true, if_false]
theorem admitSeq_successCount (cfg : Cfg) (n : Bytes) (o : Bool) : successCount (admitSeq cfg n o) = 1 := by
  cases hc : cfg.compression <;> simp only [admitSeq, hc] <;> rfl
theorem successCount_map_pluginMsg (l : List Int) : successCount (l.map Out.pluginMsg) = 0 := by
  induction l with
  | nil => rfl
  | cons x xs ih => exact (successCount_cons_other _ _ rfl).trans ih

theorem closeWith_rank (o : List Out) : rank (closeWith o).1.phase = 5 := rfl
theorem rank_expect : rank .expect = 0 := rfl
theorem rank_waiting : rank .waiting = 1 := rfl

/-- the completion moves to rank ≥ 2 and emits a LoginSuccess only when it moves to rank 3 -/
theorem complete_success (cfg : Cfg) (st : St) :
    2 ≤ rank (complete cfg st).1.phase ∧
    successCount (complete cfg st).2 ≤ (if 3 ≤ rank (complete cfg st).1.phase then 1 else 0) := by
  cases hn : needsAuth cfg st.name with
  | true => rw [complete_auth hn]; exact ⟨Nat.le_refl 2, Nat.le_refl 0⟩
  | false => rw [complete_offline hn, admitSeq_successCount]; exact ⟨Nat.le_succ 2, Nat.le_refl 1⟩

/-- the machine never goes back, and a LoginSuccess is emitted only on entering rank 3 or above -/
theorem step_success (cfg : Cfg) (env : Env) (s : St) (i : In) :
    rank s.phase ≤ rank (step cfg env s i).1.phase ∧
    successCount (step cfg env s i).2 + (if 3 ≤ rank s.phase then 1 else 0)
      ≤ (if 3 ≤ rank (step cfg env s i).1.phase then 1 else 0) := by
  have hk := step_kind cfg env s i
  generalize step cfg env s i = r at hk
  cases hk with
  | nop => exact ⟨Nat.le_refl _, Nat.le_of_eq (Nat.zero_add _)⟩
  | close o _ hsucc =>
    rw [closeWith_rank, closeWith_snd, hsucc]
    cases s.phase <;> decide
  | wait name nonce key hi hp hv =>
    rw [hp, successCount_cons_other _ _ rfl, successCount_map_pluginMsg]
    exact ⟨Nat.zero_le _, Nat.le_refl 0⟩
  | loginNow name nonce key hi hp hv hk =>
    rw [congrArg rank hp, successCount_cons_other _ _ rfl]
    exact ⟨Nat.zero_le _, (complete_success cfg _).2⟩
  | pluginMore id hp =>
    rw [hp]
    exact ⟨Nat.le_refl _, Nat.le_refl 0⟩
  | pluginLast id hp =>
    have hc := complete_success cfg { s with outstanding := [] }
    rw [congrArg rank hp, successCount_cons_other _ _ rfl]
    exact ⟨Nat.le_trans (Nat.le_succ 1) hc.1, hc.2⟩
  | online tok sec salt sg hi hp ht hk hs =>
    rw [hp, successCount_append, admitSeq_successCount]
    exact ⟨Nat.le_succ 2, Nat.le_refl 1⟩
  | ack hp =>
    rw [hp]
    exact ⟨Nat.le_succ 3, Nat.le_refl 1⟩

end Gate.C08
