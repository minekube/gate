import GateModel.C08.Lemmas
import GateModel.Gen.C08
/-
C08 — Online-mode players are admitted only after verified encryption and session auth.

`run cfg env {} ins` is the output trace of the login machine for the packet sequence `ins` on a fresh
connection, for ANY configuration `cfg` (online flag; per username: the PreLogin verdict and the number of login
plugin messages the PreLogin subscribers send, which DEFER the completion of the login start until the client
has answered them all), ANY session server `env.sess` and ANY inputs (an encryption response carries what its
fields decrypt to — RSA is a parameter).

  * `admit_requires_auth`: a trace that contains a LoginSuccess or a registration of a username for which
    authentication is required (online mode or forced online for THAT name, not forced offline for THAT name)
    begins with the complete chain  PreLogin(name), its plugin messages, consumer calls, EncryptionRequest(nonce),
    EnableEncryption(sec), hasJoined(name, sec), profile event, [SetCompression], Login event, registered(name),
    LoginSuccess(name, online)  and the inputs contain the login start (name, nonce) and the encryption response
    that decrypts to exactly (nonce, sec), the session server says online for (name, sec), `sec` has an AES key
    length, `name` matches the pattern; nothing after the chain is such an admission;
  * `success_requires_session_auth`: the admitted name is the name of that chain;
  * the verify-token proof (`TokenProof`): without a valid profile key (all protocols but 1.19–1.19.2, and keyless
    logins there) the token field decrypts to EXACTLY the issued token — a salted response does not replace it
    (`keyless_admission_requires_exact_token`, `salt_does_not_replace_token`); with a key the response must be salted
    and correctly signed (`key_requires_salted_signature`); bad / missing keys are refused (`bad_key_refused`);
  * `at_most_one_success` (any configuration);
  * out-of-order / repeated / foreign packets close without any other output — ALSO while the completion is
    deferred (`deferred_*`); a closed connection stays silent and closed; plugin responses with ids that are
    not outstanding are ignored;
  * regenerated source facts (`shape_*`).
-/
namespace Gate.C08.Props
open Gate Gate.C08

/-! ### admission requires the whole chain -/

theorem admit_requires_auth (cfg : Cfg) (env : Env) (ins : List In)
    (hadm : ((run cfg env {} ins).2.any (isAuthAdm cfg)) = true) :
    ∃ (name : Bytes) (key : KeyClass) (cs : List Int) (nonce sec : Bytes) (tok : Option Bytes) (salt sg : Bool)
      (tail : List Out),
      (run cfg env {} ins).2 =
        .preLoginEvent name :: (msgIds (cfg.preMsgs name)).map .pluginMsg ++ cs.map .consumed ++
          [.encReq nonce, .encOn sec, .hasJoined name sec] ++ admitSeq cfg name true ++ tail ∧
      tail.any (isAuthAdm cfg) = false ∧
      In.login name nonce key ∈ ins ∧ In.encResp tok (some sec) salt sg ∈ ins ∧ TokenProof cfg key nonce tok salt sg ∧
      env.sess name sec = .online ∧ keyLenOk sec.length = true ∧ validName name = true ∧
      needsAuth cfg name = true := by
  have h0 : Inv cfg env [] {} [] :=
    ⟨fun _ => rfl, by intro h; simp at h, by intro h; simp at h, Or.inl rfl⟩
  have h := (inv_run cfg env ins [] {} [] h0).good
  simp only [List.nil_append] at h
  rcases h with h | ⟨name, key, cs, nonce, sec, tok, salt, sg, tail, ho, ht, h1, h2, hp, h3, h4, h5, h6⟩
  · rw [h] at hadm; cases hadm
  · exact ⟨name, key, cs, nonce, sec, tok, salt, sg, tail, by simpa [chain, preamble, List.append_assoc] using ho,
      ht, h1, h2, hp, h3, h4, h5, h6⟩

/-- LoginSuccess for a name that requires authentication ⇒ the client sent a login start with THAT name, returned
    the token issued for it, and the session server confirmed the join for that name and the decrypted secret -/
theorem success_requires_session_auth (cfg : Cfg) (env : Env) (ins : List In)
    (n : Bytes) (o : Bool) (h : Out.success n o ∈ (run cfg env {} ins).2) (hn : needsAuth cfg n = true) :
    ∃ nonce sec key tok salt sg, In.login n nonce key ∈ ins ∧ In.encResp tok (some sec) salt sg ∈ ins ∧
      TokenProof cfg key nonce tok salt sg ∧ env.sess n sec = .online ∧ o = true := by
  have hadm : ((run cfg env {} ins).2.any (isAuthAdm cfg)) = true := by
    rw [List.any_eq_true]; exact ⟨_, h, by simp [isAuthAdm, hn]⟩
  obtain ⟨name, key, cs, nonce, sec, tok, salt, sg, tail, ho, ht, h1, h2, hp, h3, _, _, _⟩ := admit_requires_auth cfg env ins hadm
  rw [ho] at h
  have hnt : Out.success n o ∉ tail := by
    intro hm
    have := List.any_eq_false.1 ht _ hm
    simp [isAuthAdm, hn] at this
  have : Out.success n o ∈ admitSeq cfg name true := by
    simp only [List.mem_append, List.mem_cons, List.mem_map] at h
    rcases h with ((((h | h) | h) | h) | h) | h
    · cases h
    · obtain ⟨_, _, h⟩ := h; cases h
    · obtain ⟨_, _, h⟩ := h; cases h
    · simp at h
    · exact h
    · exact absurd h hnt
  have hno : n = name ∧ o = true := by
    cases hc : cfg.compression <;> simp [admitSeq, hc] at this <;> exact this
  obtain ⟨rfl, rfl⟩ := hno
  exact ⟨nonce, sec, key, tok, salt, sg, h1, h2, hp, h3, rfl⟩

/-- a connection without a (valid) profile key — every protocol outside 1.19–1.19.2, and keyless logins inside —
    proves the token only by returning exactly the issued token: no salted form, no signature claim replaces it -/
theorem keyless_admission_requires_exact_token (cfg : Cfg) (key : KeyClass) (nonce : Bytes) (tok : Option Bytes)
    (salt sg : Bool) (hk : cfg.keyEra = false ∨ key ≠ .valid) (h : TokenProof cfg key nonce tok salt sg) :
    tok = some nonce := by
  unfold TokenProof at h
  have : effKey cfg key ≠ .valid := by
    unfold effKey
    rcases hk with hk | hk
    · simp [hk]
    · split <;> simp [hk]
  simpa [this] using h

/-- a failed verify-token check, or an undecryptable secret, closes without enabling encryption or asking
    the session server -/
theorem bad_token_or_secret_closes (cfg : Cfg) (env : Env) (s : St) (tok secret : Option Bytes) (salt sg : Bool)
    (hp : s.phase = .encSent) (h : tokenOk s tok (cfg.keyEra && salt) sg = false ∨ secret = none) :
    step cfg env s (.encResp tok secret salt sg) = ({ phase := .closed }, [.close]) := by
  rw [step_enc_encSent hp]
  cases he : s.verify.isEmpty with
  | true => exact encStep_noverify he
  | false =>
    rcases h with h | h
    · exact encStep_badtoken he h
    · subst h
      cases ht : tokenOk s tok (cfg.keyEra && salt) sg with
      | true => exact encStep_nosecret he ht
      | false => exact encStep_badtoken he ht

/-- step level, the class of the second red-team change: WHICH verify-token check applies is decided by the key
    the connection has, not by the form of the response — without a key, a response whose token field does not
    decrypt to the issued token closes the connection, salted or not, whatever signature it claims -/
theorem salt_does_not_replace_token (cfg : Cfg) (env : Env) (s : St) (tok secret : Option Bytes) (salt sg : Bool)
    (hp : s.phase = .encSent) (hk : s.hasKey = false) (ht : tok ≠ some s.verify) :
    step cfg env s (.encResp tok secret salt sg) = ({ phase := .closed }, [.close]) :=
  bad_token_or_secret_closes cfg env s tok secret salt sg hp (Or.inl (by simp [tokenOk, hk, ht]))

/-- with a key the response must be salted and correctly signed; an (even correctly) encrypted token does not do -/
theorem key_requires_salted_signature (cfg : Cfg) (env : Env) (s : St) (tok secret : Option Bytes) (salt sg : Bool)
    (hp : s.phase = .encSent) (hk : s.hasKey = true) (h : (cfg.keyEra && salt) = false ∨ sg = false) :
    step cfg env s (.encResp tok secret salt sg) = ({ phase := .closed }, [.close]) :=
  bad_token_or_secret_closes cfg env s tok secret salt sg hp
    (Or.inl (by rcases h with h | h <;> simp [tokenOk, hk, h]))

/-- an expired or wrongly signed key, or a missing key where keys are forced, is refused before the PreLogin event -/
theorem bad_key_refused (cfg : Cfg) (env : Env) (name nonce : Bytes) (key : KeyClass) (r : Reason)
    (hd : decodable name = true) (hv : validName name = true) (hk : keyReject cfg key = some r) :
    step cfg env {} (.login name nonce key) = ({ phase := .closed }, [.disconnect r]) :=
  (step_login_expect rfl).trans (loginStep_keyreject hd hv hk)

/-- at most one LoginSuccess, for every configuration -/
theorem at_most_one_success (cfg : Cfg) (env : Env) (ins : List In) :
    successCount (run cfg env {} ins).2 ≤ 1 := by
  have gen : ∀ (ins : List In) (s : St),
      successCount (run cfg env s ins).2 + (if 3 ≤ rank s.phase then 1 else 0) ≤ 1 := by
    intro ins
    induction ins with
    | nil =>
      intro s
      rw [run, show successCount [] = 0 from rfl]
      split <;> decide
    | cons i is ih =>
      intro s
      have h1 := (step_success cfg env s i).2
      have h2 := ih (step cfg env s i).1
      rw [run, successCount_append]
      generalize (if 3 ≤ rank (step cfg env s i).1.phase then 1 else 0) = m at h1 h2
      omega
  exact gen ins {}

/-! ### out-of-order, repeated and foreign packets -/

/-- a login start in any state but loginPacketExpected closes the connection, nothing else happens —
    in particular while the completion of the first login start is deferred -/
theorem second_login_closes (cfg : Cfg) (env : Env) (s : St) (name nonce : Bytes) (key : KeyClass)
    (h : s.phase = .waiting ∨ s.phase = .encSent ∨ s.phase = .successSent) :
    step cfg env s (.login name nonce key) = ({ phase := .closed }, [.close]) := step_login_wrong h

/-- an encryption response in any state but encryptionRequestSent (none requested yet — also while the request
    is deferred —, or a second one) closes -/
theorem unexpected_encryption_response_closes (cfg : Cfg) (env : Env) (s : St) (tok secret : Option Bytes)
    (salt sg : Bool) (h : s.phase = .expect ∨ s.phase = .waiting ∨ s.phase = .successSent) :
    step cfg env s (.encResp tok secret salt sg) = ({ phase := .closed }, [.close]) := step_enc_wrong h

/-- while the completion is deferred EVERY packet other than a plugin response closes the connection -/
theorem deferred_completion_closes_on_any_login_packet (cfg : Cfg) (env : Env) (s : St) (i : In)
    (hp : s.phase = .waiting) (hi : ∀ id, i ≠ .pluginResp id) :
    step cfg env s i = ({ phase := .closed }, [.close]) := by
  cases i with
  | login n v k => exact step_login_wrong (Or.inl hp)
  | encResp t c sl sg => exact step_enc_wrong (Or.inr (Or.inl hp))
  | pluginResp id => exact absurd rfl (hi id)
  | ack => exact step_ack_wrong (Or.inr (Or.inl hp))
  | other => exact step_other_open (Or.inr (Or.inl hp))

/-- the red-team scenario, for every configuration: a second login start while a PreLogin plugin message of the
    first is unanswered closes the connection; whatever follows (the late answer included), nothing more is
    emitted — no second PreLogin event, no admission under either name -/
theorem deferred_second_login_never_admits (cfg : Cfg) (env : Env) (n1 v1 n2 v2 : Bytes) (k1 k2 : KeyClass) (rest : List In)
    (hd : decodable n1 = true) (hv : validName n1 = true) (hkr : keyReject cfg k1 = none)
    (hden : cfg.preLogin n1 ≠ .denied) (hk : cfg.preMsgs n1 ≠ 0) :
    (run cfg env {} (.login n1 v1 k1 :: .login n2 v2 k2 :: rest)).2 =
      .preLoginEvent n1 :: (msgIds (cfg.preMsgs n1)).map .pluginMsg ++ [.close] ∧
    (run cfg env {} (.login n1 v1 k1 :: .login n2 v2 k2 :: rest)).1.phase = .closed := by
  have h1 : step cfg env {} (.login n1 v1 k1) = _ := (step_login_expect rfl).trans (loginStep_wait hd hv hkr hden hk)
  have h2 : step cfg env (started cfg n1 v1 k1) (.login n2 v2 k2) = closeWith [.close] :=
    step_login_wrong (Or.inl rfl)
  simp only [run, h1, h2, closeWith_fst, closeWith_snd, run_closed cfg env rest { phase := .closed } rfl]
  simp

theorem early_ack_closes (cfg : Cfg) (env : Env) (s : St)
    (h : s.phase = .expect ∨ s.phase = .waiting ∨ s.phase = .encSent) :
    step cfg env s .ack = ({ phase := .closed }, [.close]) := step_ack_wrong h

theorem foreign_packet_closes (cfg : Cfg) (env : Env) (s : St)
    (h : s.phase = .expect ∨ s.phase = .waiting ∨ s.phase = .encSent ∨ s.phase = .successSent) :
    step cfg env s .other = ({ phase := .closed }, [.close]) := step_other_open h

/-- the state machine never goes back -/
theorem phase_monotone (cfg : Cfg) (env : Env) (s : St) (i : In) :
    rank s.phase ≤ rank (step cfg env s i).1.phase := (step_success cfg env s i).1

/-- a closed connection produces nothing and stays closed, whatever is sent: never admitted afterwards -/
theorem closed_is_final (cfg : Cfg) (env : Env) (ins₁ ins₂ : List In)
    (h : (run cfg env {} ins₁).1.phase = .closed) :
    (run cfg env {} (ins₁ ++ ins₂)).2 = (run cfg env {} ins₁).2 ∧
    (run cfg env {} (ins₁ ++ ins₂)).1.phase = .closed := by
  rw [run_append, run_closed cfg env ins₂ _ h]
  simp [h]

/-- plugin responses are ignored unless they answer an outstanding PreLogin message -/
theorem plugin_response_ignored (cfg : Cfg) (env : Env) (s : St) (id : Int)
    (h : s.phase ≠ .waiting ∨ s.outstanding.contains id = false) :
    step cfg env s (.pluginResp id) = (s, []) := by
  by_cases hp : s.phase = .waiting
  · rcases h with h | h
    · exact absurd hp h
    · rw [step_plugin_waiting hp]; exact pluginStep_unknown h
  · exact step_plugin_other hp

/-! ### contrast: without required authentication the login start alone admits -/

theorem offline_admission (cfg : Cfg) (env : Env) (name nonce : Bytes) (key : KeyClass) (hn : needsAuth cfg name = false)
    (hd : cfg.preLogin name ≠ .denied) (hk : cfg.preMsgs name = 0) (hkr : keyReject cfg key = none)
    (hv : validName name = true) (hdec : decodable name = true) :
    (run cfg env {} [.login name nonce key]).2 = .preLoginEvent name :: admitSeq cfg name false := by
  have h : step cfg env {} (.login name nonce key) = _ := (step_login_expect rfl).trans (loginStep_now hdec hv hkr hd hk)
  have hc := complete_offline (cfg := cfg) (s := started cfg name nonce key) hn
  simp only [run, h, hc, List.append_nil]
  rfl

/-! ### non-vacuity -/

def demoEnv : Env := ⟨fun n s => if n = [65, 98] ∧ s.length = 16 then .online else .offline⟩
def demoSecret : Bytes := List.replicate 16 7
def demoCfg : Cfg := ⟨true, fun _ => .allowed, fun _ => 0, true, false, true⟩
/-- PreLogin subscribers force offline mode for the name "sv" only and probe every login with one plugin message -/
def demoCfg2 : Cfg := ⟨true, fun n => if n = [115, 118] then .forceOffline else .allowed, fun _ => 1, true, false, true⟩
/-- a 1.19.x connection, keys not forced -/
def demoCfg3 : Cfg := ⟨true, fun _ => .allowed, fun _ => 0, true, true, false⟩

example : needsAuth demoCfg [65, 98] = true ∧
    ((run demoCfg demoEnv {} [.login [65, 98] [1, 2, 3, 4] .none, .pluginResp 3,
        .encResp (some [1, 2, 3, 4]) (some demoSecret) false false]).2.any (isAuthAdm demoCfg)) = true := by decide +kernel
example : ((run demoCfg demoEnv {} [.login [65, 98] [1, 2, 3, 4] .none,
        .encResp (some [1, 2, 3, 5]) (some demoSecret) false false]).2) = [.preLoginEvent [65, 98], .encReq [1, 2, 3, 4], .close] := by decide +kernel
example : (run demoCfg demoEnv {} [.login [65, 98] [1, 2, 3, 4] .none, .login [65, 98] [1, 2, 3, 4] .none]).1.phase = .closed := by decide +kernel
/-- deferred completion: the encryption request is issued only after the plugin message was answered -/
example : (run demoCfg2 demoEnv {} [.login [65, 98] [1, 2, 3, 4] .none, .pluginResp 1]).2 =
    [.preLoginEvent [65, 98], .pluginMsg 1, .consumed 1, .encReq [1, 2, 3, 4]] := by decide +kernel
/-- the first red-team sequence: forced-offline service account, then a second name, then the late answer -/
example : (run demoCfg2 demoEnv {} [.login [115, 118] [1, 2, 3, 4] .none, .login [65, 98] [5, 6, 7, 8] .none, .pluginResp 1]).2 =
    [.preLoginEvent [115, 118], .pluginMsg 1, .close] := by decide +kernel
/-- the second red-team input: 1.19.x, no profile key, a SALTED response with garbage in the token field -/
example : (run demoCfg3 demoEnv {} [.login [65, 98] [1, 2, 3, 4] .none, .encResp none (some demoSecret) true true]).2 =
    [.preLoginEvent [65, 98], .encReq [1, 2, 3, 4], .close] := by decide +kernel
/-- a valid key: the salted, correctly signed response is what admits (the encrypted token alone does not) -/
example : ((run demoCfg3 demoEnv {} [.login [65, 98] [1, 2, 3, 4] .valid, .encResp none (some demoSecret) true true]).2.any
      (isAuthAdm demoCfg3)) = true ∧
    (run demoCfg3 demoEnv {} [.login [65, 98] [1, 2, 3, 4] .valid, .encResp (some [1, 2, 3, 4]) (some demoSecret) false true]).2 =
      [.preLoginEvent [65, 98], .encReq [1, 2, 3, 4], .close] := by decide +kernel

/-! ### source shape (regenerated from /repo on every run) -/

open Gate.Gen.C08

theorem shape_name_pattern : playerNameRegex = "^[A-Za-z0-9_]{2,16}$" ∧ maxUsernameLen = 16 := ⟨rfl, rfl⟩

/-- the pattern, byte-wise: what `validName` implements -/
theorem validName_spec (n : Bytes) : validName n = true ↔
    (2 ≤ n.length ∧ n.length ≤ 16 ∧ ∀ b ∈ n, (((65 ≤ b ∧ b ≤ 90) ∨ (97 ≤ b ∧ b ≤ 122)) ∨ (48 ≤ b ∧ b ≤ 57)) ∨ b = 95) := by
  simp [validName, nameChar, and_assoc]

theorem shape_dispatch :
    initialCases = ["*packet.ServerLogin", "*packet.LoginPluginResponse", "*packet.EncryptionResponse", "default"] ∧
    authCases = ["*packet.LoginAcknowledged", "*packet.LoginPluginResponse", "*cookie.CookieResponse", "default"] ∧
    initialDispatchCalls = ["p.KnownPacket", "l.conn.Close", "return", "l.handleServerLogin",
      "l.inbound.handleLoginPluginResponse", "l.handleEncryptionResponse", "l.conn.Close"] ∧
    assertStateCalls = ["return", "l.log.Info", "l.conn.Close", "return"] := ⟨rfl, rfl, rfl, rfl⟩

/-- position of the first occurrence -/
def pos (l : List String) (x : String) : Nat := l.findIdx (· == x)

/-- handleEncryptionResponse: state assertion, token verification, secret decryption, EnableEncryption, server
    id, hasJoined, online check, profile — in this order, each once, and the hand-over to the auth session
    handler (the only one in the function) comes last -/
theorem shape_encryption_response_order :
    pos encRespCalls "l.assertState" = 0 ∧
    pos encRespCalls "l.assertState" < pos encRespCalls "l.auth().Verify" ∧
    pos encRespCalls "l.auth().Verify" < pos encRespCalls "authn.DecryptSharedSecret" ∧
    pos encRespCalls "authn.DecryptSharedSecret" < pos encRespCalls "l.conn.EnableEncryption" ∧
    pos encRespCalls "l.conn.EnableEncryption" < pos encRespCalls "authn.GenerateServerID" ∧
    pos encRespCalls "authn.GenerateServerID" < pos encRespCalls "authn.AuthenticateJoin" ∧
    pos encRespCalls "authn.AuthenticateJoin" < pos encRespCalls "authResp.OnlineMode" ∧
    pos encRespCalls "authResp.OnlineMode" < pos encRespCalls "authResp.GameProfile" ∧
    pos encRespCalls "authResp.GameProfile" < pos encRespCalls "l.newAuthSessionHandler" ∧
    pos encRespCalls "l.newAuthSessionHandler" + 2 = encRespCalls.length ∧
    (encRespCalls.filter (· == "l.newAuthSessionHandler")).length = 1 ∧
    (encRespCalls.filter (· == "l.conn.EnableEncryption")).length = 1 ∧
    (encRespCalls.filter (· == "authn.AuthenticateJoin")).length = 1 := by decide +kernel

/-- handleServerLogin: state assertion first, then the name pattern, then the PreLogin event; the encryption
    request / offline hand-over happen only inside the completion callback given to loginEventFired -/
theorem shape_server_login_order :
    pos serverLoginCalls "l.assertState" = 0 ∧
    pos serverLoginCalls "playerNameRegex.MatchString" < pos serverLoginCalls "l.eventMgr.Fire" ∧
    pos serverLoginCalls "l.eventMgr.Fire" < pos serverLoginCalls "func:{" ∧
    pos serverLoginCalls "func:{" < pos serverLoginCalls "l.generateEncryptionRequest" ∧
    pos serverLoginCalls "l.generateEncryptionRequest" < pos serverLoginCalls "}" ∧
    pos serverLoginCalls "}" + 1 = pos serverLoginCalls "l.inbound.loginEventFired" := by decide +kernel

/-- registration precedes the LoginSuccess write; the token comparison is a full byte comparison -/
theorem shape_register_before_success :
    pos completeCalls "a.registrar.registerConnection" < pos completeCalls "player.WritePacket" ∧
    verifyCalls = ["rsa.DecryptPKCS1v15", "fmt.Errorf", "return", "bytes.Equal", "return"] :=
  ⟨by decide +kernel, rfl⟩

end Gate.C08.Props
