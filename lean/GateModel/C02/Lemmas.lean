import GateModel.C02.Spec
import GateModel.C01.Lemmas
namespace Gate.C02
open Gate Gate.C01 Gate.C03

/-- gate's frame reader rendered in the reference's vocabulary -/
def toV : Except DErr (Bytes × Bytes) → VRes
  | .ok (b, r) => if b.isEmpty then .skip r else .frame b r
  | .error .eof => .incomplete
  | .error _ => .badLength

/-- serialise frame bodies with minimally encoded length prefixes -/
def ser (fs : List Bytes) : Bytes := (fs.map fun b => writeVarInt b.length ++ b).flatten

/-- one round of Velocity's prefix loop on what `writeVarU` wrote -/
theorem velocityPrefix_step (vf wf i acc u : Nat) (r : Bytes) :
    velocityPrefix (vf + 1) i acc (writeVarU (wf + 1) u ++ r) =
      if u < 128 then some (some (acc + u * 2 ^ (7 * i), r))
      else velocityPrefix vf (i + 1) (acc + u % 128 * 2 ^ (7 * i)) (writeVarU wf (u / 128) ++ r) := by
  rw [writeVarU]
  split
  · rename_i h
    rw [List.cons_append, List.nil_append, velocityPrefix, u8_toNat_ofNat, Nat.mod_eq_of_lt (by omega : u < 256),
      Nat.mod_eq_of_lt h, if_pos h]
  · have h : u % 128 < 128 := Nat.mod_lt _ (by decide)
    rw [List.cons_append, velocityPrefix, u8_toNat_ofNat, Nat.mod_eq_of_lt (by omega : u % 128 + 128 < 256),
      Nat.add_mod_right, Nat.mod_mod, if_neg (Nat.not_lt.mpr (Nat.le_add_left ..))]

/-- Velocity's prefix loop reads back what `writeVarU` wrote iff the value fits the bytes it may still read -/
theorem velocityPrefix_writeVarU (vf wf i acc u : Nat) (r : Bytes) (hf : vf < wf) :
    velocityPrefix (vf + 1) i acc (writeVarU wf u ++ r) =
      if u < 128 ^ (vf + 1) then some (some (acc + u * 2 ^ (7 * i), r)) else some none := by
  induction vf generalizing wf i acc u with
  | zero =>
    cases wf with
    | zero => omega
    | succ w =>
      rw [velocityPrefix_step, velocityPrefix]
  | succ v ih =>
    cases wf with
    | zero => omega
    | succ w =>
      have hlt : u / 128 < 128 ^ (v + 1) ↔ u < 128 ^ (v + 1 + 1) := by
        rw [Nat.pow_succ]; exact Nat.div_lt_iff_lt_mul (by decide)
      have hval : acc + u % 128 * 2 ^ (7 * i) + u / 128 * 2 ^ (7 * (i + 1)) = acc + u * 2 ^ (7 * i) := by
        rw [show 7 * (i + 1) = 7 * i + 7 from rfl, Nat.pow_add, Nat.mul_comm _ (2 ^ 7), ← Nat.mul_assoc,
          Nat.add_assoc, ← Nat.add_mul, Nat.mod_add_div']
      rw [velocityPrefix_step, ih _ _ _ _ (Nat.lt_of_succ_lt_succ hf)]
      simp only [hlt, hval]
      split
      · rename_i h
        rw [if_pos (Nat.lt_of_lt_of_le h (Nat.le_self_pow (Nat.succ_ne_zero _) 128))]
      · rfl

theorem toU_nonneg (v : Int) (h0 : 0 ≤ v) (h1 : v < (2 ^ 31 : Nat)) : toU 32 v = v.toNat := by
  unfold toU
  rw [emod_nonneg_small v _ h0 (by omega)]

theorem toU_neg_big (v : Int) (h0 : v < 0) (h1 : -(2 ^ 31 : Nat) ≤ v) : 2 ^ 21 ≤ toU 32 v := by
  unfold toU
  rw [emod_neg_small v _ (by omega) h0]
  omega

/- Velocity reads at most 3 prefix bytes, so to it every value from 2^21 upwards is a bad length, and `toU` puts the
   negative `len` there too: exactly gate's `len < 0 ∨ len > maxFrame`.  Below, `2 4`: Velocity's fuel is 3 (the lemma
   speaks of fuel `vf + 1`), that of `writeVarU` in `writeVarInt` is 4. -/
theorem frame_agrees_lemma (len : Int) (r : Bytes) (h : wfInt32 len) :
    toV (readVarIntFrame (writeVarInt len ++ r)) = velocityFrame (writeVarInt len ++ r) := by
  have hv : velocityPrefix 3 0 0 (writeVarInt len ++ r) =
      if toU 32 len < 2 ^ 21 then some (some (toU 32 len, r)) else some none := by
    rw [writeVarInt, velocityPrefix_writeVarU 2 4 0 0 _ r (by decide), Nat.zero_add, Nat.mul_zero, Nat.pow_zero,
      Nat.mul_one]
  rw [readVarIntFrame, velocityFrame, readVarInt_writeVarInt len r h.1 h.2, hv]
  by_cases h0 : len = 0
  · subst h0
    rfl
  · by_cases hbad : len < 0 ∨ len > (maxFrame : Int)
    · have hbig : ¬ toU 32 len < 2 ^ 21 := by
        rw [maxFrame_eq] at hbad
        rcases hbad with hneg | hgt
        · exact Nat.not_lt.mpr (toU_neg_big len hneg h.1)
        · rw [toU_nonneg len (by omega) h.2]; omega
      simp only [if_neg h0, if_pos hbad, if_neg hbig, toV]
    · rw [maxFrame_eq] at hbad
      have hsmall : len.toNat < 2 ^ 21 := by omega
      have hn0 : ¬ len.toNat = 0 := by omega
      rw [toU_nonneg len (by omega) h.2]
      simp only [if_neg h0, maxFrame_eq, if_neg hbad, if_pos hsmall, if_neg hn0, readFull]
      by_cases hfit : len.toNat ≤ r.length
      · have : (r.take len.toNat).isEmpty = false := by
          rw [List.isEmpty_eq_false_iff, ← List.length_pos_iff, List.length_take]
          omega
        simp only [if_pos hfit, toV, this, Bool.false_eq_true, if_false]
      · simp only [if_neg hfit, toV]

theorem envelope_agrees_lemma (cfg : Cfg) (Z : Bytes → Option Bytes) (frame : Bytes) :
    openEnvelope cfg Z frame = velocityOpen cfg Z frame := by
  unfold openEnvelope velocityOpen inflateExact
  cases readVarInt frame with
  | error e => rfl
  | ok v =>
    obtain ⟨claimed, body⟩ := v
    dsimp only
    by_cases h0 : claimed = 0
    · rw [if_pos h0, if_pos h0]
      by_cases h1 : (body.length : Int) > cfg.threshold
      · rw [if_pos h1, if_neg (Int.not_le.mpr h1)]
      · rw [if_neg h1, if_pos (Int.not_lt.mp h1)]
    · rw [if_neg h0, if_neg h0]
      cases Z body <;> rfl

theorem frameAlloc_bounded (s : Bytes) (n : Nat) (h : frameAlloc s = some n) : 0 < n ∧ n ≤ maxFrame := by
  unfold frameAlloc at h
  split at h
  · split at h
    · cases h
    · cases h
      omega
  · cases h

theorem inflateAlloc_bounded (cfg : Cfg) (frame : Bytes) (n : Nat) (hthr : 0 ≤ cfg.threshold)
    (h : inflateAlloc cfg frame = some n) :
    n ≤ cfg.cap ∧ cfg.threshold ≤ (n : Int) ∧ 0 < n := by
  unfold inflateAlloc at h
  split at h
  · split at h
    · cases h
    · cases h
      omega
  · cases h

theorem ser_cons (b : Bytes) (t : List Bytes) : ser (b :: t) = writeVarInt b.length ++ (b ++ ser t) := by
  simp only [ser, List.map_cons, List.flatten_cons, List.append_assoc]

end Gate.C02
