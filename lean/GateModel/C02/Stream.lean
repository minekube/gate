import GateModel.C02.Lemmas
/-
C02 — whole streams, INCLUDING frames that yield an empty payload (zero-length frames and frames whose
compression envelope opens to nothing).

`gateFrames` / `velFrames` are the two decoders rendered on the list of frames a stream consists of; the
refinement lemmas `decodeAll_ser` / `velocityDecodeAll_ser` show that the byte-level models (the ones the
correspondence check runs against the Go code) compute exactly these functions on `ser fs`.  The agreement
theorem `frames_agree` then says: as long as no more than 11 empty-payload frames follow each other, gate and
Velocity hand the same payloads to the packet decoder and end the same way.  The bound 11 is gate's
`tooManyEmpty` cap — the recorded finding — so the theorem characterises the deviation exactly.
-/
namespace Gate.C02
open Gate Gate.C01 Gate.C03

/-- what a complete frame body yields in either decoder (they agree on it: `envelope_agrees`) -/
def payloadOf (cfg : Cfg) (Z : Bytes → Option Bytes) (b : Bytes) : Except DErr Bytes :=
  if b.isEmpty then .ok []
  else if cfg.threshold < 0 then .ok b
  else openEnvelope cfg Z b

/-- gate's decoder on a list of frames: `k` = empty payloads skipped so far in the current `readPacket` -/
def gateFrames (cfg : Cfg) (Z : Bytes → Option Bytes) : Nat → List Bytes → List Bytes × Option DErr
  | k, [] => ([], if k = 0 then none else some .eof)
  | k, b :: t =>
    match payloadOf cfg Z b with
    | .error e => ([], some e)
    | .ok p =>
      if p.isEmpty then
        if k > 10 then ([], some .tooManyEmpty) else gateFrames cfg Z (k + 1) t
      else ((p :: (gateFrames cfg Z 0 t).1), (gateFrames cfg Z 0 t).2)

/-- Velocity's pipeline on a list of frames -/
def velFrames (cfg : Cfg) (Z : Bytes → Option Bytes) : List Bytes → List Bytes × Option DErr
  | [] => ([], none)
  | b :: t =>
    match payloadOf cfg Z b with
    | .error e => ([], some e)
    | .ok p => if p.isEmpty then velFrames cfg Z t else (p :: (velFrames cfg Z t).1, (velFrames cfg Z t).2)

/-- "the stream ended" and "waiting for more bytes" are the same observation on a closed stream -/
def endNorm : Option DErr → Option DErr
  | some .eof => none
  | e => e

theorem ser_length_ge (fs : List Bytes) : fs.length ≤ (ser fs).length := by
  induction fs with
  | nil => exact Nat.le_refl 0
  | cons b t ih =>
    have := writeVarInt_length_pos (b.length : Int)
    rw [ser_cons, List.length_append, List.length_append, List.length_cons]
    omega

theorem ser_cons_ne (b : Bytes) (t : List Bytes) : (ser (b :: t)).isEmpty = false := by
  rw [ser_cons, List.isEmpty_eq_false_iff]
  exact writeVarInt_append_ne_nil _ _

theorem readPayload_ser (cfg : Cfg) (Z : Bytes → Option Bytes) (b : Bytes) (t : List Bytes)
    (hmax : b.length ≤ maxFrame) :
    readPayload cfg Z (ser (b :: t)) =
      match payloadOf cfg Z b with
      | .error e => .error e
      | .ok p => .ok (p, ser t) := by
  rw [ser_cons, readPayload, readVarIntFrame_frame b (ser t) hmax, payloadOf]
  dsimp only
  cases b.isEmpty with
  | true => rfl
  | false =>
    by_cases hthr : cfg.threshold < 0
    · simp only [Bool.false_eq_true, if_false, if_pos hthr]
    · simp only [Bool.false_eq_true, if_false, if_neg hthr]
      cases openEnvelope cfg Z b <;> rfl

/-- `decodeAll` on a serialised frame list, together with the same fact started inside a `readPacket`
    that has already skipped `k` empty payloads -/
theorem decodeAll_ser_aux (cfg : Cfg) (Z : Bytes → Option Bytes) (fs : List Bytes)
    (hfs : ∀ b ∈ fs, b.length ≤ maxFrame) :
    (∀ fuel, fs.length < fuel → decodeAll cfg Z fuel (ser fs) = gateFrames cfg Z 0 fs) ∧
    (∀ k fuel rest, fs.length < fuel → fs.length ≤ rest → (fs ≠ [] ∨ k ≠ 0) →
      (match readPacket cfg Z fuel k (ser fs) with
        | .error e => ([], some e)
        | .ok (p, r) => let (ps, e) := decodeAll cfg Z rest r; (p :: ps, e)) = gateFrames cfg Z k fs) := by
  induction fs with
  | nil =>
    constructor
    · intro fuel hf
      cases fuel with
      | zero => omega
      | succ f => rfl
    · intro k fuel rest hf _ hk
      cases fuel with
      | zero => omega
      | succ f =>
        have hk : k ≠ 0 := hk.resolve_left (fun h => h rfl)
        simp only [gateFrames, if_neg hk]
        rfl
  | cons b t ih =>
    obtain ⟨ih1, ih2⟩ := ih (fun x hx => hfs x (List.mem_cons_of_mem _ hx))
    have hpacket : ∀ k fuel rest, (b :: t).length < fuel → (b :: t).length ≤ rest →
        (match readPacket cfg Z fuel k (ser (b :: t)) with
          | .error e => ([], some e)
          | .ok (p, r) => let (ps, e) := decodeAll cfg Z rest r; (p :: ps, e)) = gateFrames cfg Z k (b :: t) := by
      intro k fuel rest hf hr
      cases fuel with
      | zero => omega
      | succ f =>
        rw [readPacket, readPayload_ser cfg Z b t (hfs b (List.mem_cons_self ..)), gateFrames]
        cases payloadOf cfg Z b with
        | error e => rfl
        | ok p =>
          dsimp only
          cases p.isEmpty with
          | true =>
            simp only [if_true]
            by_cases hk : k > 10
            · simp only [if_pos hk]
            · simp only [if_neg hk]
              exact ih2 (k + 1) f rest (Nat.lt_of_succ_lt_succ hf) (Nat.le_of_succ_le hr) (Or.inr (Nat.succ_ne_zero k))
          | false =>
            simp only [Bool.false_eq_true, if_false]
            rw [ih1 rest hr]
    constructor
    · intro fuel hf
      cases fuel with
      | zero => omega
      | succ f =>
        rw [decodeAll, if_neg (by rw [ser_cons_ne]; decide)]
        exact hpacket 0 _ f (Nat.lt_succ_of_le (ser_length_ge (b :: t))) (Nat.le_of_lt_succ hf)
    · intro k fuel rest hf hr _
      exact hpacket k fuel rest hf hr

theorem decodeAll_ser (cfg : Cfg) (Z : Bytes → Option Bytes) (fs : List Bytes)
    (hfs : ∀ b ∈ fs, b.length ≤ maxFrame) (fuel : Nat) (hfuel : fs.length < fuel) :
    decodeAll cfg Z fuel (ser fs) = gateFrames cfg Z 0 fs :=
  (decodeAll_ser_aux cfg Z fs hfs).1 fuel hfuel

theorem velocityFrame_ser (b : Bytes) (t : List Bytes) (hmax : b.length ≤ maxFrame) :
    velocityFrame (ser (b :: t)) = if b.isEmpty then .skip (ser t) else .frame b (ser t) := by
  have h := frame_agrees_lemma (b.length : Int) (b ++ ser t) ⟨by omega, by rw [maxFrame_eq] at hmax; omega⟩
  rw [readVarIntFrame_frame b (ser t) hmax] at h
  rw [ser_cons, ← h]
  rfl

theorem velocityDecodeAll_ser (cfg : Cfg) (Z : Bytes → Option Bytes) (fs : List Bytes)
    (hfs : ∀ b ∈ fs, b.length ≤ maxFrame) (fuel : Nat) (hfuel : fs.length < fuel) :
    velocityDecodeAll cfg Z fuel (ser fs) = velFrames cfg Z fs := by
  induction fs generalizing fuel with
  | nil =>
    cases fuel with
    | zero => omega
    | succ f => rfl
  | cons b t ih =>
    cases fuel with
    | zero => omega
    | succ f =>
      have ih' := ih (fun x hx => hfs x (List.mem_cons_of_mem _ hx)) f (Nat.lt_of_succ_lt_succ hfuel)
      rw [velFrames, payloadOf, velocityDecodeAll, if_neg (by rw [ser_cons_ne]; decide),
        velocityFrame_ser b t (hfs b (List.mem_cons_self ..))]
      cases hb : b.isEmpty with
      | true => exact ih'
      | false =>
        simp only [Bool.false_eq_true, if_false, ih', ← envelope_agrees_lemma]
        split
        · simp only [hb, Bool.false_eq_true, if_false]
        · cases openEnvelope cfg Z b <;> rfl

/-- without empty payloads the two decoders do literally the same -/
theorem gateFrames_eq_velFrames (cfg : Cfg) (Z : Bytes → Option Bytes) (fs : List Bytes)
    (h : ∀ b ∈ fs, payloadOf cfg Z b ≠ .ok []) : gateFrames cfg Z 0 fs = velFrames cfg Z fs := by
  induction fs with
  | nil => rfl
  | cons b t ih =>
    have hb := h b (List.mem_cons_self ..)
    rw [gateFrames, velFrames, ih (fun x hx => h x (List.mem_cons_of_mem _ hx))]
    cases hp : payloadOf cfg Z b with
    | error e => rfl
    | ok p =>
      cases p with
      | nil => exact absurd hp hb
      | cons a r => rfl

theorem frames_agree (cfg : Cfg) (Z : Bytes → Option Bytes) (fs : List Bytes) (k : Nat)
    (hlead : ∀ run post, fs = run ++ post → (∀ b ∈ run, payloadOf cfg Z b = .ok []) → run.length + k ≤ 11)
    (hrun : ∀ pre run post, fs = pre ++ run ++ post → (∀ b ∈ run, payloadOf cfg Z b = .ok []) →
      run.length ≤ 11) :
    (gateFrames cfg Z k fs).1 = (velFrames cfg Z fs).1 ∧
    endNorm (gateFrames cfg Z k fs).2 = endNorm (velFrames cfg Z fs).2 := by
  induction fs generalizing k with
  | nil =>
    rw [gateFrames, velFrames]
    by_cases hk : k = 0 <;> simp [hk, endNorm]
  | cons b t ih =>
    have hrun' : ∀ pre run post, t = pre ++ run ++ post → (∀ b ∈ run, payloadOf cfg Z b = .ok []) →
        run.length ≤ 11 :=
      fun pre run post ht hall => hrun (b :: pre) run post (by rw [ht]; rfl) hall
    rw [gateFrames, velFrames]
    cases hp : payloadOf cfg Z b with
    | error e => exact ⟨rfl, rfl⟩
    | ok p =>
      cases p with
      | nil =>
        have hcons : ∀ run post, t = run ++ post → (∀ x ∈ run, payloadOf cfg Z x = .ok []) →
            run.length + (k + 1) ≤ 11 := by
          intro run post ht hall
          have := hlead (b :: run) post (by rw [ht]; rfl) (by
            intro x hx
            rcases List.mem_cons.mp hx with rfl | hx
            · exact hp
            · exact hall x hx)
          rw [List.length_cons] at this
          omega
        have hk : ¬ k > 10 := by
          have := hcons [] t rfl (fun _ h => nomatch h)
          rw [List.length_nil] at this
          omega
        simp only [List.isEmpty_nil, if_true, if_neg hk]
        exact ih (k + 1) hcons hrun'
      | cons a r =>
        have := ih 0 (fun run post ht hall => hrun [b] run post (by rw [ht]; rfl) hall) hrun'
        exact ⟨congrArg (List.cons (a :: r)) this.1, this.2⟩

theorem gateFrames_empty_run (cfg : Cfg) (Z : Bytes → Option Bytes) (run post : List Bytes) (k : Nat)
    (hall : ∀ b ∈ run, payloadOf cfg Z b = .ok []) (h12 : 12 ≤ run.length + k) (hk : k ≤ 11) :
    gateFrames cfg Z k (run ++ post) = ([], some .tooManyEmpty) := by
  induction run generalizing k with
  | nil => simp at h12; omega
  | cons b r ih =>
    rw [List.cons_append, gateFrames, hall b (List.mem_cons_self ..)]
    simp only [List.isEmpty_nil, if_true]
    by_cases hk10 : k > 10
    · rw [if_pos hk10]
    · rw [if_neg hk10]
      exact ih (k + 1) (fun x hx => hall x (List.mem_cons_of_mem _ hx)) (by simp at h12; omega) (by omega)

end Gate.C02
