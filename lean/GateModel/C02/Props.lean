import GateModel.C02.Lemmas
import GateModel.C02.Stream
/-
C02 — Frame decoding matches the vanilla/Velocity acceptance rules on hostile byte streams.

The reference (`Spec.lean`) is Velocity's frame + compress decoder transcribed by hand.  Theorems:
  * `frame_agrees`      for EVERY stream that starts with a minimally encoded length prefix (any int32 value,
                        so negative and > 2^21-1 lengths included) gate's frame reader and Velocity's agree:
                        same skip / same frame and remainder / both still waiting / both reject;
  * `envelope_agrees`   for every frame body, threshold, direction and zlib behaviour, the compression
                        envelope gives the same payload or the same rejection as Velocity (negative claimed,
                        below threshold, above the direction cap, body not inflating to exactly claimed,
                        uncompressed body larger than the threshold; exactly-threshold tolerated);
  * `frame_alloc_bounded`, `inflate_alloc_bounded`  the two allocations are ≤ 2^21-1 resp. ≤ the direction cap
                        and are made only after the checks;
  * `stream_agrees_partial`  whole streams of minimally framed, non-empty-payload frames decode to the same
                        payload list and the same ending as Velocity.  PARTIAL: streams containing frames that
                        yield an empty payload are covered per frame (`frame_agrees` skip case) but not by the
                        stream theorem, because gate gives up after 11 consecutive empty frames
                        (`empty_frame_cap_deviates`, recorded finding) where Velocity does not.
  * `stream_agrees_bounded_empty_runs`  the FULL stream statement: any stream of complete frames — zero-length
                        frames, frames opening to an empty payload, rejected frames included — in which at most
                        11 empty-payload frames follow each other decodes to the same payloads and the same
                        ending as in Velocity; `twelve_empty_frames_rejected` is the converse (the finding,
                        for every stream).  Together they characterise the deviation exactly.
  * totality needs no theorem: `readPayload`, `readPacket`, `decodeAll` are total Lean definitions (recursion on
                        fuel), so the model cannot hang.
-/
namespace Gate.C02.Props
open Gate Gate.C01 Gate.C02 Gate.C03

deriving instance DecidableEq for Except

theorem frame_agrees (len : Int) (r : Bytes) (h : wfInt32 len) :
    toV (readVarIntFrame (writeVarInt len ++ r)) = velocityFrame (writeVarInt len ++ r) :=
  frame_agrees_lemma len r h

theorem envelope_agrees (cfg : Cfg) (Z : Bytes → Option Bytes) (frame : Bytes) :
    openEnvelope cfg Z frame = velocityOpen cfg Z frame := envelope_agrees_lemma cfg Z frame

/-- the clauses of the statement, spelled out on the model (decision logic stated outright) -/
theorem claimed_below_threshold_rejected (cfg : Cfg) (Z : Bytes → Option Bytes) (frame body : Bytes) (claimed : Int)
    (h : readVarInt frame = .ok (claimed, body)) (h0 : claimed ≠ 0) (hlt : claimed < cfg.threshold) :
    openEnvelope cfg Z frame = .error .belowThreshold := by
  rw [openEnvelope_of_claimed h, if_neg h0, if_pos hlt]

theorem negative_claimed_rejected (cfg : Cfg) (Z : Bytes → Option Bytes) (frame body : Bytes) (claimed : Int)
    (hthr : 0 ≤ cfg.threshold) (h : readVarInt frame = .ok (claimed, body)) (hneg : claimed < 0) :
    openEnvelope cfg Z frame = .error .belowThreshold :=
  claimed_below_threshold_rejected cfg Z frame body claimed h (by omega) (by omega)

theorem claimed_above_cap_rejected (cfg : Cfg) (Z : Bytes → Option Bytes) (frame body : Bytes) (claimed : Int)
    (h : readVarInt frame = .ok (claimed, body)) (hge : cfg.threshold ≤ claimed) (h0 : claimed ≠ 0)
    (hcap : claimed > (cfg.cap : Int)) : openEnvelope cfg Z frame = .error .overCap := by
  rw [openEnvelope_of_claimed h, if_neg h0, if_neg (by omega), if_pos hcap]

theorem inexact_inflate_rejected (cfg : Cfg) (Z : Bytes → Option Bytes) (frame body : Bytes) (claimed : Int)
    (h : readVarInt frame = .ok (claimed, body)) (h0 : claimed ≠ 0) (hge : cfg.threshold ≤ claimed)
    (hcap : claimed ≤ (cfg.cap : Int))
    (hz : ∀ out, Z body = some out → (out.length : Int) ≠ claimed) :
    openEnvelope cfg Z frame = .error .badBody := by
  rw [openEnvelope_of_claimed h, if_neg h0, if_neg (by omega), if_neg (by omega), inflateExact]
  cases hzb : Z body with
  | none => rfl
  | some out => exact if_neg (hz out hzb)

theorem uncompressed_threshold_rule (cfg : Cfg) (Z : Bytes → Option Bytes) (body : Bytes) :
    openEnvelope cfg Z (0 :: body) =
      if (body.length : Int) > cfg.threshold then .error .overThreshold else .ok body :=
  openEnvelope_zero cfg Z body

theorem frame_alloc_bounded (s : Bytes) (n : Nat) (h : frameAlloc s = some n) : 0 < n ∧ n ≤ 2 ^ 21 - 1 :=
  maxFrame_eq ▸ frameAlloc_bounded s n h

theorem inflate_alloc_bounded (cfg : Cfg) (frame : Bytes) (n : Nat) (hthr : 0 ≤ cfg.threshold)
    (h : inflateAlloc cfg frame = some n) :
    n ≤ (if cfg.serverBound then 2 * 1024 * 1024 else 8 * 1024 * 1024) ∧ cfg.threshold ≤ (n : Int) := by
  obtain ⟨h1, h2, _⟩ := inflateAlloc_bounded cfg frame n hthr h
  exact ⟨cap_eq cfg ▸ h1, h2⟩

theorem stream_agrees_partial (cfg : Cfg) (Z : Bytes → Option Bytes) (fs : List Bytes)
    (hfs : ∀ b ∈ fs, b ≠ [] ∧ b.length ≤ maxFrame)
    (hpay : 0 ≤ cfg.threshold → ∀ b ∈ fs, openEnvelope cfg Z b ≠ .ok [])
    (f1 f2 : Nat) (h1 : fs.length < f1) (h2 : fs.length < f2) :
    decodeAll cfg Z f1 (ser fs) = velocityDecodeAll cfg Z f2 (ser fs) := by
  rw [decodeAll_ser cfg Z fs (fun b hb => (hfs b hb).2) f1 h1,
    velocityDecodeAll_ser cfg Z fs (fun b hb => (hfs b hb).2) f2 h2]
  apply gateFrames_eq_velFrames
  intro b hb
  rw [payloadOf, if_neg (by simp only [List.isEmpty_iff]; exact (hfs b hb).1)]
  split
  · exact fun hc => (hfs b hb).1 (Except.ok.inj hc)
  · exact hpay (by omega) b hb

/-- FULL stream statement, empty payloads included: a stream of complete frames (any mix of zero-length
    frames, frames that open to an empty payload, ordinary frames and frames either decoder rejects) in which
    no more than 11 empty-payload frames follow each other decodes in gate to the same payload list and the
    same ending as in Velocity ("stream ended" and "waiting for more" identified: the stream is closed).
    The bound 11 is exactly gate's retry cap — beyond it `twelve_empty_frames_rejected` applies. -/
theorem stream_agrees_bounded_empty_runs (cfg : Cfg) (Z : Bytes → Option Bytes) (fs : List Bytes)
    (hfs : ∀ b ∈ fs, b.length ≤ maxFrame)
    (hrun : ∀ pre run post, fs = pre ++ run ++ post → (∀ b ∈ run, payloadOf cfg Z b = .ok []) →
      run.length ≤ 11)
    (f1 f2 : Nat) (h1 : fs.length < f1) (h2 : fs.length < f2) :
    (decodeAll cfg Z f1 (ser fs)).1 = (velocityDecodeAll cfg Z f2 (ser fs)).1 ∧
    endNorm (decodeAll cfg Z f1 (ser fs)).2 = endNorm (velocityDecodeAll cfg Z f2 (ser fs)).2 := by
  rw [decodeAll_ser cfg Z fs hfs f1 h1, velocityDecodeAll_ser cfg Z fs hfs f2 h2]
  exact frames_agree cfg Z fs 0
    (fun run post h hall => by have := hrun [] run post (by simpa using h) hall; omega) hrun

/-- the deviation, for every stream: 12 empty-payload frames in a row at the start of a packet read make
    gate give up (`tooManyEmpty`), whatever follows — this is the recorded finding `empty-frame-retry-cap`,
    and by `stream_agrees_bounded_empty_runs` it is the ONLY way the two decoders differ on complete frames. -/
theorem twelve_empty_frames_rejected (cfg : Cfg) (Z : Bytes → Option Bytes) (run post : List Bytes)
    (hfs : ∀ b ∈ run ++ post, b.length ≤ maxFrame)
    (hall : ∀ b ∈ run, payloadOf cfg Z b = .ok []) (h12 : run.length = 12)
    (fuel : Nat) (hfuel : (run ++ post).length < fuel) :
    decodeAll cfg Z fuel (ser (run ++ post)) = ([], some .tooManyEmpty) := by
  rw [decodeAll_ser cfg Z _ hfs fuel hfuel]
  exact gateFrames_empty_run cfg Z run post 0 hall (by omega) (by omega)

/-- FINDING `empty-frame-retry-cap`: 12 zero-length frames then a valid frame — Velocity yields the frame,
    gate's reader fails with "too many empty packets". -/
theorem empty_frame_cap_deviates :
    decodeAll ⟨-1, true⟩ (fun _ => none) 30 [0, 0, 0, 0, 0, 0, 0, 0, 0, 0, 0, 0, 1, 7] = ([], some .tooManyEmpty) ∧
    velocityDecodeAll ⟨-1, true⟩ (fun _ => none) 30 [0, 0, 0, 0, 0, 0, 0, 0, 0, 0, 0, 0, 1, 7] = ([[7]], none) := by
  constructor <;> decide +kernel

/-- pre-fix: claimed size −5 (`fb ff ff ff 0f`) was taken as "uncompressed" and its bytes passed on -/
theorem negative_claimed_accepted_by_defective_variant :
    openEnvelopeDefective ⟨0, true⟩ (fun _ => []) [0xfb, 0xff, 0xff, 0xff, 0x0f] = .ok [] ∧
    openEnvelope ⟨0, true⟩ (fun _ => none) [0xfb, 0xff, 0xff, 0xff, 0x0f] = .error .belowThreshold := by
  constructor <;> decide +kernel

/-- pre-fix: a body inflating to 4 bytes with claimed size 3 was accepted as a 3-byte payload -/
theorem surplus_inflate_accepted_by_defective_variant :
    openEnvelopeDefective ⟨1, true⟩ (fun _ => [1, 2, 3, 4]) [3, 9, 9] = .ok [1, 2, 3] ∧
    openEnvelope ⟨1, true⟩ (fun _ => some [1, 2, 3, 4]) [3, 9, 9] = .error .badBody := by
  constructor <;> decide +kernel

open Gate.Gen.C01 in
/-- in `decompress` both rejections (`errs.NewSilentErr`) precede `make`, and the exact-size check
    (`d.zrd.Read` of one extra byte) follows the `io.ReadFull` of the claimed bytes -/
theorem src_decompress_shape :
    decompressCalls.idxOf "errs.NewSilentErr" < decompressCalls.idxOf "make" ∧
    decompressCalls.idxOf "make" < decompressCalls.idxOf "io.ReadFull" ∧
    decompressCalls.idxOf "io.ReadFull" < decompressCalls.idxOf "d.zrd.Read" ∧
    "d.zrd.Read" ∈ decompressCalls := by decide +kernel

open Gate.Gen.C01 in
theorem src_frame_checked_before_alloc :
    readVarIntFrameCalls.idxOf "FrameTooLargeError{}" ≥ 0 ∧
    readVarIntFrameCalls.idxOf "util.ReadVarIntReturnN" < readVarIntFrameCalls.idxOf "make" := by decide +kernel

open Gate.Gen.C01 in
/-- every `Read` the frame decoder issues is a full read: the reader is wrapped in `fullReader` both by the
    constructor and by `SetReader` (the path `EnableEncryption` takes), and `fullReader.Read` is `io.ReadFull`.
    This is what makes the model's "function of the remaining stream" reading sound for chunked delivery. -/
theorem src_decoder_reads_are_full :
    "io.ReadFull" ∈ fullReaderReadCalls ∧ "fullReader" ∈ newDecoderLits ∧ "fullReader" ∈ setReaderLits := by
  simp [fullReaderReadCalls, newDecoderLits, setReaderLits]

example : wfInt32 300 ∧ wfInt32 (-5) ∧ wfInt32 2097152 := by unfold wfInt32; omega
example : ∀ b ∈ [[1, 2], [3]], b ≠ [] ∧ b.length ≤ maxFrame := by
  have : 2 ≤ maxFrame := by decide
  intro b hb; simp at hb; rcases hb with rfl | rfl <;> exact ⟨by simp, by simp; omega⟩

/-- a stream with zero-length frames and an empty-envelope frame between ordinary ones meets the hypotheses
    of `stream_agrees_bounded_empty_runs` non-trivially (threshold 0: `[0]` opens to the empty payload) -/
example : payloadOf ⟨0, true⟩ (fun _ => none) [] = .ok [] ∧ payloadOf ⟨0, true⟩ (fun _ => none) [0] = .ok [] ∧
    payloadOf ⟨-1, true⟩ (fun _ => none) [7] = .ok [7] := by decide +kernel
example : decodeAll ⟨-1, true⟩ (fun _ => none) 30 (ser [[], [], [7], [], [8, 9]]) = ([[7], [8, 9]], none) := by
  decide +kernel

end Gate.C02.Props
