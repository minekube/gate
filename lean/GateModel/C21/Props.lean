import GateModel.C21.Lemmas
/-
C21 — secure-chat packets keep client order and conserve acknowledgements.

All theorems quantify over every schedule `acts : List Act` (client packets interleaved arbitrarily with the
asynchronous completions of the future chain) and every decision of the event handlers / command dispatch
(part of each `Op`).  `cfg.repaired = true` is the code after fixes/C21-ack-conservation.diff.

`Op.legal` (hypothesis of the `_partial` theorems) restricts client packets to
  * non-negative offsets, ChatAcknowledgement offsets ≤ 2^31 − 41 (above that the int32 counter wraps:
    `ack_counter_wraps_fails`, known finding ack-int32-wrap),
  * no "illegal protocol state" (a *signed* chat message cancelled, signed command arguments consumed, or — with
    forceKeyAuthentication — rewritten): the handlers disconnect the player / the signature chain is broken,
  * no last-seen-carrying command rewritten by the event on 1.20.5+ (`rewritten_unsigned_drops_acks_fails`,
    known finding ack-drop-rewritten-unsigned).
-/
namespace Gate.C21.Props
open Gate.C21

/-! ### source shape (regenerated from /repo on every run) -/

def subseq : List String → List String → Bool
  | [], _ => true
  | _ :: _, [] => false
  | a :: as, b :: bs => if a = b then subseq as bs else subseq (a :: as) bs

/-- the counter constants the "fewer than 40" bound is made of -/
theorem constants : window = 20 ∧ minDelayed = 20 := ⟨rfl, rfl⟩

/-- queueTask extends the chain (`head = ThenCompose(head, …)`) while holding internalLock -/
theorem queueTask_extends_chain_under_lock :
    subseq ["cq.internalLock.Lock", "defer:cq.internalLock.Unlock", "cq.player.ensureBackendConnection",
      "func:{", "task", "}", "future.ThenCompose"] Gate.Gen.C21.queueTaskCalls = true := by decide +kernel

/-- a QueuePacket task updates the ChatState first, then obtains the packet, then writes it -/
theorem queuePacket_task_shape :
    subseq ["func:{", "chatState.UpdateFromMessage", "nextPacket", "func:{", "cq.writePacket", "}",
      "future.ThenCompose", "}", "cq.queueTask"] Gate.Gen.C21.queuePacketCalls = true := by decide +kernel

/-- an acknowledgement is accounted inside a queued task -/
theorem handleAck_task_shape :
    subseq ["func:{", "chatState.AccumulateAckCount", "cq.writePacket", "}", "cq.queueTask"]
      Gate.Gen.C21.handleAckCalls = true ∧
    subseq ["c.player.chatQueue.HandleAcknowledgement"] Gate.Gen.C21.handleChatAckCalls = true := by decide +kernel

/-- writePacket completes the task's future only after WritePacket returned -/
theorem writePacket_completes_after_write :
    subseq ["go:{", "smc.WritePacket", "f.Complete", "}"] Gate.Gen.C21.writePacketCalls = true := by decide +kernel

/-- ThenCompose completes its result inside the inner future's callback (so the next task starts afterwards) -/
theorem thenCompose_completes_after_inner :
    subseq ["func:{", "callback", "func:{", "out.Complete", "}", "callback().ThenAccept", "}", "f.ThenAccept"]
      Gate.Gen.C21.thenComposeCalls = true := by decide +kernel

/-- the held-back counter is swapped to 0 by UpdateFromMessage and is an int32 add/store in AccumulateAckCount -/
theorem counter_accesses :
    subseq ["cs.delayedAckCount.Swap"] Gate.Gen.C21.updateFromMessageCalls = true ∧
    subseq ["int32", "cs.delayedAckCount.Add", "cs.delayedAckCount.Store"] Gate.Gen.C21.accumulateAckCountCalls = true := by
  decide +kernel

/-- Under every schedule, the chain's state is the sequential state after a prefix `done` of the client's
    packets (the rest is still queued, at most one packet is in flight). -/
theorem chain_refines_sequential (cfg : Cfg) (acts : List Act) :
    ∃ done, done ++ (Sys.init.run cfg acts).pending = opsOf acts ∧
      seqRun cfg St.init done = (Sys.init.run cfg acts).abs ∧
      (inflight (Sys.init.run cfg acts).cur).length ≤ 1 := by
  obtain ⟨done, h1, h2⟩ := reachable_refines cfg acts
  exact ⟨done, h1, h2, inflight_length _⟩

/-- Order: under every schedule and for all event/command outcomes, the packets on the backend connection stem
    from strictly increasing client packets (client order, at most one backend packet per client packet), and each
    is of a kind its client packet can produce. -/
theorem order_preserved (cfg : Cfg) (acts : List Act) :
    (Sys.init.run cfg acts).log.Pairwise (fun a b => a.src < b.src) ∧
    ∀ p ∈ (Sys.init.run cfg acts).log, ∃ op, (opsOf acts)[p.src]? = some op ∧ p.body.from op = true := by
  obtain ⟨done, h1, h2⟩ := reachable_refines cfg acts
  have ⟨hord, hatt⟩ := seqRun_ordered cfg done
  rw [h2] at hord hatt
  refine ⟨(List.pairwise_append.mp hord).1, fun p hp => ?_⟩
  obtain ⟨op, ho, hf⟩ := hatt p (List.mem_append_left _ hp)
  exact ⟨op, h1 ▸ getElem?_append_some ho, hf⟩

/-- Once everything queued has completed, the backend has received exactly the sequential run's packets. -/
theorem quiescent_eq_sequential (cfg : Cfg) (acts : List Act)
    (hp : (Sys.init.run cfg acts).pending = []) (hc : (Sys.init.run cfg acts).cur = none) :
    (Sys.init.run cfg acts).log = (seqRun cfg St.init (opsOf acts)).log ∧
    (Sys.init.run cfg acts).d = (seqRun cfg St.init (opsOf acts)).d := by
  obtain ⟨done, h1, h2⟩ := reachable_refines cfg acts
  obtain rfl : done = opsOf acts := by rw [← h1, hp, List.append_nil]
  rw [h2]
  simp [Sys.abs, hc, inflight]

/-- Conservation, every schedule: with `done` the client packets the queue has taken up so far,
    sent + in-flight + held-back = acknowledged by `done`; the held-back count stays in [0,40)
    (so the backend lags by fewer than 40); the backend never has more than the client acknowledged. -/
theorem ack_conservation_partial (cfg : Cfg) (hr : cfg.repaired = true) (acts : List Act)
    (hl : ∀ op ∈ opsOf acts, op.legal cfg = true) :
    ∃ done, done ++ (Sys.init.run cfg acts).pending = opsOf acts ∧
      backendAcks ((Sys.init.run cfg acts).log ++ inflight (Sys.init.run cfg acts).cur) + (Sys.init.run cfg acts).d
        = clientAcks done ∧
      0 ≤ (Sys.init.run cfg acts).d ∧ (Sys.init.run cfg acts).d < 40 ∧
      backendAcks (Sys.init.run cfg acts).log ≤ clientAcks (opsOf acts) := by
  obtain ⟨done, h1, h2⟩ := reachable_refines cfg acts
  have hld : ∀ op ∈ done, op.legal cfg = true := fun op ho => hl op (by rw [← h1]; simp [ho])
  have hlp : ∀ op ∈ (Sys.init.run cfg acts).pending, op.legal cfg = true := fun op ho => hl op (by rw [← h1]; simp [ho])
  obtain ⟨e1, e2, e3, hnn⟩ := seqRun_ledger cfg hr done hld
  rw [h2] at e1 e2 e3 hnn
  simp only [Sys.abs] at e1 e2 e3 hnn
  refine ⟨done, h1, by omega, e2, e3, ?_⟩
  have hin : 0 ≤ backendAcks (inflight (Sys.init.run cfg acts).cur) :=
    backendAcks_nonneg _ (fun p hp => hnn p (by simp [hp]))
  have hpend := clientAcks_nonneg cfg _ hlp
  rw [← h1, clientAcks_append]
  rw [backendAcks_append] at e1
  omega

/-- Conservation at quiescence: the backend's count is at most the client's and lags it by fewer than 40. -/
theorem ack_lag_bounded_partial (cfg : Cfg) (hr : cfg.repaired = true) (acts : List Act)
    (hl : ∀ op ∈ opsOf acts, op.legal cfg = true)
    (hp : (Sys.init.run cfg acts).pending = []) (hc : (Sys.init.run cfg acts).cur = none) :
    backendAcks (Sys.init.run cfg acts).log ≤ clientAcks (opsOf acts) ∧
    clientAcks (opsOf acts) - backendAcks (Sys.init.run cfg acts).log < 40 := by
  obtain ⟨done, h1, e1, e2, e3, e4⟩ := ack_conservation_partial cfg hr acts hl
  obtain rfl : done = opsOf acts := by rw [← h1, hp, List.append_nil]
  rw [hc] at e1
  simp only [inflight, List.append_nil] at e1
  omega

/-- Catch-up: right after a packet that carries a last-seen update has been processed, nothing is held back and
    the backend's count equals the client's. -/
theorem ack_catch_up_partial (cfg : Cfg) (hr : cfg.repaired = true) (ops : List Op) (op : Op)
    (hl : ∀ o ∈ ops ++ [op], o.legal cfg = true) (hls : op.hasLastSeen = true) :
    (seqRun cfg St.init (ops ++ [op])).d = 0 ∧
    backendAcks (seqRun cfg St.init (ops ++ [op])).log = clientAcks (ops ++ [op]) := by
  obtain ⟨e1, _, _, _⟩ := seqRun_ledger cfg hr (ops ++ [op]) hl
  obtain ⟨_, f2, f3, _⟩ := seqRun_ledger cfg hr ops (fun o ho => hl o (by simp [ho]))
  have hd : (seqRun cfg St.init (ops ++ [op])).d = 0 := by
    rw [seqRun_snoc]
    exact (step_lossless cfg hr _ op (hl op (by simp)) f2 f3).2.2.2.2 hls
  exact ⟨hd, by rw [hd] at e1; omega⟩

/-- Unsigned commands neither carry nor flush held acknowledgements — for every configuration, every held-back
    count and every outcome (no hypothesis). -/
theorem unsigned_neutral (cfg : Cfg) (d : Int) (dec : CmdDec) :
    (stepOp cfg d (.ucmd dec)).1 = d ∧ optAcks (stepOp cfg d (.ucmd dec)).2.pkt = 0 ∧
    ∀ b, (stepOp cfg d (.ucmd dec)).2.pkt = some b → (∃ m, b = .ucmd m) ∨ (cfg.p1205 = false ∧ b = .cmd 0 true) := by
  obtain ⟨fk, p, r⟩ := cfg
  cases dec <;> cases p <;> simp [stepOp, modifyCommand, optAcks, Body.acks]

/-! ### what the code did before fixes/C21-ack-conservation.diff (`repaired = false`) -/

/-- held acknowledgements + the offset of an unsigned chat message cancelled by a plugin were dropped -/
theorem denied_chat_drops_acks_fails :
    ¬ (backendAcks (seqRun ⟨true, false, false⟩ St.init [.ack 3, .chat 2 false .deny]).log
        + (seqRun ⟨true, false, false⟩ St.init [.ack 3, .chat 2 false .deny]).d
        = clientAcks [.ack 3, .chat 2 false .deny]) := by decide

/-- … of a proxy command that returned an error -/
theorem failed_command_drops_acks_fails :
    ¬ (backendAcks (seqRun ⟨true, false, false⟩ St.init [.ack 3, .cmd 2 false .err]).log
        + (seqRun ⟨true, false, false⟩ St.init [.ack 3, .cmd 2 false .err]).d
        = clientAcks [.ack 3, .cmd 2 false .err]) := by decide

/-- … of a command rewritten by the command event (before 1.20.5) -/
theorem rewritten_command_drops_acks_fails :
    ¬ (backendAcks (seqRun ⟨true, false, false⟩ St.init [.ack 3, .cmd 2 false .fwdNew]).log
        + (seqRun ⟨true, false, false⟩ St.init [.ack 3, .cmd 2 false .fwdNew]).d
        = clientAcks [.ack 3, .cmd 2 false .fwdNew]) := by decide

/-! ### what the current code still does (known findings) -/

/-- 1.20.5+: a last-seen-carrying command rewritten by the event becomes an UnsignedPlayerCommand; its offset and the
    held acknowledgements are lost (known finding ack-drop-rewritten-unsigned) -/
theorem rewritten_unsigned_drops_acks_fails :
    ¬ (backendAcks (seqRun ⟨true, true, true⟩ St.init [.ack 3, .cmd 2 false .fwdNew]).log
        + (seqRun ⟨true, true, true⟩ St.init [.ack 3, .cmd 2 false .fwdNew]).d
        = clientAcks [.ack 3, .cmd 2 false .fwdNew]) := by decide

/-- the held-back counter is an int32: 39 held acknowledgements plus a ChatAcknowledgement of 2^31 − 1 wrap it
    to −2147483610, nothing is forwarded and the backend falls behind by more than 2^31
    (known finding ack-int32-wrap) -/
theorem ack_counter_wraps_fails :
    ¬ (clientAcks [.ack 39, .ack 2147483647]
        - backendAcks (seqRun ⟨true, true, true⟩ St.init [.ack 39, .ack 2147483647]).log < 40) ∧
    (seqRun ⟨true, true, true⟩ St.init [.ack 39, .ack 2147483647]).d = -2147483610 := by
  decide

/-- the hypotheses are satisfiable by a history exercising every kind of packet and the three repaired paths -/
example : ∀ op ∈ [Op.ack 3, .chat 2 false .deny, .cmd 1 false .err, .cmd 4 false .fwdNew, .ucmd .fwdNew,
    .chat 0 true .allow, .cmd 0 true .fwdSame, .ack 38, .ack 1, .cmd 7 false .consume],
    op.legal ⟨true, false, true⟩ = true := by decide

/-- and such a history really sends acknowledgements through all three channels -/
example : (seqRun ⟨true, false, true⟩ St.init [.ack 3, .chat 2 false .deny, .ack 38, .ack 1, .ack 1, .cmd 7 false .consume]).log
    = [⟨1, .ack 5⟩, ⟨4, .ack 20⟩, ⟨5, .ack 27⟩] := by decide

/-- a schedule with two packets queued behind an unfinished write -/
example : (Sys.init.run ⟨true, false, true⟩ [.enq (.chat 1 false .allow), .tick, .tick, .enq (.ack 2), .enq (.ucmd .fwdSame)]).pending.length = 2 := by
  decide

end Gate.C21.Props
