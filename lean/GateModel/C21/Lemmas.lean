import GateModel.C21.Model
/-
C21 helper lemmas.  A sequential run is analysed through `seqRun_induct` (what every task keeps holds along the run),
with `step_lossless` as the ledger of one task.  The future chain is, at every moment of every schedule, the
sequential run of a prefix of the client's packets (`reachable_refines`); that carries the sequential facts over.
-/
namespace Gate.C21

theorem window_eq : window = 20 := rfl
theorem minDelayed_eq : minDelayed = 20 := rfl

theorem wrap32_id (x : Int) (h1 : -2147483648 ≤ x) (h2 : x < 2147483648) : wrap32 x = x := by
  unfold wrap32; omega

theorem backendAcks_append (a b : List Pkt) : backendAcks (a ++ b) = backendAcks a + backendAcks b := by
  induction a with
  | nil => simp [backendAcks]
  | cons p r ih => simp [backendAcks, ih]; omega

theorem clientAcks_append (a b : List Op) : clientAcks (a ++ b) = clientAcks a + clientAcks b := by
  induction a with
  | nil => simp [clientAcks]
  | cons p r ih => simp [clientAcks, ih]; omega

theorem backendAcks_emit (log : List Pkt) (i : Nat) (o : Option Body) :
    backendAcks (emit log i o) = backendAcks log + optAcks o := by
  cases o <;> simp [emit, optAcks, backendAcks_append, backendAcks]

theorem accumulate_spec (d o : Int) (hd0 : 0 ≤ d) (hd : d < 40) (ho0 : 0 ≤ o) (ho : o ≤ 2147483607) :
    (accumulate d o = (d + o, none) ∧ d + o < 40) ∨
    (accumulate d o = (20, some (d + o - 20)) ∧ 40 ≤ d + o) := by
  have e1 : wrap32 o = o := wrap32_id o (by omega) (by omega)
  have e2 : wrap32 (d + o) = d + o := wrap32_id _ (by omega) (by omega)
  have e3 : wrap32 (d + o - 20) = d + o - 20 := wrap32_id _ (by omega) (by omega)
  simp only [accumulate, e1, e2, minDelayed_eq, window_eq, e3]
  by_cases h : d + o - 20 ≥ 20
  · right; simp [h]; omega
  · left; simp [h]; omega

theorem ackOrNone_acks (off : Int) : optAcks (ackOrNone off).pkt = off := by
  by_cases h : off = 0 <;> simp [ackOrNone, optAcks, Body.acks, h]

theorem ackOrNone_pkt (off : Int) (b : Body) (h : (ackOrNone off).pkt = some b) : b = .ack off := by
  by_cases h0 : off = 0 <;> simp [ackOrNone, h0] at h
  exact h.symm

/-- A legal task neither creates nor loses acknowledgements, keeps `0 ≤ delayed < 40`,
    and a last-seen-carrying packet flushes everything that was held back. -/
theorem step_lossless (cfg : Cfg) (hr : cfg.repaired = true) (d : Int) (op : Op) (hl : op.legal cfg = true)
    (hd0 : 0 ≤ d) (hd : d < 40) :
    (stepOp cfg d op).1 + optAcks (stepOp cfg d op).2.pkt = d + op.acked ∧
    0 ≤ (stepOp cfg d op).1 ∧ (stepOp cfg d op).1 < 40 ∧ 0 ≤ optAcks (stepOp cfg d op).2.pkt ∧
    (op.hasLastSeen = true → (stepOp cfg d op).1 = 0) := by
  cases op with
  | chat o signed dec =>
    simp only [Op.legal, Op.inRange, Op.rewrittenUnsigned, Bool.and_eq_true, Bool.not_eq_true', decide_eq_true_eq] at hl
    obtain ⟨⟨ho, hi⟩, _⟩ := hl
    cases dec <;> cases signed <;> simp [Op.illegal] at hi <;>
      simp only [stepOp, hr, hi, Op.acked, Op.hasLastSeen, Bool.false_eq_true, if_false, if_true, Bool.false_and,
        Bool.true_and, ackOrNone_acks] <;>
      simp [optAcks, Body.acks] <;> omega
  | cmd o sargs dec =>
    simp only [Op.legal, Op.inRange, Bool.and_eq_true, Bool.not_eq_true', decide_eq_true_eq] at hl
    obtain ⟨⟨ho, hi⟩, hu⟩ := hl
    cases dec <;> cases sargs <;> simp [Op.illegal] at hi <;> simp [Op.rewrittenUnsigned] at hu <;>
      simp only [stepOp, hr, hi, hu, Op.acked, Op.hasLastSeen, if_true, consumeCommand, ackOrNone_acks, modifyCommand,
        Bool.false_and, Bool.true_and, Bool.false_eq_true, if_false] <;>
      simp [optAcks, Body.acks] <;> omega
  | ucmd dec =>
    cases dec <;> simp only [stepOp, modifyCommand, Op.acked, Op.hasLastSeen, Bool.false_and, Bool.false_eq_true, if_false] <;>
      (try split) <;> simp [optAcks, Body.acks, hd0, hd]
  | ack o =>
    simp only [Op.legal, Op.inRange, Bool.and_eq_true, decide_eq_true_eq] at hl
    obtain ⟨⟨⟨ho0, ho⟩, _⟩, _⟩ := hl
    rcases accumulate_spec d o hd0 hd ho0 ho with ⟨h, hlt⟩ | ⟨h, hge⟩
    · simp [stepOp, h, optAcks, Op.acked, Op.hasLastSeen]; omega
    · simp [stepOp, h, optAcks, Body.acks, Op.acked, Op.hasLastSeen]; omega

theorem consume_from (cfg : Cfg) (sargs : Bool) (off : Int) (b : Body) (h : (consumeCommand cfg sargs off).pkt = some b) :
    b = .ack off := by
  cases sargs
  · exact ackOrNone_pkt off b (by simpa [consumeCommand] using h)
  · simp [consumeCommand] at h

theorem modify_from (cfg : Cfg) (sargs : Bool) (off : Int) (b : Body) (h : (modifyCommand cfg sargs off).pkt = some b) :
    b = .ucmd true ∨ ∃ o, b = .cmd o true := by
  unfold modifyCommand at h
  split at h
  · simp at h
  · split at h
    · left; simpa using h.symm
    · right; exact ⟨_, by simpa using h.symm⟩

/-- a packet produced for a client packet is of a kind that client packet can produce -/
theorem step_from (cfg : Cfg) (d : Int) (op : Op) (b : Body) (h : (stepOp cfg d op).2.pkt = some b) :
    b.from op = true := by
  cases op with
  | chat o signed dec =>
    cases dec with
    | allow => simp [stepOp] at h; subst h; rfl
    | deny =>
      simp only [stepOp] at h
      split at h
      · simp at h
      · split at h
        · rw [ackOrNone_pkt _ b h]; rfl
        · simp at h
    | modify =>
      simp only [stepOp] at h
      split at h
      · simp at h
      · simp at h; subst h; rfl
  | cmd o sargs dec =>
    cases dec with
    | consume => simp only [stepOp] at h; rw [consume_from _ _ _ b h]; rfl
    | err =>
      simp only [stepOp] at h
      split at h
      · rw [consume_from _ _ _ b h]; rfl
      · simp at h
    | fwdSame => simp [stepOp] at h; subst h; rfl
    | fwdNew =>
      simp only [stepOp] at h
      rcases modify_from _ _ _ b h with h | ⟨o', h⟩ <;> subst h <;> rfl
  | ucmd dec =>
    cases dec with
    | consume => simp [stepOp] at h
    | err => simp [stepOp] at h
    | fwdSame => simp [stepOp] at h; subst h; rfl
    | fwdNew =>
      simp only [stepOp] at h
      rcases modify_from _ _ _ b h with h | ⟨o', h⟩ <;> subst h <;> rfl
  | ack o =>
    simp only [stepOp] at h
    split at h <;> simp at h
    subst h; rfl

theorem seqRun_append (cfg : Cfg) (s : St) (a b : List Op) :
    seqRun cfg s (a ++ b) = seqRun cfg (seqRun cfg s a) b := by
  simp [seqRun, List.foldl_append]

theorem seqRun_snoc (cfg : Cfg) (s : St) (a : List Op) (op : Op) :
    seqRun cfg s (a ++ [op]) = seqStep cfg (seqRun cfg s a) op :=
  seqRun_append cfg s a [op]

theorem seqRun_idx (cfg : Cfg) (s : St) (ops : List Op) : (seqRun cfg s ops).idx = s.idx + ops.length := by
  induction ops generalizing s with
  | nil => simp [seqRun]
  | cons op r ih =>
    have := ih (seqStep cfg s op)
    simp only [seqRun, List.foldl_cons] at this ⊢
    rw [this]; simp [seqStep]; omega

theorem mem_emit {log : List Pkt} {i : Nat} {o : Option Body} {p : Pkt} (h : p ∈ emit log i o) :
    p ∈ log ∨ ∃ b, o = some b ∧ p = ⟨i, b⟩ := by
  cases o with
  | none => exact .inl h
  | some b => exact (List.mem_append.mp h).imp_right fun h => ⟨b, rfl, List.mem_singleton.mp h⟩

/-- An invariant `I pre s` of "the tasks of the client packets `pre` have run and left the state `s`" holds
    along a sequential run if every task (of a packet satisfying `C`) keeps it. -/
theorem seqRun_induct (cfg : Cfg) {I : List Op → St → Prop} {C : Op → Prop}
    (step : ∀ pre s op, C op → I pre s → I (pre ++ [op]) (seqStep cfg s op)) :
    ∀ (ops pre : List Op) (s : St), (∀ op ∈ ops, C op) → I pre s → I (pre ++ ops) (seqRun cfg s ops)
  | [], pre, s, _, h => by simpa [seqRun] using h
  | op :: r, pre, s, hc, h => by
    have := seqRun_induct cfg step r (pre ++ [op]) (seqStep cfg s op)
      (fun o ho => hc o (List.mem_cons_of_mem _ ho)) (step pre s op (hc op List.mem_cons_self) h)
    simpa [seqRun] using this

/-- ledger of a sequential run of legal packets: what the backend got plus what is held back is what the client
    acknowledged; fewer than 40 are held back; no packet carries a negative count -/
theorem seqRun_ledger (cfg : Cfg) (hr : cfg.repaired = true) (ops : List Op) (hl : ∀ op ∈ ops, op.legal cfg = true) :
    backendAcks (seqRun cfg St.init ops).log + (seqRun cfg St.init ops).d = clientAcks ops ∧
    0 ≤ (seqRun cfg St.init ops).d ∧ (seqRun cfg St.init ops).d < 40 ∧
    ∀ p ∈ (seqRun cfg St.init ops).log, 0 ≤ p.body.acks := by
  refine seqRun_induct cfg (C := fun op => op.legal cfg = true)
    (I := fun pre s => backendAcks s.log + s.d = clientAcks pre ∧ 0 ≤ s.d ∧ s.d < 40 ∧ ∀ p ∈ s.log, 0 ≤ p.body.acks)
    (fun pre s op hop ⟨a1, a2, a3, a4⟩ => ?_) ops [] St.init hl ⟨rfl, Int.le_refl _, by decide, nofun⟩
  obtain ⟨e1, e2, e3, e4, _⟩ := step_lossless cfg hr s.d op hop a2 a3
  refine ⟨?_, e2, e3, fun p hp => ?_⟩
  · simp only [seqStep, backendAcks_emit, clientAcks_append, clientAcks]; omega
  · rcases mem_emit hp with hp | ⟨b, hb, rfl⟩
    · exact a4 p hp
    · rwa [hb] at e4

theorem backendAcks_nonneg (l : List Pkt) (h : ∀ p ∈ l, 0 ≤ p.body.acks) : 0 ≤ backendAcks l := by
  induction l with
  | nil => simp [backendAcks]
  | cons p r ih =>
    have h1 := h p (by simp)
    have h2 := ih (fun q hq => h q (by simp [hq]))
    simp only [backendAcks]; omega

theorem legal_acked_nonneg (cfg : Cfg) (op : Op) (h : op.legal cfg = true) : 0 ≤ op.acked := by
  cases op <;> simp [Op.legal, Op.inRange, Op.acked] at h ⊢ <;> omega

theorem clientAcks_nonneg (cfg : Cfg) (ops : List Op) (h : ∀ op ∈ ops, op.legal cfg = true) : 0 ≤ clientAcks ops := by
  induction ops with
  | nil => simp [clientAcks]
  | cons op r ih =>
    have h1 := legal_acked_nonneg cfg op (h op (by simp))
    have h2 := ih (fun q hq => h q (by simp [hq]))
    simp only [clientAcks]; omega

theorem getElem?_append_some {α} {l r : List α} {i : Nat} {a : α} (h : l[i]? = some a) : (l ++ r)[i]? = some a := by
  rw [List.getElem?_append_left (List.getElem?_eq_some_iff.mp h).1]; exact h

/-- packets appear on the backend in strictly increasing order of their client packets; each stems from the
    client packet with its index and is of a kind that packet produces -/
theorem seqRun_ordered (cfg : Cfg) (ops : List Op) :
    (seqRun cfg St.init ops).log.Pairwise (fun a b => a.src < b.src) ∧
    ∀ p ∈ (seqRun cfg St.init ops).log, ∃ op, ops[p.src]? = some op ∧ p.body.from op = true := by
  refine (seqRun_induct cfg (C := fun _ => True)
    (I := fun pre s => s.idx = pre.length ∧ s.log.Pairwise (fun a b => a.src < b.src) ∧
      ∀ p ∈ s.log, ∃ op, pre[p.src]? = some op ∧ p.body.from op = true)
    (fun pre s op _ ⟨hi, hp, ha⟩ => ⟨by simp [seqStep, hi], ?_, fun p hp' => ?_⟩)
    ops [] St.init (fun _ _ => trivial) ⟨rfl, .nil, nofun⟩).2
  · cases hk : (stepOp cfg s.d op).2.pkt with
    | none => simpa [seqStep, hk, emit] using hp
    | some b =>
      simp only [seqStep, hk, emit]
      refine List.pairwise_append.mpr ⟨hp, List.pairwise_singleton _ _, fun a ha' c hc => ?_⟩
      obtain ⟨o, ho, _⟩ := ha a ha'
      rw [List.mem_singleton.mp hc, hi]
      exact (List.getElem?_eq_some_iff.mp ho).1
  · rcases mem_emit hp' with hp' | ⟨b, hb, rfl⟩
    · obtain ⟨o, ho, hf⟩ := ha p hp'
      exact ⟨o, getElem?_append_some ho, hf⟩
    · exact ⟨op, by simp [hi], step_from cfg s.d op b hb⟩

/-- abstraction: the sequential state the chain has reached (the in-flight packet counts as sent) -/
def Sys.abs (s : Sys) : St := ⟨s.d, s.log ++ inflight s.cur, s.started⟩

theorem step_refines (cfg : Cfg) (s : Sys) (done : List Op) (a : Act)
    (h : seqRun cfg St.init done = s.abs) :
    ∃ done', done' ++ (s.step cfg a).pending = done ++ s.pending ++ opsOf [a] ∧
      seqRun cfg St.init done' = (s.step cfg a).abs := by
  cases a with
  | enq op => exact ⟨done, by simp [Sys.step, opsOf], by simpa [Sys.step, Sys.abs] using h⟩
  | tick =>
    cases hc : s.cur with
    | none =>
      cases hp : s.pending with
      | nil => exact ⟨done, by simp [Sys.step, hc, hp, opsOf], by simpa [Sys.step, hc, hp, Sys.abs] using h⟩
      | cons op rest =>
        refine ⟨done ++ [op], by simp [Sys.step, hc, hp, opsOf], ?_⟩
        rw [seqRun_snoc, h]
        cases hk : (stepOp cfg s.d op).2.pkt <;>
          simp [Sys.step, hc, hp, Sys.abs, seqStep, inflight, emit, hk]
    | some ph =>
      rcases ph with (_ | p) | p | _ <;>
        exact ⟨done, by simp [Sys.step, hc, opsOf], by simpa [Sys.step, hc, Sys.abs, inflight] using h⟩

theorem opsOf_cons (a : Act) (r : List Act) : opsOf (a :: r) = opsOf [a] ++ opsOf r := by
  cases a <;> simp [opsOf]

theorem run_refines (cfg : Cfg) (acts : List Act) :
    ∀ (s : Sys) (done : List Op), seqRun cfg St.init done = s.abs →
      ∃ done', done' ++ (s.run cfg acts).pending = done ++ s.pending ++ opsOf acts ∧
        seqRun cfg St.init done' = (s.run cfg acts).abs := by
  induction acts with
  | nil => intro s done h; exact ⟨done, by simp [Sys.run, opsOf], by simpa [Sys.run] using h⟩
  | cons a r ih =>
    intro s done h
    obtain ⟨d1, e1, h1⟩ := step_refines cfg s done a h
    obtain ⟨d2, e2, h2⟩ := ih (s.step cfg a) d1 h1
    refine ⟨d2, ?_, by simpa [Sys.run] using h2⟩
    have : (s.run cfg (a :: r)) = (s.step cfg a).run cfg r := by simp [Sys.run]
    rw [this, e2, e1, opsOf_cons a r]; simp

/-- Every reachable state of the chain is the sequential state after a prefix `done` of the client's packets;
    the rest is still queued, at most one packet is in flight. -/
theorem reachable_refines (cfg : Cfg) (acts : List Act) :
    ∃ done, done ++ (Sys.init.run cfg acts).pending = opsOf acts ∧
      seqRun cfg St.init done = (Sys.init.run cfg acts).abs := by
  have := run_refines cfg acts Sys.init [] (by simp [seqRun, Sys.abs, Sys.init, St.init, inflight])
  simpa [Sys.init] using this

theorem inflight_length (c : Option Phase) : (inflight c).length ≤ 1 := by
  rcases c with _ | (_ | _) | _ | _ <;> simp [inflight]

end Gate.C21
