import GateModel.Base.Bytes
import GateModel.Gen.C41
/-
C41 — model of pkg/util/connectutil/principal.go:ExtractSessionPrincipalWire and of the
protowire primitives it calls (google.golang.org/protobuf/encoding/protowire).

The generated `connect.Session` descriptor knows fields 1..4 only, so the "typed fields" loop of the
extractor never fires (the harness observes this on every run: case `desc`); the model is the scan of
the unknown-field region `m.GetUnknown()`.

Integers: a varint is a `Nat < 2^64`; `int32(int64(v))` / `int64(v)` are the explicit two's
complement conversions `toInt32` / `toInt64`.  Strings are byte strings.
-/
namespace Gate.C41
open Gate

/-! ## protowire -/

/-- protowire's negative error codes (`ParseError`), plus `fuel` which is proved unreachable -/
inductive PErr where
  | truncated | fieldNumber | overflow | reserved | endGroup | recursion | fuel
  deriving DecidableEq, Repr, Inhabited

def PErr.toString : PErr → String
  | .truncated => "enc-truncated" | .fieldNumber => "enc-fieldnumber" | .overflow => "enc-overflow"
  | .reserved => "enc-reserved" | .endGroup => "enc-endgroup" | .recursion => "enc-recursion" | .fuel => "enc-fuel"

/-- `ConsumeVarint`, unrolled in Go for bytes 0..9: `i` = index of the byte, `acc` = value so far.
    Byte 9 may only contribute bit 63 (`y < 2`), otherwise overflow. -/
def varintLoop : Nat → Nat → Bytes → Except PErr (Nat × Bytes)
  | _, _, [] => .error .truncated
  | i, acc, b :: r =>
    if i ≥ 9 then (if b.toNat < 2 then .ok (acc + b.toNat * 2 ^ 63, r) else .error .overflow)
    else if b.toNat < 128 then .ok (acc + b.toNat * 2 ^ (7 * i), r)
    else varintLoop (i + 1) (acc + (b.toNat - 128) * 2 ^ (7 * i)) r

def consumeVarint (bs : Bytes) : Except PErr (Nat × Bytes) := varintLoop 0 0 bs

/-- `ConsumeTag`: `DecodeTag` yields −1 when `x>>3 > MaxInt32`; numbers below 1 are invalid. -/
def consumeTag (bs : Bytes) : Except PErr ((Nat × Nat) × Bytes) :=
  match consumeVarint bs with
  | .error e => .error e
  | .ok (v, r) =>
    if v / 8 > 2147483647 then .error .fieldNumber
    else if v / 8 < 1 then .error .fieldNumber
    else .ok ((v / 8, v % 8), r)

/-- `ConsumeBytes` -/
def consumeBytes (bs : Bytes) : Except PErr (Bytes × Bytes) :=
  match consumeVarint bs with
  | .error e => .error e
  | .ok (m, r) => if m > r.length then .error .truncated else .ok (r.take m, r.drop m)

/-- `ConsumeFixed32` / `ConsumeFixed64` (only the length matters here) -/
def consumeFixed (n : Nat) (bs : Bytes) : Except PErr Bytes :=
  if bs.length < n then .error .truncated else .ok (bs.drop n)

/-- the non-group arms of `ConsumeFieldValue`; returns the remaining input -/
def consumeScalar (typ : Nat) (bs : Bytes) : Except PErr Bytes :=
  if typ = 0 then (match consumeVarint bs with | .error e => .error e | .ok (_, r) => .ok r)
  else if typ = 5 then consumeFixed 4 bs
  else if typ = 1 then consumeFixed 8 bs
  else if typ = 2 then (match consumeBytes bs with | .error e => .error e | .ok (_, r) => .ok r)
  else if typ = 4 then .error .endGroup
  else .error .reserved

/-- `protowire.DefaultRecursionLimit` (protobuf v1.36.11: `consumeFieldValueD(num, typ, b, 10000)`) -/
def recursionLimit : Nat := 10000

/-- The `StartGroupType` arm of `consumeFieldValueD`.  Go recurses with `depth-1` per nesting level and
    fails with `errCodeRecursionDepth` when a group starts at `depth < 0`; this is the same traversal
    with the open group numbers on an explicit stack (innermost first): a group opened while `s` groups
    are open runs at depth `10000 - s`.  Every round consumes a tag (≥ 1 byte), so
    `fuel = length + 1` always suffices (`skipGroup_consumes` in Lemmas). -/
def skipGroup : Nat → List Nat → Bytes → Except PErr Bytes
  | _, [], bs => .ok bs
  | 0, _ :: _, _ => .error .fuel
  | fuel + 1, top :: stack, bs =>
    match consumeTag bs with
    | .error e => .error e
    | .ok ((num, typ), r) =>
      if typ = 4 then (if num = top then skipGroup fuel stack r else .error .endGroup)
      else if typ = 3 then
        (if (top :: stack).length > recursionLimit then .error .recursion else skipGroup fuel (num :: top :: stack) r)
      else match consumeScalar typ r with
        | .error e => .error e
        | .ok r' => skipGroup fuel (top :: stack) r'

/-- `ConsumeFieldValue(num, typ, b)`; returns the remaining input -/
def consumeFieldValue (num typ : Nat) (bs : Bytes) : Except PErr Bytes :=
  if typ = 3 then skipGroup (bs.length + 1) [num] bs else consumeScalar typ bs

/-! ## integer conversions -/

/-- `int32(int64(v))` for a `uint64` `v` -/
def toInt32 (v : Nat) : Int :=
  let u : Nat := v % 2 ^ 32
  if u < 2 ^ 31 then (u : Int) else (u : Int) - (2 ^ 32 : Nat)
/-- `int64(v)` for a `uint64` `v` -/
def toInt64 (v : Nat) : Int :=
  let u : Nat := v % 2 ^ 64
  if u < 2 ^ 63 then (u : Int) else (u : Int) - (2 ^ 64 : Nat)

/-! ## constants (regenerated from principal.go) -/

def fProtocol : Nat := Gate.Gen.C41.fieldProtocol.toNat
def fEndpoint : Nat := Gate.Gen.C41.fieldEndpointID.toNat
def fOrg      : Nat := Gate.Gen.C41.fieldOrganizationID.toNat
def fNonce    : Nat := Gate.Gen.C41.fieldNonce.toNat
def fSpv      : Nat := Gate.Gen.C41.fieldSourceProtocolVersion.toNat
def fPolicy   : Nat := Gate.Gen.C41.fieldPolicyRevision.toNat
def fEnvelope : Nat := Gate.Gen.C41.fieldEnvelope.toNat
/-- `bedrockprincipal.MaxEnvelopeBytes` (module go.minekube.com/connect, outside /repo: read back
    through the harness on every run, case `const`) -/
def maxEnvelopeBytes : Nat := 16384
/-- `len(w.ConnectSessionNonce)` -/
def nonceLen : Nat := 16

/-! ## the extractor -/

inductive XErr where
  | enc (e : PErr)     -- "invalid session field encoding: …"
  | wireType           -- "session field %d has unexpected wire type %d"
  | dupEnvelope        -- "session carries more than one signed principal envelope"
  | envelopeSize       -- "signed principal envelope has invalid size"
  | nonceSize          -- "signed principal session nonce has invalid size"
  deriving DecidableEq, Repr, Inhabited

def XErr.toString : XErr → String
  | .enc e => e.toString | .wireType => "wiretype" | .dupEnvelope => "dup-envelope"
  | .envelopeSize => "envelope-size" | .nonceSize => "nonce-size"

/-- the local variables of `ExtractSessionPrincipalWire` (`w`, `found`, `nonce`, `haveEnvelope`) -/
structure Acc where
  protocol : Int := 0
  endpoint : Bytes := []
  org      : Bytes := []
  nonce    : Bytes := []
  spv      : Int := 0
  policy   : Int := 0
  envelope : Bytes := []
  haveEnv  : Bool := false
  found    : Bool := false
  deriving DecidableEq, Repr, Inhabited

/-- `*SessionPrincipalWire` -/
structure Wire where
  protocol : Int
  endpoint : Bytes
  org      : Bytes
  nonce    : Bytes       -- always 16 bytes
  spv      : Int
  policy   : Int
  envelope : Bytes
  deriving DecidableEq, Repr, Inhabited

def isPrincipal (num : Nat) : Bool := decide (fProtocol ≤ num) && decide (num ≤ fEnvelope)
def wantBytes (num : Nat) : Bool :=
  decide (num = fEndpoint) || decide (num = fOrg) || decide (num = fNonce) || decide (num = fEnvelope)

/-- the `switch num` after `ConsumeBytes` -/
def setBytes (a : Acc) (num : Nat) (v : Bytes) : Except XErr Acc :=
  if num = fEndpoint then .ok { a with endpoint := v, found := true }
  else if num = fOrg then .ok { a with org := v, found := true }
  else if num = fNonce then .ok { a with nonce := v, found := true }
  else if num = fEnvelope then
    if a.haveEnv then .error .dupEnvelope
    else if v.length = 0 || decide (v.length > maxEnvelopeBytes) then .error .envelopeSize
    else .ok { a with envelope := v, haveEnv := true, found := true }
  else .ok a

/-- the `switch num` after `ConsumeVarint` -/
def setVarint (a : Acc) (num : Nat) (v : Nat) : Acc :=
  if num = fProtocol then { a with protocol := toInt32 v, found := true }
  else if num = fSpv then { a with spv := toInt32 v, found := true }
  else if num = fPolicy then { a with policy := toInt64 v, found := true }
  else a

/-- one round of `for len(raw) > 0 { … }` after `ConsumeTag` returned `(num, typ)`, rest `r` -/
def stepRaw (a : Acc) (num typ : Nat) (r : Bytes) : Except XErr (Acc × Bytes) :=
  let wb := wantBytes num
  if !isPrincipal num || (wb && typ != 2) || (!wb && typ != 0) then
    if isPrincipal num then .error .wireType
    else match consumeFieldValue num typ r with
      | .error e => .error (.enc e)
      | .ok r' => .ok (a, r')
  else if wb then
    match consumeBytes r with
    | .error e => .error (.enc e)
    | .ok (v, r') => match setBytes a num v with
      | .error e => .error e
      | .ok a' => .ok (a', r')
  else
    match consumeVarint r with
    | .error e => .error (.enc e)
    | .ok (v, r') => .ok (setVarint a num v, r')

/-- the scan loop; `fuel = length + 1` always suffices (`scan_nofuel`) -/
def scan : Nat → Acc → Bytes → Except XErr Acc
  | _, a, [] => .ok a
  | 0, _, _ :: _ => .error (.enc .fuel)
  | fuel + 1, a, b :: bs =>
    match consumeTag (b :: bs) with
    | .error e => .error (.enc e)
    | .ok ((num, typ), r) =>
      match stepRaw a num typ r with
      | .error e => .error e
      | .ok (a', r') => scan fuel a' r'

/-- the tail of the function: `if !found …; if haveEnvelope { nonce check; copy }` -/
def finish (a : Acc) : Except XErr (Option Wire) :=
  if !a.found then .ok none
  else if a.haveEnv then
    if a.nonce.length ≠ nonceLen then .error .nonceSize
    else .ok (some ⟨a.protocol, a.endpoint, a.org, a.nonce, a.spv, a.policy, a.envelope⟩)
  else .ok (some ⟨a.protocol, a.endpoint, a.org, List.replicate nonceLen 0, a.spv, a.policy, a.envelope⟩)

/-- `ExtractSessionPrincipalWire` on a session whose unknown-field region is `raw` -/
def extract (raw : Bytes) : Except XErr (Option Wire) :=
  match scan (raw.length + 1) {} raw with
  | .error e => .error e
  | .ok a => finish a

/-! ## protobuf-go's split of the message into known fields and the unknown region

`proto.Unmarshal` into `connect.Session` (impl.unmarshalPointerEager) consumes the records (field 1..4,
wire type 2) as typed fields and appends every other record, in order, to the unknown region: the tag
re-encoded minimally (`protowire.AppendTag`), the value bytes verbatim.  Only used by the driver to
predict `GetUnknown()` for messages whose known fields carry valid contents. -/

/-- `protowire.AppendVarint` (10 bytes suffice for a uint64) -/
def appendVarintF : Nat → Nat → Bytes
  | 0, v => [UInt8.ofNat (v % 128)]
  | fuel + 1, v => if v < 128 then [UInt8.ofNat v] else UInt8.ofNat (v % 128 + 128) :: appendVarintF fuel (v / 128)
def appendVarint (v : Nat) : Bytes := appendVarintF 9 v

def isKnown (num typ : Nat) : Bool := decide (1 ≤ num) && decide (num ≤ 4) && decide (typ = 2)

def unknownOf : Nat → Bytes → Except PErr Bytes
  | _, [] => .ok []
  | 0, _ :: _ => .error .fuel
  | fuel + 1, b :: bs =>
    match consumeTag (b :: bs) with
    | .error e => .error e
    | .ok ((num, typ), r) =>
      -- protobuf-go's own tag check: numbers above MaxValidNumber (2^29-1) are a decode error
      if num > 536870911 then .error .fieldNumber else
      match consumeFieldValue num typ r with
      | .error e => .error e
      | .ok r' =>
        match unknownOf fuel r' with
        | .error e => .error e
        | .ok u =>
          if isKnown num typ then .ok u
          else .ok (appendVarint (num * 8 + typ) ++ r.take (r.length - r'.length) ++ u)

end Gate.C41
