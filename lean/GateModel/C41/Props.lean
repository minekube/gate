import GateModel.C41.Lemmas
/-
C41 — Connect session principal fields are extracted exactly or rejected.

`extract raw` is the model of `ExtractSessionPrincipalWire` on a session whose unknown-field region is
`raw` (Model.lean).  `parse raw` is the two-phase reference reader's record list; `refWire`,
`rejectCond` (= `wrongType ∨ dupEnvelope ∨ badEnvelopeSize ∨ badNonce`), `hasPrincipal` and
`expected` are its declarative reading (Spec.lean).  Every theorem is for ALL byte strings — any field
numbers, wire types, orders, repetitions, truncations, group nesting.
-/
namespace Gate.C41.Props
open Gate Gate.C41

theorem malformed_rejected (bs : Bytes) (e : PErr) (h : parse bs = .error e) : ∃ x, extract bs = .error x :=
  let ⟨x, hx, _⟩ := (scan_fusion (bs.length + 1) {} bs (Nat.lt_succ_self _)).2 e h
  ⟨x, by rw [extract, hx]⟩

/-- A well-formed proposal with no reject condition: the extractor returns exactly what the reference
    reads (last value wins for every scalar), or "no principal" when no field 6..12 occurs. -/
theorem extract_eq_reference (bs : Bytes) (fs : List Field) (h : parse bs = .ok fs)
    (hr : rejectCond fs = false) :
    extract bs = .ok (if hasPrincipal fs then some (refWire fs) else none) :=
  (extract_of_parse h).2 hr

/-- The same against the executable reference used by the correspondence run. -/
theorem extract_matches_expected (bs : Bytes) :
    match expected bs with
    | .reject => ∃ e, extract bs = .error e
    | .none => extract bs = .ok none
    | .wire w => extract bs = .ok (some w) := by
  unfold expected
  cases hp : parse bs with
  | error e => exact malformed_rejected bs e hp
  | ok fs =>
    cases hr : rejectCond fs with
    | true => simp only [hr, if_true]; exact (extract_of_parse hp).1 hr
    | false =>
      rw [(extract_of_parse hp).2 hr]
      cases hP : hasPrincipal fs <;> simp [hr, hP]

/-! ### rejection: exactly the listed conditions, never a silent downgrade -/

/-- The extractor fails if and only if the proposal is malformed or carries a reject condition. -/
theorem rejects_iff (bs : Bytes) :
    (∃ e, extract bs = .error e) ↔
      (∃ e, parse bs = .error e) ∨ (∃ fs, parse bs = .ok fs ∧ rejectCond fs = true) := by
  constructor
  · intro ⟨e, he⟩
    cases hp : parse bs with
    | error e' => exact Or.inl ⟨e', rfl⟩
    | ok fs =>
      refine Or.inr ⟨fs, rfl, ?_⟩
      cases hr : rejectCond fs with
      | true => rfl
      | false => rw [(extract_of_parse hp).2 hr] at he; cases he
  · intro h
    rcases h with ⟨e, he⟩ | ⟨fs, hp, hr⟩
    · exact malformed_rejected bs e he
    · exact (extract_of_parse hp).1 hr

theorem wrong_wire_type_rejected (bs : Bytes) (fs : List Field) (h : parse bs = .ok fs)
    (hw : wrongType fs = true) : ∃ x, extract bs = .error x :=
  (extract_of_parse h).1 (by simp [rejectCond, hw])
theorem second_envelope_rejected (bs : Bytes) (fs : List Field) (h : parse bs = .ok fs)
    (hd : (envelopes fs).length ≥ 2) : ∃ x, extract bs = .error x :=
  (extract_of_parse h).1 (by simp [rejectCond, dupEnvelope, hd])
theorem bad_envelope_size_rejected (bs : Bytes) (fs : List Field) (h : parse bs = .ok fs) (e : Bytes)
    (he : e ∈ envelopes fs) (hs : e.length = 0 ∨ e.length > maxEnvelopeBytes) : ∃ x, extract bs = .error x := by
  have : badEnvelopeSize fs = true := List.any_eq_true.2 ⟨e, he, by rcases hs with h | h <;> simp [h]⟩
  exact (extract_of_parse h).1 (by simp [rejectCond, this])
theorem envelope_without_nonce_rejected (bs : Bytes) (fs : List Field) (h : parse bs = .ok fs)
    (he : envelopes fs ≠ []) (hn : ((lastBytes fNonce fs).getD []).length ≠ 16) : ∃ x, extract bs = .error x := by
  have : badNonce fs = true := by simp [badNonce, he, nonceLen, hn]
  exact (extract_of_parse h).1 (by simp [rejectCond, this])

/-- "No principal" is returned exactly for well-formed proposals without any field numbered 6..12 … -/
theorem none_iff_no_principal_field (bs : Bytes) :
    extract bs = .ok none ↔ ∃ fs, parse bs = .ok fs ∧ hasPrincipal fs = false := by
  constructor
  · intro he
    cases hp : parse bs with
    | error e =>
      obtain ⟨x, hx⟩ := malformed_rejected bs e hp
      rw [hx] at he; cases he
    | ok fs =>
      obtain ⟨_, ho⟩ := extract_ok_inv hp he
      refine ⟨fs, rfl, ?_⟩
      cases hP : hasPrincipal fs with
      | false => rfl
      | true => rw [hP] at ho; cases ho
  · intro ⟨fs, hp, hP⟩
    rw [(extract_of_parse hp).2 (noPrincipal_noReject fs hP)]; simp [hP]

/-- … so a malformed proposal or one carrying any reject condition is never downgraded to "no principal". -/
theorem never_downgrades (bs : Bytes)
    (h : (∃ e, parse bs = .error e) ∨ (∃ fs, parse bs = .ok fs ∧ rejectCond fs = true)) :
    extract bs ≠ .ok none := by
  obtain ⟨x, hx⟩ := (rejects_iff bs).2 h
  rw [hx]; intro h'; cases h'

/-- An accepted proposal has at most one envelope and it is the one returned. -/
theorem envelope_unique (bs : Bytes) (fs : List Field) (w : Wire) (h : parse bs = .ok fs)
    (he : extract bs = .ok (some w)) : envelopes fs = [] ∧ w.envelope = [] ∨ envelopes fs = [w.envelope] := by
  obtain ⟨hr, _, rfl⟩ := extract_some_inv h he
  have hlen : (envelopes fs).length < 2 := by
    cases h2 : dupEnvelope fs
    · simpa [dupEnvelope] using h2
    · simp [rejectCond, h2] at hr
  have hw : (refWire fs).envelope = ((envelopes fs).getLast?).getD [] := by
    rw [← lastBytes_envelopes, ← fnums.2.2.2.2.2.2]; rfl
  match hE : envelopes fs with
  | [] => left; rw [hE] at hw; exact ⟨rfl, hw⟩
  | [x] => right; rw [hE] at hw; rw [hw]; rfl
  | _ :: _ :: _ => rw [hE] at hlen; simp at hlen; omega

/-- The nonce of a returned principal always has 16 bytes; with an envelope it is the proposal's last
    nonce field, and WITHOUT an envelope it is all-zero even if the proposal carried a nonce field: the
    extractor binds the nonce only alongside an envelope (the verifier, its only consumer, runs only
    then).  Stated so that this behaviour is visible, not hidden in `refWire`. -/
theorem nonce_bound_only_with_envelope (bs : Bytes) (fs : List Field) (w : Wire) (h : parse bs = .ok fs)
    (he : extract bs = .ok (some w)) :
    w.nonce.length = 16 ∧
    (envelopes fs ≠ [] → w.nonce = (lastBytes fNonce fs).getD []) ∧
    (envelopes fs = [] → w.nonce = List.replicate 16 0) := by
  obtain ⟨hr, _, rfl⟩ := extract_some_inv h he
  have hb : badNonce fs = false := by
    cases h2 : badNonce fs
    · rfl
    · simp [rejectCond, h2] at hr
  have hw : (refWire fs).nonce = if (envelopes fs).isEmpty then List.replicate nonceLen 0 else (lastBytes fNonce fs).getD [] :=
    rfl
  cases hE : (envelopes fs).isEmpty with
  | true =>
    have hE' : envelopes fs = [] := by simpa using hE
    simp [hw, hE', nonceLen]
  | false =>
    have hE' : envelopes fs ≠ [] := by simpa using hE
    simp [badNonce, hE, nonceLen] at hb
    simp [hw, hE, hE', hb]

/-! ### integer conversions (`int32(int64(v))`, `int64(v)`): two's complement of the low bits -/

theorem toInt32_spec (v : Nat) :
    -2147483648 ≤ toInt32 v ∧ toInt32 v < 2147483648 ∧ (toInt32 v - (v : Int)) % 4294967296 = 0 := by
  have e32 : (2 : Nat) ^ 32 = 4294967296 := by decide
  have e31 : (2 : Nat) ^ 31 = 2147483648 := by decide
  simp only [toInt32, e32, e31]
  split <;> omega
theorem toInt64_spec (v : Nat) :
    -9223372036854775808 ≤ toInt64 v ∧ toInt64 v < 9223372036854775808 ∧
      (toInt64 v - (v : Int)) % 18446744073709551616 = 0 := by
  have e64 : (2 : Nat) ^ 64 = 18446744073709551616 := by decide
  have e63 : (2 : Nat) ^ 63 = 9223372036854775808 := by decide
  simp only [toInt64, e64, e63]
  split <;> omega

/-! ### totality: the fuel of the model's loops is never exhausted -/

theorem extract_total (bs : Bytes) : extract bs ≠ .error (.enc .fuel) := by
  unfold extract
  have := scan_nofuel (bs.length + 1) {} bs (Nat.lt_succ_self _)
  cases hs : scan (bs.length + 1) {} bs with
  | error e => intro h; cases h; exact this hs
  | ok a => exact finish_noenc a .fuel
theorem parse_total (bs : Bytes) : parse bs ≠ .error .fuel :=
  parseFields_nofuel _ _ (Nat.lt_succ_self _)

/-! ### tie to the source: facts regenerated by `tools/gofacts` from principal.go -/

/-- the frozen field numbers are 6..12 in this order (the model's constants ARE these values) -/
theorem field_numbers :
    [fProtocol, fEndpoint, fOrg, fNonce, fSpv, fPolicy, fEnvelope] = [6, 7, 8, 9, 10, 11, 12] := by decide

/-- positions of `x` in a call sequence -/
def positions (x : String) (cs : List String) : List Nat :=
  (cs.zipIdx.filter fun p => p.1 == x).map (·.2)

/-- The extractor reads the unknown region once and scans it with protowire's primitives in the
    modelled order: tag, then (skip | bytes | varint); nothing else from protowire parses input. -/
theorem extractor_call_shape :
    (positions "m.GetUnknown" Gate.Gen.C41.extractCalls).length = 1 ∧
    (positions "protowire.ConsumeTag" Gate.Gen.C41.extractCalls).length = 1 ∧
    (positions "protowire.ConsumeFieldValue" Gate.Gen.C41.extractCalls).length = 1 ∧
    (positions "protowire.ConsumeBytes" Gate.Gen.C41.extractCalls).length = 1 ∧
    (positions "protowire.ConsumeVarint" Gate.Gen.C41.extractCalls).length = 1 ∧
    positions "m.GetUnknown" Gate.Gen.C41.extractCalls < positions "protowire.ConsumeTag" Gate.Gen.C41.extractCalls ∧
    positions "protowire.ConsumeTag" Gate.Gen.C41.extractCalls < positions "protowire.ConsumeFieldValue" Gate.Gen.C41.extractCalls ∧
    positions "protowire.ConsumeFieldValue" Gate.Gen.C41.extractCalls < positions "protowire.ConsumeBytes" Gate.Gen.C41.extractCalls ∧
    positions "protowire.ConsumeBytes" Gate.Gen.C41.extractCalls < positions "protowire.ConsumeVarint" Gate.Gen.C41.extractCalls ∧
    (Gate.Gen.C41.extractCalls.filter fun c => c.startsWith "protowire.Consume").length = 4 := by
  decide +kernel

/-- the switches of the unknown-region scan handle exactly the bytes fields 7,8,9,12 and the varint
    fields 6,10,11 (after the seven cases of the typed branch) -/
theorem extractor_switch_cases :
    Gate.Gen.C41.extractCases.drop 7 =
      ["sessionFieldEndpointID", "sessionFieldOrganizationID", "sessionFieldConnectSessionNonce",
       "sessionFieldSignedPrincipalV2", "sessionFieldProtocol", "sessionFieldSourceProtocolVersion",
       "sessionFieldPolicyRevision"] := by decide +kernel

/-! ### non-vacuity: the hypotheses are satisfiable and every outcome occurs -/

/-- protocol=2 (Bedrock), endpoint "e", nonce 16×0xAA, envelope "JWS": accepted, fields as sent -/
example : extract ([0x30, 0x02, 0x3a, 0x01, 0x65, 0x4a, 0x10] ++ List.replicate 16 0xAA ++ [0x62, 0x03, 0x4a, 0x57, 0x53])
    = .ok (some ⟨2, [0x65], [], List.replicate 16 0xAA, 0, 0, [0x4a, 0x57, 0x53]⟩) := by rfl
/-- last value wins: protocol 1 then protocol 2 -/
example : extract [0x30, 0x01, 0x30, 0x02] = .ok (some ⟨2, [], [], List.replicate 16 0, 0, 0, []⟩) := by rfl
/-- only foreign fields (13 varint, 15 group containing field 1): no principal -/
example : extract [0x68, 0x05, 0x7b, 0x08, 0x01, 0x7c] = .ok none := by rfl
example : parse [0x68, 0x05, 0x7b, 0x08, 0x01, 0x7c] = .ok [⟨13, 0, 5, []⟩, ⟨15, 3, 0, []⟩] := by rfl
/-- envelope sent as varint: wire-type error, not "no principal" -/
example : extract [0x60, 0x01] = .error .wireType := by rfl
/-- two envelopes -/
example : extract [0x62, 0x01, 0x41, 0x62, 0x01, 0x42] = .error .dupEnvelope := by rfl
/-- empty envelope -/
example : extract [0x62, 0x00] = .error .envelopeSize := by rfl
/-- envelope without nonce -/
example : extract [0x62, 0x01, 0x41] = .error .nonceSize := by rfl
/-- truncated length-delimited field after a valid one -/
example : extract [0x30, 0x02, 0x3a, 0x05, 0x65] = .error (.enc .truncated) := by rfl
/-- a nonce without an envelope is accepted and not bound (all-zero nonce in the result) -/
example : extract ([0x4a, 0x10] ++ List.replicate 16 0xAA) = .ok (some ⟨0, [], [], List.replicate 16 0, 0, 0, []⟩) := by rfl
/-- `rejectCond` is satisfiable in each disjunct and refutable -/
example : wrongType [⟨12, 0, 1, []⟩] = true ∧ dupEnvelope [⟨12, 2, 0, [1]⟩, ⟨12, 2, 0, [2]⟩] = true ∧
    badEnvelopeSize [⟨12, 2, 0, []⟩] = true ∧ badNonce [⟨12, 2, 0, [1]⟩] = true ∧
    rejectCond [⟨6, 0, 2, []⟩] = false := by decide

end Gate.C41.Props
