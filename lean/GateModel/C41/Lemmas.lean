import GateModel.C41.Spec
/-
C41 — helper lemmas: input-consumption bounds (fuel is never exhausted), fusion of the one-pass
scan with the two-phase reference, characterisation of the phase-2 interpreter.
-/
namespace Gate.C41
open Gate

/-- `x` is not the error `.fuel`, and where it succeeds the input it leaves is at least `k` bytes shorter
    than `bs` -/
def Consumes {α : Type} (k : Nat) (bs : Bytes) (rest : α → Bytes) : Except PErr α → Prop
  | .ok a => (rest a).length + k ≤ bs.length
  | .error e => e ≠ .fuel

theorem consumes_ok {α : Type} {k : Nat} {bs : Bytes} {rest : α → Bytes} {x : Except PErr α} {a : α}
    (h : Consumes k bs rest x) (hx : x = .ok a) : (rest a).length + k ≤ bs.length := by
  subst hx; exact h

theorem consumes_nofuel {α : Type} {k : Nat} {bs : Bytes} {rest : α → Bytes} {x : Except PErr α}
    (h : Consumes k bs rest x) : x ≠ .error .fuel := by
  intro hx; subst hx; exact h rfl

theorem consumes_mono {α : Type} {k k' : Nat} {bs bs' : Bytes} {rest : α → Bytes} {x : Except PErr α}
    (h : Consumes k bs rest x) (hl : bs.length + k' ≤ bs'.length + k) : Consumes k' bs' rest x := by
  cases x with
  | error e => exact h
  | ok a => exact (by have : (rest a).length + k ≤ bs.length := h; omega : (rest a).length + k' ≤ bs'.length)

/-- `y` passes on the errors of `x` and continues with its result -/
theorem consumes_of {α β : Type} {k k' : Nat} {bs bs' : Bytes} {rest : α → Bytes} {rest' : β → Bytes}
    {x : Except PErr α} {y : Except PErr β} (hx : Consumes k bs rest x) (herr : ∀ e, x = .error e → y = .error e)
    (hok : ∀ a, x = .ok a → (rest a).length + k ≤ bs.length → Consumes k' bs' rest' y) : Consumes k' bs' rest' y := by
  cases x with
  | error e => rw [herr e rfl]; exact hx
  | ok a => exact hok a rfl hx

theorem varintLoop_consumes : ∀ (bs : Bytes) (i acc : Nat), Consumes 1 bs (·.2) (varintLoop i acc bs)
  | [], _, _ => by rw [varintLoop]; nofun
  | b :: t, i, acc => by
    rw [varintLoop]
    split
    · split
      · exact Nat.le_refl _
      · nofun
    · split
      · exact Nat.le_refl _
      · exact consumes_mono (varintLoop_consumes t _ _) (by simp)

theorem consumeVarint_consumes (bs : Bytes) : Consumes 1 bs (·.2) (consumeVarint bs) := varintLoop_consumes bs 0 0

theorem consumeTag_consumes (bs : Bytes) : Consumes 1 bs (·.2) (consumeTag bs) := by
  unfold consumeTag
  refine consumes_of (consumeVarint_consumes bs) (fun e he => by simp only [he]) fun ⟨v, r⟩ hv hl => ?_
  simp only [hv]
  split
  · nofun
  · split
    · nofun
    · exact hl

theorem consumeBytes_consumes (bs : Bytes) : Consumes 1 bs (·.2) (consumeBytes bs) := by
  unfold consumeBytes
  refine consumes_of (consumeVarint_consumes bs) (fun e he => by simp only [he]) fun ⟨m, r⟩ hv hl => ?_
  simp only [hv]
  split
  · nofun
  · show (r.drop m).length + 1 ≤ bs.length
    rw [List.length_drop]
    have : r.length + 1 ≤ bs.length := hl
    omega

theorem consumeFixed_consumes (n : Nat) (bs : Bytes) : Consumes 0 bs id (consumeFixed n bs) := by
  unfold consumeFixed
  split
  · nofun
  · show (bs.drop n).length + 0 ≤ bs.length
    rw [List.length_drop]
    omega

theorem consumes_ite {α : Type} {k : Nat} {bs : Bytes} {rest : α → Bytes} {c : Prop} [Decidable c]
    {x y : Except PErr α} (hx : Consumes k bs rest x) (hy : Consumes k bs rest y) :
    Consumes k bs rest (if c then x else y) := by
  split <;> assumption

theorem consumeScalar_consumes (typ : Nat) (bs : Bytes) : Consumes 0 bs id (consumeScalar typ bs) := by
  refine consumes_ite ?_ (consumes_ite (consumeFixed_consumes 4 bs) (consumes_ite (consumeFixed_consumes 8 bs)
    (consumes_ite ?_ (consumes_ite (fun h => nomatch h) (fun h => nomatch h)))))
  · refine consumes_of (consumeVarint_consumes bs) (fun e he => by simp only [he]) fun ⟨v, r⟩ hv hl => ?_
    simp only [hv]
    exact Nat.le_of_succ_le hl
  · refine consumes_of (consumeBytes_consumes bs) (fun e he => by simp only [he]) fun ⟨v, r⟩ hv hl => ?_
    simp only [hv]
    exact Nat.le_of_succ_le hl

/-- every round consumes a tag, so `length + 1` rounds are never used up -/
theorem skipGroup_consumes : ∀ (fuel : Nat) (st : List Nat) (bs : Bytes),
    bs.length < fuel → Consumes 0 bs id (skipGroup fuel st bs)
  | _, [], bs, _ => by rw [skipGroup]; exact Nat.le_refl _
  | 0, _ :: _, _, h => absurd h (Nat.not_lt_zero _)
  | n + 1, t :: st, bs, hl => by
    rw [skipGroup]
    refine consumes_of (consumeTag_consumes bs) (fun e he => by simp only [he]) fun ⟨⟨num, typ⟩, r1⟩ ht h1 => ?_
    have h1 : r1.length + 1 ≤ bs.length := h1
    have next : ∀ (st' : List Nat) (r' : Bytes), r'.length ≤ r1.length → Consumes 0 bs id (skipGroup n st' r') :=
      fun st' r' h => consumes_mono (skipGroup_consumes n st' r' (by omega)) (by omega)
    simp only [ht]
    split
    · split
      · exact next _ _ (Nat.le_refl _)
      · nofun
    · split
      · split
        · nofun
        · exact next _ _ (Nat.le_refl _)
      · refine consumes_of (consumeScalar_consumes typ r1) (fun e he => by simp only [he]) fun r2 hs h2 => ?_
        simp only [hs]
        exact next _ _ h2

theorem consumeFieldValue_consumes (num typ : Nat) (bs : Bytes) : Consumes 0 bs id (consumeFieldValue num typ bs) := by
  unfold consumeFieldValue
  split
  · exact skipGroup_consumes _ _ _ (Nat.lt_succ_self _)
  · exact consumeScalar_consumes _ _

/-- the reference reads a record's value where the extractor skips it: same rest, same error -/
theorem consumeFieldValue_eq (num typ : Nat) (bs : Bytes) :
    consumeFieldValue num typ bs = (consumeValue num typ bs).map (·.2) := by
  unfold consumeValue
  split
  · rename_i h0
    subst h0
    simp only [consumeFieldValue, consumeScalar, if_true, (by decide : ¬ (0 = 3)), if_false]
    cases consumeVarint bs <;> rfl
  · split
    · rename_i h2
      subst h2
      simp only [consumeFieldValue, consumeScalar, if_true, (by decide : ¬ (2 = 3)), (by decide : ¬ (2 = 0)),
        (by decide : ¬ (2 = 5)), (by decide : ¬ (2 = 1)), if_false]
      cases consumeBytes bs <;> rfl
    · cases consumeFieldValue num typ bs <;> rfl

theorem consumeValue_consumes (num typ : Nat) (bs : Bytes) : Consumes 0 bs (·.2) (consumeValue num typ bs) := by
  have h := consumeFieldValue_consumes num typ bs
  rw [consumeFieldValue_eq] at h
  cases hv : consumeValue num typ bs <;> rw [hv] at h <;> exact h

theorem consumeValue_field {num typ : Nat} {bs r : Bytes} {f : Field} (h : consumeValue num typ bs = .ok (f, r)) :
    f.num = num ∧ f.typ = typ := by
  unfold consumeValue at h
  repeat' split at h
  all_goals cases h
  all_goals exact ⟨rfl, rfl⟩

/-- the reference tokeniser never runs out of fuel -/
theorem parseFields_nofuel : ∀ (fuel : Nat) (bs : Bytes), bs.length < fuel → parseFields fuel bs ≠ .error .fuel
  | 0, _, h => absurd h (Nat.not_lt_zero _)
  | n + 1, [], _ => by rw [parseFields]; nofun
  | n + 1, b :: t, hl => by
    rw [parseFields]
    cases hc : consumeTag (b :: t) with
    | error e => exact fun h => consumes_nofuel (consumeTag_consumes _) (by cases h; exact hc)
    | ok p =>
      obtain ⟨⟨num, typ⟩, r⟩ := p
      have h1 : r.length + 1 ≤ (b :: t).length := consumes_ok (consumeTag_consumes _) hc
      dsimp only
      cases hv : consumeValue num typ r with
      | error e => exact fun h => consumes_nofuel (consumeValue_consumes num typ r) (by cases h; exact hv)
      | ok q =>
        obtain ⟨f, r'⟩ := q
        have h2 : r'.length + 0 ≤ r.length := consumes_ok (consumeValue_consumes num typ r) hv
        dsimp only
        cases hp : parseFields n r' with
        | error e => exact fun h => parseFields_nofuel n r' (by omega) (hp.trans h)
        | ok fs => nofun

/-! ## fusion: the one-pass scan = phase-2 interpreter over the phase-1 record list -/

/-- what one record does to the extractor's variables -/
def stepField (a : Acc) (f : Field) : Except XErr Acc :=
  if !isPrincipal f.num then .ok a
  else if f.typ != expectedTyp f.num then .error .wireType
  else if wantBytes f.num then setBytes a f.num f.b
  else .ok (setVarint a f.num f.v)

def interp : Acc → List Field → Except XErr Acc
  | a, [] => .ok a
  | a, f :: fs => match stepField a f with
    | .error e => .error e
    | .ok a' => interp a' fs

/-- one round of the extractor's loop reads the record as the reference does and then acts on it; a wrong wire
    type is reported before the value is looked at -/
theorem stepRaw_eq (a : Acc) (num typ : Nat) (r : Bytes) :
    stepRaw a num typ r = match consumeValue num typ r with
      | .ok (f, r') => (stepField a f).map (·, r')
      | .error e => .error (if isPrincipal num && typ != expectedTyp num then .wireType else .enc e) := by
  cases hv : consumeValue num typ r with
  | error e =>
    have hfv : consumeFieldValue num typ r = .error e := by rw [consumeFieldValue_eq, hv]; rfl
    unfold consumeValue at hv
    unfold stepRaw expectedTyp
    -- a foreign field is skipped by both; a principal field is read by both exactly when `typ` is the expected
    -- wire type (0, or 2 where bytes are wanted), and otherwise the scan reports the wire type first
    cases hp : isPrincipal num <;> cases hw : wantBytes num <;> simp [hfv]
    · by_cases h0 : typ = 0
      · subst h0; simp at hv ⊢; split at hv <;> simp_all
      · simp [h0]
    · by_cases h2 : typ = 2
      · subst h2; simp at hv ⊢; split at hv <;> simp_all
      · simp [h2]
  | ok p =>
    obtain ⟨f, r'⟩ := p
    obtain ⟨hn, ht⟩ := consumeValue_field hv
    have hfv : consumeFieldValue num typ r = .ok r' := by rw [consumeFieldValue_eq, hv]; rfl
    unfold consumeValue at hv
    unfold stepRaw stepField expectedTyp
    simp only [hn, ht]
    cases hp : isPrincipal num <;> cases hw : wantBytes num <;> simp [hfv]
    · rfl
    · rfl
    · by_cases h0 : typ = 0
      · subst h0; simp at hv ⊢; split at hv <;> simp_all
        obtain ⟨rfl, rfl⟩ := hv
        rfl
      · simp [h0]; rfl
    · by_cases h2 : typ = 2
      · subst h2; simp at hv ⊢; split at hv <;> simp_all
        obtain ⟨rfl, rfl⟩ := hv
        cases setBytes a num _ <;> rfl
      · simp [h2]; rfl

theorem ite_ne {α} {c : Prop} [Decidable c] {x y z : α} (hx : x ≠ z) (hy : y ≠ z) : (if c then x else y) ≠ z := by
  split <;> assumption

/-- the switch fails only with its own two errors -/
theorem setBytes_noenc (a : Acc) (num : Nat) (v : Bytes) (e : PErr) : setBytes a num v ≠ .error (.enc e) :=
  ite_ne nofun (ite_ne nofun (ite_ne nofun (ite_ne (ite_ne nofun (ite_ne nofun nofun)) nofun)))

theorem stepField_noenc (a : Acc) (f : Field) (e : PErr) : stepField a f ≠ .error (.enc e) :=
  ite_ne nofun (ite_ne nofun (ite_ne (setBytes_noenc _ _ _ _) nofun))

theorem finish_noenc (a : Acc) (e : PErr) : finish a ≠ .error (.enc e) :=
  ite_ne nofun (ite_ne (ite_ne nofun nofun) nofun)

/-- where the reference tokenises the region, the scan is the interpreter run over its records; where the reference
    fails, the scan fails too: with the same encoding error, or before reaching it with an error of the switch -/
theorem scan_fusion : ∀ (fuel : Nat) (a : Acc) (bs : Bytes), bs.length < fuel →
    (∀ fs, parseFields fuel bs = .ok fs → scan fuel a bs = interp a fs) ∧
    (∀ e, parseFields fuel bs = .error e → ∃ x, scan fuel a bs = .error x ∧ (x = .enc e ∨ ∀ e', x ≠ .enc e'))
  | 0, _, _, h => absurd h (Nat.not_lt_zero _)
  | n + 1, a, [], _ => by
    rw [parseFields, scan]
    exact ⟨fun fs h => by cases h; rfl, fun e h => (nomatch h)⟩
  | n + 1, a, b :: t, hl => by
    rw [parseFields, scan]
    cases hc : consumeTag (b :: t) with
    | error e => exact ⟨fun fs h => (nomatch h), fun _ h => ⟨_, rfl, .inl (by cases h; rfl)⟩⟩
    | ok p =>
      obtain ⟨⟨num, typ⟩, r⟩ := p
      have h1 : r.length + 1 ≤ (b :: t).length := consumes_ok (consumeTag_consumes _) hc
      simp only [stepRaw_eq]
      cases hcv : consumeValue num typ r with
      | error e =>
        refine ⟨fun fs h => (nomatch h), fun _ h => ⟨_, rfl, ?_⟩⟩
        cases h
        split
        · exact .inr nofun
        · exact .inl rfl
      | ok q =>
        obtain ⟨f, r'⟩ := q
        have h2 : r'.length + 0 ≤ r.length := consumes_ok (consumeValue_consumes num typ r) hcv
        dsimp only
        cases hs : stepField a f with
        | error x =>
          simp only [Except.map]
          refine ⟨fun fs h => ?_, fun _ _ => ⟨x, rfl, .inr fun e' he => stepField_noenc a f e' (he ▸ hs)⟩⟩
          cases hp : parseFields n r' with
          | error e' => rw [hp] at h; cases h
          | ok fs' => rw [hp] at h; cases h; simp only [interp, hs]
        | ok a' =>
          simp only [Except.map]
          obtain ⟨i1, i2⟩ := scan_fusion n a' r' (by omega)
          cases hp : parseFields n r' with
          | error e' => exact ⟨fun fs h => (by cases h), fun _ h => by cases h; exact i2 e' hp⟩
          | ok fs' =>
            refine ⟨fun fs h => ?_, fun e h => (by cases h)⟩
            cases h
            simp only [interp, hs]
            exact i1 fs' hp

theorem interp_noenc : ∀ (fs : List Field) (a : Acc) (e : PErr), interp a fs ≠ .error (.enc e)
  | [], _, _ => nofun
  | f :: fs, a, e => by
    rw [interp]
    cases hs : stepField a f with
    | error x => exact fun h => stepField_noenc a f e (by cases h; exact hs)
    | ok a' => exact interp_noenc fs a' e

/-- the reference never runs out of fuel, and an encoding error of the scan is the reference's -/
theorem scan_nofuel (fuel : Nat) (a : Acc) (bs : Bytes) (h : bs.length < fuel) : scan fuel a bs ≠ .error (.enc .fuel) := by
  obtain ⟨i1, i2⟩ := scan_fusion fuel a bs h
  cases hp : parseFields fuel bs with
  | ok fs => rw [i1 fs hp]; exact interp_noenc fs a .fuel
  | error e =>
    obtain ⟨x, hx, hx'⟩ := i2 e hp
    rw [hx]
    intro hf
    cases hf
    rcases hx' with h' | h'
    · cases h'; exact parseFields_nofuel fuel bs h hp
    · exact h' .fuel rfl

/-! ## phase 2: the interpreter computes the declarative reading -/

theorem fnums : fProtocol = 6 ∧ fEndpoint = 7 ∧ fOrg = 8 ∧ fNonce = 9 ∧ fSpv = 10 ∧ fPolicy = 11 ∧ fEnvelope = 12 := by
  decide

theorem lastVarint_miss {n : Nat} {f : Field} (fs : List Field) (h : ¬ (f.num = n ∧ f.typ = 0)) :
    lastVarint n (f :: fs) = lastVarint n fs := by
  simp only [lastVarint, if_neg h]; cases lastVarint n fs <;> rfl
theorem lastVarint_hit {n : Nat} {f : Field} (fs : List Field) (h1 : f.num = n) (h2 : f.typ = 0) :
    lastVarint n (f :: fs) = some ((lastVarint n fs).getD f.v) := by
  simp only [lastVarint, if_pos (And.intro h1 h2)]; cases lastVarint n fs <;> rfl
theorem lastBytes_miss {n : Nat} {f : Field} (fs : List Field) (h : ¬ (f.num = n ∧ f.typ = 2)) :
    lastBytes n (f :: fs) = lastBytes n fs := by
  simp only [lastBytes, if_neg h]; cases lastBytes n fs <;> rfl
theorem lastBytes_hit {n : Nat} {f : Field} (fs : List Field) (h1 : f.num = n) (h2 : f.typ = 2) :
    lastBytes n (f :: fs) = some ((lastBytes n fs).getD f.b) := by
  simp only [lastBytes, if_pos (And.intro h1 h2)]; cases lastBytes n fs <;> rfl

/-! Every notion of the reference splits a record list into its first record and the rest. -/

theorem lastVarint_cons (n : Nat) (f : Field) (fs : List Field) :
    lastVarint n (f :: fs) = (lastVarint n fs).or (lastVarint n [f]) := by
  simp only [lastVarint]; cases lastVarint n fs <;> rfl
theorem lastBytes_cons (n : Nat) (f : Field) (fs : List Field) :
    lastBytes n (f :: fs) = (lastBytes n fs).or (lastBytes n [f]) := by
  simp only [lastBytes]; cases lastBytes n fs <;> rfl
theorem envelopes_cons (f : Field) (fs : List Field) : envelopes (f :: fs) = envelopes [f] ++ envelopes fs := by
  simp only [envelopes, List.filter_cons, List.filter_nil]; split <;> rfl
theorem hasPrincipal_cons (f : Field) (fs : List Field) :
    hasPrincipal (f :: fs) = (hasPrincipal [f] || hasPrincipal fs) := by
  simp [hasPrincipal]
theorem wrongType_cons (f : Field) (fs : List Field) : wrongType (f :: fs) = (wrongType [f] || wrongType fs) := by
  simp [wrongType]
theorem badEnvelopeSize_cons (f : Field) (fs : List Field) :
    badEnvelopeSize (f :: fs) = (badEnvelopeSize [f] || badEnvelopeSize fs) := by
  simp [badEnvelopeSize, envelopes_cons f fs]

theorem getD_or {α : Type} (o1 o2 : Option α) (d : α) : (o1.or o2).getD d = o1.getD (o2.getD d) := by
  cases o1 <;> rfl
theorem getD_or_map {α β : Type} (g : α → β) (o1 o2 : Option α) (d : β) :
    ((o1.or o2).map g).getD d = (o1.map g).getD ((o2.map g).getD d) := by
  cases o1 <;> rfl

/-- the declarative result of reading `fs` on top of `a` (what `fs` says comes first in `||`, so that `post`
    computes on a concrete record) -/
def post (a : Acc) (fs : List Field) : Acc where
  protocol := ((lastVarint 6 fs).map toInt32).getD a.protocol
  endpoint := (lastBytes 7 fs).getD a.endpoint
  org      := (lastBytes 8 fs).getD a.org
  nonce    := (lastBytes 9 fs).getD a.nonce
  spv      := ((lastVarint 10 fs).map toInt32).getD a.spv
  policy   := ((lastVarint 11 fs).map toInt64).getD a.policy
  envelope := (lastBytes 12 fs).getD a.envelope
  haveEnv  := !(envelopes fs).isEmpty || a.haveEnv
  found    := hasPrincipal fs || a.found

theorem post_nil (a : Acc) : post a [] = a := by
  cases a; simp [post, lastVarint, lastBytes, envelopes, hasPrincipal]

/-- reading a list is reading its first record and then the rest -/
theorem post_cons (a : Acc) (f : Field) (fs : List Field) : post a (f :: fs) = post (post a [f]) fs := by
  have he : (!(envelopes [f] ++ envelopes fs).isEmpty) = (!(envelopes fs).isEmpty || !(envelopes [f]).isEmpty) := by
    cases envelopes [f] <;> cases envelopes fs <;> rfl
  simp only [post, lastVarint_cons _ f fs, lastBytes_cons _ f fs, envelopes_cons f fs, hasPrincipal_cons f fs,
    getD_or, getD_or_map, he, Bool.or_assoc, Bool.or_comm (hasPrincipal [f])]

/-- `c` decides `x`: an error if `c` holds, `ok v` if not -/
def Decides {ε α : Type} (c : Bool) (x : Except ε α) (v : α) : Prop :=
  (c = true → ∃ e, x = .error e) ∧ (c = false → x = .ok v)

theorem Decides.of_ok {ε α : Type} (v : α) : Decides (ε := ε) false (.ok v) v := ⟨nofun, fun _ => rfl⟩
theorem Decides.of_error {ε α : Type} (e : ε) (v : α) : Decides true (.error e) v := ⟨fun _ => ⟨e, rfl⟩, nofun⟩

/-- when exactly the interpreter stops with an error, starting from any state: a wrong wire type, an envelope of
    bad size, or a second envelope (counting the one `a` may hold already) -/
def errCond (a : Acc) (fs : List Field) : Bool :=
  wrongType fs || badEnvelopeSize fs || (!(envelopes fs).isEmpty && a.haveEnv) || decide (2 ≤ (envelopes fs).length)

theorem errCond_cons (a : Acc) (f : Field) (fs : List Field) :
    errCond a (f :: fs) = (errCond a [f] || errCond (post a [f]) fs) := by
  have h1 : (envelopes [f]).length ≤ 1 := by
    simp only [envelopes, List.filter_cons, List.filter_nil]; split <;> simp
  have hd : ((!(envelopes (f :: fs)).isEmpty && a.haveEnv) || decide (2 ≤ (envelopes (f :: fs)).length)) =
      (((!(envelopes [f]).isEmpty && a.haveEnv) || decide (2 ≤ (envelopes [f]).length)) ||
        ((!(envelopes fs).isEmpty && (post a [f]).haveEnv) || decide (2 ≤ (envelopes fs).length))) := by
    rw [envelopes_cons f fs]
    show _ = (_ || ((_ && (!(envelopes [f]).isEmpty || a.haveEnv)) || _))
    cases a.haveEnv <;> cases hE : envelopes [f] <;> cases envelopes fs <;> simp_all <;> omega
  simp only [errCond, wrongType_cons f fs, badEnvelopeSize_cons f fs, Bool.or_assoc, hd]
  ac_rfl

/-- one record: the switch fails exactly under `errCond`, and otherwise does what `post` says -/
theorem stepField_post (a : Acc) (f : Field) : Decides (errCond a [f]) (stepField a f) (post a [f]) := by
  obtain ⟨c6, c7, c8, c9, c10, c11, c12⟩ := fnums
  obtain ⟨num, typ, v, b⟩ := f
  by_cases hp : isPrincipal num = true
  · by_cases ht : typ = expectedTyp num
    · have hr : 6 ≤ num ∧ num ≤ 12 := by simpa [isPrincipal, c6, c12] using hp
      have hn : num = 6 ∨ num = 7 ∨ num = 8 ∨ num = 9 ∨ num = 10 ∨ num = 11 ∨ num = 12 := by omega
      subst ht
      -- on a concrete field number both sides compute
      rcases hn with rfl | rfl | rfl | rfl | rfl | rfl | rfl
      iterate 6 exact .of_ok _
      show Decides (errCond a [⟨12, 2, v, b⟩]) (setBytes a 12 b) (post a [⟨12, 2, v, b⟩])
      have he : errCond a [⟨12, 2, v, b⟩] = ((b.length = 0 || decide (b.length > maxEnvelopeBytes)) || a.haveEnv) := by
        simp [errCond, badEnvelopeSize, envelopes, isEnvelopeRec, c12,
          show wrongType [(⟨12, 2, v, b⟩ : Field)] = false from rfl]
      rw [he]
      simp only [setBytes, c7, c8, c9, c12, (by decide : ¬ (12 = 7)), (by decide : ¬ (12 = 8)),
        (by decide : ¬ (12 = 9)), if_false, if_true]
      cases a.haveEnv <;> cases (b.length = 0 || decide (b.length > maxEnvelopeBytes))
      · exact .of_ok _
      all_goals exact .of_error _ _
    · have : (typ != expectedTyp num) = true := by simpa using ht
      simp [Decides, stepField, errCond, wrongType, hp, this]
  · have hp' : isPrincipal num = false := by simpa using hp
    have hr : ¬ (6 ≤ num ∧ num ≤ 12) := by simpa [isPrincipal, c6, c12] using hp'
    have e : post a [⟨num, typ, v, b⟩] = a := by
      cases a
      simp [post, lastVarint, lastBytes, envelopes, isEnvelopeRec, hasPrincipal, hp', c12, show num ≠ 6 by omega,
        show num ≠ 7 by omega, show num ≠ 8 by omega, show num ≠ 9 by omega, show num ≠ 10 by omega,
        show num ≠ 11 by omega, show num ≠ 12 by omega]
    rw [e]
    have : envelopes [⟨num, typ, v, b⟩] = [] := by
      simp [envelopes, isEnvelopeRec, c12]; intro h; omega
    simp [Decides, stepField, errCond, wrongType, badEnvelopeSize, hp', this]

theorem interp_post : ∀ (fs : List Field) (a : Acc), Decides (errCond a fs) (interp a fs) (post a fs)
  | [], a => by
    rw [post_nil]
    exact .of_ok a
  | f :: fs, a => by
    obtain ⟨s1, s2⟩ := stepField_post a f
    rw [errCond_cons a f fs, post_cons a f fs, interp]
    cases h1 : errCond a [f] with
    | true =>
      obtain ⟨e, he⟩ := s1 h1
      simp only [he]
      exact .of_error e _
    | false =>
      simp only [s2 h1, Bool.false_or]
      exact interp_post fs (post a [f])

theorem scan_parse_ok {bs : Bytes} {fs : List Field} (h : parse bs = .ok fs) :
    scan (bs.length + 1) {} bs = interp {} fs :=
  (scan_fusion (bs.length + 1) {} bs (Nat.lt_succ_self _)).1 fs h

theorem envelopes_hasPrincipal : ∀ (fs : List Field), (envelopes fs).isEmpty = false → hasPrincipal fs = true
  | [], h => nomatch h
  | f :: fs, h => by
    rw [hasPrincipal_cons]
    rw [envelopes_cons] at h
    cases hf : envelopes [f] with
    | nil => rw [hf] at h; rw [envelopes_hasPrincipal fs h, Bool.or_true]
    | cons e es =>
      have : isEnvelopeRec f = true := by
        cases hr : isEnvelopeRec f
        · simp [envelopes, hr] at hf
        · rfl
      have hn : f.num = 12 := by
        simp only [isEnvelopeRec, fnums.2.2.2.2.2.2, Bool.and_eq_true, decide_eq_true_eq] at this
        exact this.1
      simp [hasPrincipal, hn, (by decide : isPrincipal 12 = true)]

/-- what the tail of the function makes of the variables the reference predicts -/
theorem finish_post (fs : List Field) :
    finish (post {} fs) =
      if badNonce fs then .error .nonceSize else .ok (if hasPrincipal fs then some (refWire fs) else none) := by
  obtain ⟨c6, c7, c8, c9, c10, c11, c12⟩ := fnums
  have hm : ∀ (g : Nat → Int) (o : Option Nat), g 0 = 0 → (o.map g).getD 0 = g (o.getD 0) :=
    fun g o h0 => by cases o <;> simp [h0]
  have h32 : toInt32 0 = 0 := by simp [toInt32]
  have h64 : toInt64 0 = 0 := by simp [toInt64]
  cases hE : (envelopes fs).isEmpty with
  | true =>
    cases hP : hasPrincipal fs <;>
      simp [finish, post, badNonce, refWire, hE, hP, hm, h32, h64, c6, c7, c8, c9, c10, c11, c12]
  | false =>
    have hP := envelopes_hasPrincipal fs hE
    by_cases hN : ((lastBytes 9 fs).getD []).length = nonceLen <;>
      simp [finish, post, badNonce, refWire, hE, hP, hN, hm, h32, h64, c6, c7, c8, c9, c10, c11, c12]

/-- the model's result, given the reference's record list, in closed form -/
theorem extract_of_parse {bs : Bytes} {fs : List Field} (h : parse bs = .ok fs) :
    Decides (rejectCond fs) (extract bs) (if hasPrincipal fs then some (refWire fs) else none) := by
  have hs := scan_parse_ok h
  obtain ⟨i1, i2⟩ := interp_post fs {}
  have hrc : rejectCond fs = (errCond {} fs || badNonce fs) := by
    simp only [rejectCond, errCond, dupEnvelope, ge_iff_le]
    cases wrongType fs <;> cases badEnvelopeSize fs <;> simp
  rw [hrc]
  cases he : errCond {} fs with
  | true =>
    obtain ⟨e, hi⟩ := i1 he
    rw [extract, hs, hi]
    exact .of_error e _
  | false =>
    have hext : extract bs = finish (post {} fs) := by simp [extract, hs, i2 he]
    rw [hext, finish_post, Bool.false_or]
    cases badNonce fs
    · exact .of_ok _
    · exact .of_error _ _

/-- an accepted proposal: no reject condition held, and the result is the reference's reading -/
theorem extract_ok_inv {bs : Bytes} {fs : List Field} {o : Option Wire} (h : parse bs = .ok fs)
    (he : extract bs = .ok o) : rejectCond fs = false ∧ o = if hasPrincipal fs then some (refWire fs) else none := by
  cases hr : rejectCond fs with
  | true => obtain ⟨x, hx⟩ := (extract_of_parse h).1 hr; rw [hx] at he; cases he
  | false =>
    rw [(extract_of_parse h).2 hr] at he
    cases he
    exact ⟨rfl, rfl⟩

theorem extract_some_inv {bs : Bytes} {fs : List Field} {w : Wire} (h : parse bs = .ok fs)
    (he : extract bs = .ok (some w)) : rejectCond fs = false ∧ hasPrincipal fs = true ∧ w = refWire fs := by
  obtain ⟨hr, hw⟩ := extract_ok_inv h he
  cases hP : hasPrincipal fs <;> rw [hP] at hw <;> cases hw
  exact ⟨hr, rfl, rfl⟩

theorem lastBytes_envelopes : ∀ (fs : List Field), lastBytes 12 fs = (envelopes fs).getLast?
  | [] => rfl
  | f :: fs => by
    rw [lastBytes_cons, envelopes_cons, List.getLast?_append, lastBytes_envelopes fs]
    congr 1
    simp only [lastBytes, envelopes, isEnvelopeRec, fnums.2.2.2.2.2.2, List.filter_cons, List.filter_nil]
    by_cases h : f.num = 12 ∧ f.typ = 2 <;> simp [h]

theorem noPrincipal_noReject (fs : List Field) (h : hasPrincipal fs = false) : rejectCond fs = false := by
  have he : envelopes fs = [] := by
    cases hE : (envelopes fs).isEmpty with
    | true => simpa using hE
    | false => rw [envelopes_hasPrincipal fs hE] at h; cases h
  have hw : wrongType fs = false := by
    simp only [hasPrincipal, List.any_eq_false] at h
    simp only [wrongType, List.any_eq_false]
    intro f hf; simp [h f hf]
  simp [rejectCond, hw, dupEnvelope, badEnvelopeSize, badNonce, he]

end Gate.C41
