import GateModel.C23.Model
/-
C23 helper lemmas: token-list algebra, filter invariants, the merge as a closed form.
-/
namespace Gate.C23

theorem received_eq_filterMap (ts : List Tok) :
    received ts = ts.filterMap fun | .node id => some id | _ => none := by
  induction ts with
  | nil => rfl
  | cons x r ih => cases x <;> simp [received, ih]

theorem received_append (a b : List Tok) : received (a ++ b) = received a ++ received b := by
  simp [received_eq_filterMap]

theorem mem_received_catRes (l : List Res) (ts : List Tok) (h : catRes l = .ok ts) (id : Nat)
    (hid : id ∈ received ts) : ∃ a, Res.ok a ∈ l ∧ id ∈ received a := by
  induction l generalizing ts with
  | nil => simp [catRes] at h; subst h; simp [received] at hid
  | cons x r ih =>
    cases x with
    | diverges => simp [catRes] at h
    | panicked => simp [catRes] at h
    | ok a =>
      simp only [catRes] at h
      cases hr : catRes r with
      | diverges => rw [hr] at h; cases h
      | panicked => rw [hr] at h; cases h
      | ok rest =>
        rw [hr] at h
        cases h
        rw [received_append, List.mem_append] at hid
        rcases hid with h1 | h2
        · exact ⟨a, by simp, h1⟩
        · obtain ⟨a', hm, hi⟩ := ih rest hr h2
          exact ⟨a', by simp [hm], hi⟩

theorem catRes_ne_diverges (l : List Res) (h : ∀ x ∈ l, x ≠ .diverges) : catRes l ≠ .diverges := by
  induction l with
  | nil => simp [catRes]
  | cons x r ih =>
    have hr := ih (fun y hy => h y (by simp [hy]))
    have hx := h x (by simp)
    cases x with
    | diverges => exact absurd rfl hx
    | panicked => simp [catRes]
    | ok a =>
      simp only [catRes]
      cases hc : catRes r with
      | diverges => exact absurd hc hr
      | panicked => simp
      | ok b => simp

theorem filter_terminates (t : PTree) (perms : List Nat) (rank : Nat → Nat)
    (hchild : ∀ n, ∀ c ∈ childIds t n, rank c < rank n)
    (hred : ∀ n nd tgt, t[n - 1]? = some nd → n ≠ 0 → nd.redirect = some tgt → rank tgt < rank n) :
    ∀ fuel n, rank n < fuel → filter t perms fuel n ≠ .diverges := by
  intro fuel
  induction fuel with
  | zero => intro n h; omega
  | succ fuel ih =>
    intro n hlt
    have hkids : catRes ((childIds t n).map (filter t perms fuel)) ≠ .diverges := by
      apply catRes_ne_diverges
      intro x hx
      simp only [List.mem_map] at hx
      obtain ⟨c, hc, rfl⟩ := hx
      exact ih c (by have := hchild n c hc; omega)
    simp only [filter]
    split
    · rename_i h0
      subst h0
      split
      · simp
      · exact hkids
    · rename_i h0
      split
      · simp
      · rename_i nd hnd
        split
        · simp
        · simp
        · split
          · split
            · simp
            · exact hkids
          · split
            · simp
            · rename_i tgt htgt
              split
              · simp
              · exact ih tgt (by have := hred n nd tgt hnd h0 htgt; omega)

theorem received_stripRoot (ts : List Tok) : ∀ id ∈ received (stripRoot ts), id ∈ received ts := by
  intro id hid
  unfold stripRoot at hid
  split at hid
  · rename_i r
    rw [received_eq_filterMap] at hid
    have := ((List.dropLast_sublist r).filterMap _).subset hid
    simp [received, received_eq_filterMap, this]
  · exact hid

/-- a proxy node in the root after the injections comes from the injection list or was in the root before -/
theorem proxy_mem_foldl_inject (proxy : List (String × Nat)) :
    ∀ (root : List MNode) (n : String) (i : Nat), MNode.proxy n i ∈ proxy.foldl inject root →
      (n, i) ∈ proxy ∨ MNode.proxy n i ∈ root := by
  induction proxy with
  | nil => intro root n i h; right; simpa using h
  | cons p rest ih =>
    intro root n i h
    simp only [List.foldl_cons] at h
    rcases ih _ n i h with h1 | h1
    · left; simp [h1]
    · simp only [inject, List.mem_append, List.mem_filter, List.mem_singleton] at h1
      rcases h1 with ⟨hm, _⟩ | hm
      · right; exact hm
      · left
        cases hm
        simp

def isProxyName (proxy : List (String × Nat)) (m : MNode) : Bool := (proxy.map Prod.fst).contains m.name

/-- closed form of the injection loop, for proxy nodes with pairwise different names -/
theorem foldl_inject (proxy : List (String × Nat)) (hn : (proxy.map Prod.fst).Nodup) :
    ∀ root : List MNode, proxy.foldl inject root =
      root.filter (fun m => !isProxyName proxy m) ++ proxy.map (fun p => MNode.proxy p.1 p.2) := by
  induction proxy with
  | nil =>
    intro root
    simpa [isProxyName] using (List.filter_eq_self.mpr fun _ _ => rfl).symm
  | cons p rest ih =>
    intro root
    simp only [List.map_cons, List.nodup_cons] at hn
    obtain ⟨hp, hrest⟩ := hn
    simp only [List.foldl_cons]
    rw [ih hrest]
    simp only [inject, List.filter_append, List.filter_filter, List.map_cons]
    have hkeep : ([MNode.proxy p.1 p.2].filter (fun m => !isProxyName rest m)) = [MNode.proxy p.1 p.2] := by
      simp only [List.filter_cons, List.filter_nil]
      have : isProxyName rest (MNode.proxy p.1 p.2) = false := by
        simp only [isProxyName, MNode.name]
        simpa using hp
      simp [this]
    rw [hkeep]
    have hpred : (fun m : MNode => (!isProxyName rest m) && (m.name != p.1)) = (fun m => !isProxyName (p :: rest) m) := by
      funext m
      simp only [isProxyName, List.map_cons, List.contains_cons]
      cases h1 : (List.map Prod.fst rest).contains m.name <;> cases h2 : (m.name == p.1) <;> simp [bne, h2]
    rw [hpred]
    simp

end Gate.C23
