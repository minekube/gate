import GateModel.C23.Lemmas
import GateModel.Gen.C23
/-
C23 — the command tree sent to a player only shows proxy commands it may use.

`filter t perms fuel n` models `filterNode(node n, player)`; its result lists every node copy the player receives
below that node, including the copies made for redirect targets.  The theorems hold for ALL proxy trees (nesting,
requirements, redirects — also cyclic redirect graphs), all permission sets and all backend root children.
-/
namespace Gate.C23.Props
open Gate.C23

def subseq : List String → List String → Bool
  | [], _ => true
  | _ :: _, [] => false
  | a :: as, b :: bs => if a = b then subseq as bs else subseq (a :: as) bs

/-- filterNode: the requirement is checked before anything is copied; the copy's requirement is replaced; the redirect
    target and every child go through filterNode again; only non-nil children are added -/
theorem filterNode_shape :
    subseq ["src.CanUse", "return", "src.CreateBuilder", "src.CreateBuilder().Requires", "src.Redirect", "filterNode",
      "builder.Redirect", "builder.Build", "src.ChildrenOrdered", "func:{", "filterNode", "dest.AddChild", "}",
      "src.ChildrenOrdered().Range"] Gate.Gen.C23.filterNodeCalls = true := by decide +kernel

/-- handleAvailableCommands: the proxy's root is filtered for this player; for every filtered root child a backend
    child of the same name is removed before the proxy node is added; the packet is written afterwards -/
theorem handleAvailableCommands_shape :
    subseq ["filterNode", "dispatcherRootNode.ChildrenOrdered", "func:{", "rootNode.Children", "node.Name",
      "rootNode.RemoveChild", "rootNode.AddChild", "}", "proxyNodes.Range", "b.serverConn.player.WritePacket"]
      Gate.Gen.C23.handleAvailableCommandsCalls = true := by decide +kernel

/-- Every proxy command node the player receives — at any depth, and also through redirects — is one whose
    requirement returned true for the player: it neither returned false nor panicked (id 0 is the fresh root copy).
    Since every ancestor of a delivered copy is itself delivered, all requirements on its path returned true. -/
theorem filtered_usable (t : PTree) (perms : List Nat) (fuel n : Nat) (ts : List Tok)
    (h : filter t perms fuel n = .ok ts) :
    ∀ id ∈ received ts, id = 0 ∨ ∃ nd, t[id - 1]? = some nd ∧ reqOut perms nd = .allow := by
  intro id hid
  induction fuel generalizing n ts id with
  | zero => simp [filter] at h
  | succ fuel ih =>
    -- a received id is the node itself, in the redirect target's copy, or in a child's walk
    have hkids : ∀ cs, catRes ((childIds t n).map (filter t perms fuel)) = .ok cs → id ∈ received cs →
        id = 0 ∨ ∃ nd, t[id - 1]? = some nd ∧ reqOut perms nd = .allow := by
      intro cs hcs hin
      obtain ⟨a, hm, hi⟩ := mem_received_catRes _ cs hcs id hin
      obtain ⟨c, _, hc⟩ := List.mem_map.mp hm
      exact ih c a hc id hi
    simp only [filter] at h
    split at h
    · rename_i h0
      subst h0
      split at h
      · rename_i cs hcs
        cases h
        have hrec : received (Tok.node 0 :: cs ++ [Tok.up]) = 0 :: received cs := by
          simp [received, received_append]
        rw [hrec, List.mem_cons] at hid
        rcases hid with h0 | hin
        · left; exact h0
        · exact hkids cs hcs hin
      · rename_i hne
        exact (hne _ h).elim
    · split at h
      · cases h; simp [received] at hid
      · rename_i nd hnd
        split at h
        · cases h
        · cases h; simp [received] at hid
        · rename_i hallow
          split at h
          · rename_i r hr
            split at h
            · rename_i cs hcs
              cases h
              have hrec : received (Tok.node n :: r ++ cs ++ [Tok.up]) = n :: (received r ++ received cs) := by
                simp [received, received_append]
              rw [hrec, List.mem_cons, List.mem_append] at hid
              rcases hid with h0 | hin
              · right; exact ⟨nd, by rw [h0]; exact hnd, hallow⟩
              · rcases hin with hr' | hc'
                · -- inside the redirect target's copy
                  split at hr
                  · cases hr; simp [received] at hr'
                  · rename_i tgt _
                    split at hr
                    · rename_i r0 hr0
                      cases hr
                      split at hr'
                      · simp [received] at hr'
                      · simp only [received] at hr'
                        exact ih tgt r0 hr0 id hr'
                    · rename_i hne
                      exact (hne _ hr).elim
                · exact hkids cs hcs hc'
            · rename_i hne
              exact (hne _ h).elim
          · rename_i hne
            exact (hne _ h).elim

/-- A node whose requirement returns false is dropped with its whole subtree (filterNode returns nil). -/
theorem unusable_dropped (t : PTree) (perms : List Nat) (fuel n : Nat) (nd : PNode) (hn : n ≠ 0)
    (hnd : t[n - 1]? = some nd) (hu : reqOut perms nd = .deny) : filter t perms (fuel + 1) n = .ok [] := by
  simp [filter, hn, hnd, hu]

/-- A node whose requirement panics is never copied: the call does not return a tree at all. -/
theorem panicking_requirement_delivers_nothing (t : PTree) (perms : List Nat) (fuel n : Nat) (nd : PNode) (hn : n ≠ 0)
    (hnd : t[n - 1]? = some nd) (hu : reqOut perms nd = .panic) : filter t perms (fuel + 1) n = .panicked := by
  simp [filter, hn, hnd, hu]

/-- Every proxy node injected into the backend's root is a usable child of the proxy's root, under that child's name. -/
theorem injected_are_usable_root_children (t : PTree) (perms : List Nat) (p : String × Nat)
    (hp : p ∈ proxyRootChildren t perms) :
    p.2 ∈ childIds t 0 ∧ ∃ nd, t[p.2 - 1]? = some nd ∧ reqOut perms nd = .allow ∧ nd.name = p.1 := by
  simp only [proxyRootChildren, List.mem_filterMap] at hp
  obtain ⟨id, hid, hm⟩ := hp
  split at hm
  · rename_i nd hnd
    split at hm
    · rename_i hu
      cases hm
      exact ⟨hid, nd, hnd, by simpa [usable] using hu, rfl⟩
    · cases hm
  · cases hm

/-- filterNode terminates (returns or panics) whenever children and redirect targets can be ranked below their node
    (the child + redirect graph is acyclic). -/
theorem terminates_if_acyclic (t : PTree) (perms : List Nat) (rank : Nat → Nat)
    (hchild : ∀ n, ∀ c ∈ childIds t n, rank c < rank n)
    (hred : ∀ n nd tgt, t[n - 1]? = some nd → n ≠ 0 → nd.redirect = some tgt → rank tgt < rank n) (n : Nat) :
    filter t perms (rank n + 1) n ≠ .diverges :=
  filter_terminates t perms rank hchild hred (rank n + 1) n (Nat.lt_succ_self _)

/-- The merged root is: the backend's children that no injected proxy node is named like, unchanged and in their
    order, followed by the injected proxy nodes. -/
theorem merge_closed_form (backend : List BNode) (proxy : List (String × Nat)) (hn : (proxy.map Prod.fst).Nodup) :
    merge backend proxy =
      (backend.filter (fun b => !(proxy.map Prod.fst).contains b.name)).map MNode.backend ++
      proxy.map (fun p => MNode.proxy p.1 p.2) := by
  unfold merge
  rw [foldl_inject proxy hn]
  congr 1
  rw [List.filter_map]
  rfl

/-- Proxy nodes replace backend nodes of the same name. -/
theorem proxy_replaces_backend (backend : List BNode) (proxy : List (String × Nat)) (hn : (proxy.map Prod.fst).Nodup)
    (p : String × Nat) (hp : p ∈ proxy) :
    MNode.proxy p.1 p.2 ∈ merge backend proxy ∧ ∀ b, MNode.backend b ∈ merge backend proxy → b.name ≠ p.1 := by
  rw [merge_closed_form backend proxy hn]
  constructor
  · apply List.mem_append_right
    exact List.mem_map.mpr ⟨p, hp, rfl⟩
  · intro b hb
    rw [List.mem_append] at hb
    rcases hb with hb | hb
    · simp only [List.mem_map, List.mem_filter] at hb
      obtain ⟨b', ⟨_, hnot⟩, hb'⟩ := hb
      cases hb'
      intro heq
      have hc : (proxy.map Prod.fst).contains b.name = true := by
        rw [List.contains_iff_mem]; exact List.mem_map.mpr ⟨p, hp, heq.symm⟩
      rw [hc] at hnot
      cases hnot
    · simp at hb

/-- All other backend nodes are kept (once each, same order), and no backend node is invented. -/
theorem others_unchanged (backend : List BNode) (proxy : List (String × Nat)) (hn : (proxy.map Prod.fst).Nodup) :
    (merge backend proxy).filterMap (fun m => match m with | .backend b => some b | .proxy _ _ => none) =
      backend.filter (fun b => !(proxy.map Prod.fst).contains b.name) := by
  rw [merge_closed_form backend proxy hn, List.filterMap_append, List.filterMap_map, List.filterMap_map]
  simp only [Function.comp_def, List.filterMap_some, List.append_right_eq_self, List.filterMap_eq_nil_iff, implies_true]

/-- The proxy root's usable children have pairwise different names whenever the proxy's root children do
    (brigodier keys children by name), so the merge theorems apply to `proxyRootChildren`. -/
theorem proxyRootChildren_names_nodup (t : PTree) (perms : List Nat)
    (hn : ((childIds t 0).filterMap (fun id => (t[id - 1]?).map (·.name))).Nodup) :
    ((proxyRootChildren t perms).map Prod.fst).Nodup := by
  unfold proxyRootChildren
  rw [List.map_filterMap]
  refine List.Sublist.nodup ?_ hn
  induction (childIds t 0) with
  | nil => simp
  | cons id rest ih =>
    simp only [List.filterMap_cons]
    cases hnd : t[id - 1]? with
    | none => simpa using ih
    | some nd =>
      simp only [Option.map_some]
      by_cases hu : usable perms nd = true
      · simpa [hu] using ih
      · have hu' : usable perms nd = false := by simpa using hu
        simp only [hu', Bool.false_eq_true, if_false, Option.map_none]
        exact List.Sublist.cons _ ih

/-- Every packet of a history is answered as if it were the only one: with the tree, requirement outcomes and
    backend nodes current at that packet. -/
theorem history_pointwise (h : HState) (hist : List Step) : runHistory h hist = hist.map deliver := by
  induction hist generalizing h with
  | nil => rfl
  | cons s r ih => simp [runHistory, handlePacket, ih]

/-- What the player gets for a commands packet does not depend on the packets handled earlier on the connection
    (nothing is remembered: requirements are evaluated anew for every packet). -/
theorem history_independent_of_past (pre₁ pre₂ : List Step) (s : Step) :
    (runHistory () (pre₁ ++ [s])).getLast? = (runHistory () (pre₂ ++ [s])).getLast? := by
  simp [history_pointwise]

/-- For every history and every packet in it: each proxy node delivered with that packet — injected into the root
    or below, also through redirects — passes its requirement AT THAT TIME (in the tree and under the
    permissions current at that packet), whatever was delivered before. -/
theorem history_filtered_usable (hist : List Step) (k : Nat) (s : Step) (root : List MNode) (sub : List Tok)
    (hs : hist[k]? = some s) (hd : (runHistory () hist)[k]? = some (.tree root sub)) :
    (∀ id ∈ received sub, id = 0 ∨ ∃ nd, s.tree[id - 1]? = some nd ∧ reqOut s.perms nd = .allow) ∧
    (∀ n i, MNode.proxy n i ∈ root → ∃ nd, s.tree[i - 1]? = some nd ∧ reqOut s.perms nd = .allow ∧ nd.name = n) := by
  rw [history_pointwise, List.getElem?_map, hs] at hd
  simp only [Option.map_some, Option.some.injEq, deliver] at hd
  split at hd
  · rename_i ts hts
    cases hd
    constructor
    · intro id hid
      exact filtered_usable s.tree s.perms _ 0 ts hts id (received_stripRoot ts id hid)
    · intro n i hm
      rcases proxy_mem_foldl_inject _ _ n i hm with h1 | h1
      · obtain ⟨_, nd, hnd, hu, hn⟩ := injected_are_usable_root_children s.tree s.perms (n, i) h1
        exact ⟨nd, hnd, hu, hn⟩
      · simp at h1
  · cases hd
  · cases hd

/-! ### redirect cycles (known finding redirect-cycle-diverges) -/

/-- brigadier's `execute … run` shape: `/execute` has a child that redirects to the root -/
def cyclicTree : PTree := [⟨0, "execute", .free, none⟩, ⟨1, "run", .free, some 0⟩]

/-- filterNode does not terminate on it, whatever the amount of fuel (in Go: stack overflow) -/
theorem redirect_to_ancestor_diverges_fails (perms : List Nat) :
    ∀ fuel, filter cyclicTree perms fuel 0 = .diverges ∧ filter cyclicTree perms fuel 1 = .diverges ∧
      filter cyclicTree perms fuel 2 = .diverges := by
  intro fuel
  induction fuel with
  | zero => simp [filter]
  | succ fuel ih =>
    obtain ⟨h0, h1, h2⟩ := ih
    have c0 : childIds cyclicTree 0 = [1] := by decide
    have c1 : childIds cyclicTree 1 = [2] := by decide
    have g1 : cyclicTree[0]? = some ⟨0, "execute", .free, none⟩ := rfl
    have g2 : cyclicTree[1]? = some ⟨1, "run", .free, some 0⟩ := rfl
    refine ⟨?_, ?_, ?_⟩
    · simp [filter, c0, h1, catRes]
    · simp [filter, c1, h2, catRes, g1, reqOut]
    · simp [filter, h0, g2, reqOut]

/-- a tree with nesting, a requirement and a redirect; the rank hypotheses of `terminates_if_acyclic` hold with
    rank(root)=3, rank(server)=1, rank(n2)=0, rank(hub)=2 -/
example : filter [⟨0, "server", .free, none⟩, ⟨1, "n2", .perm 1, none⟩, ⟨0, "hub", .free, some 1⟩] [] 5 0
    = .ok [.node 0, .node 1, .up, .node 3, .redirect, .node 1, .up, .up, .up] := by decide

/-- a requirement that panics below a usable node: nothing is delivered; behind a denied node it is never evaluated -/
example : filter [⟨0, "server", .free, none⟩, ⟨1, "n2", .panics, none⟩] [] 5 0 = .panicked := by decide
example : filter [⟨0, "server", .perm 1, none⟩, ⟨1, "n2", .panics, none⟩] [] 5 0 = .ok [.node 0, .up] := by decide

/-- a permission revoked between two commands packets on one connection: `admin` is delivered, then it is not -/
example : runHistory () [⟨[⟨0, "server", .free, none⟩, ⟨0, "admin", .perm 1, none⟩], [1], []⟩,
                        ⟨[⟨0, "server", .free, none⟩, ⟨0, "admin", .perm 1, none⟩], [], []⟩]
    = [.tree [.proxy "server" 1, .proxy "admin" 2] [.node 1, .up, .node 2, .up],
       .tree [.proxy "server" 1] [.node 1, .up]] := by decide

example : merge [⟨"server", 1⟩, ⟨"give", 2⟩] [("server", 1), ("hub", 3)]
    = [.backend ⟨"give", 2⟩, .proxy "server" 1, .proxy "hub" 3] := by decide

end Gate.C23.Props
