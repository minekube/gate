import GateModel.C18.Lemmas
/-
C18 — Keep-alive replies reach only the backend that asked, once.

`exec s acts` runs an ARBITRARY list of atomic actions: backend keep-alive
records on any backend, any number of concurrently handled client replies advancing one atomic step
at a time (thread ids are free), and environment changes (server switches, protocol-state changes,
closes).  Theorems quantified over `acts` therefore hold for every interleaving, every history, any
number of pending ids and repeated ids.  `Fresh s` is a system where nothing has been recorded or is
being handled yet (what `newServerConnection` creates); backends' connection fields are arbitrary.

History vocabulary (`s.log`, newest first): `recd b i` backend b asked with id i; `cons b i` a reply
consumed b's pending i (the Get+Delete critical section); `fwd b i` a reply was written to b.
`unanswered h b i`: in history h, b asked with i and no reply has consumed that since.
-/
namespace Gate.C18.Props
open Gate Gate.C18

/-! ### only the backend that asked, only while unanswered -/

/-- Every consume — the only way to a forward — took an id that the *same* backend had sent and that
    no earlier reply had consumed, at that very moment of the history; for all interleavings. -/
theorem consumed_only_if_unanswered (s : Sys) (hs : Fresh s) (acts : List Act) :
    ValidC (exec s acts).log :=
  (inv_exec acts (inv_of_fresh hs)).valid

/-- What the LRU holds is always backed by an unanswered keep-alive of that backend (it may hold
    fewer: eviction only drops). -/
theorem pending_is_unanswered (s : Sys) (hs : Fresh s) (acts : List Act) (b : Nat) (i : Int)
    (h : i ∈ ((exec s acts).bs b).pending) : unanswered (exec s acts).log b i = true :=
  (inv_exec acts (inv_of_fresh hs)).pend b i h

/-- At most once, under any concurrency: per backend and id, forwards (plus replies still holding a
    consumed ping) never exceed consumes, and consumes never exceed the backend's keep-alives with that
    id — with one in reserve while the latest is still unanswered. -/
theorem at_most_once (s : Sys) (hs : Fresh s) (acts : List Act) (b : Nat) (i : Int) :
    let r := exec s acts
    holders r.ths b i + nfwd r.log b i ≤ ncons r.log b i ∧
    ncons r.log b i + (if unanswered r.log b i = true then 1 else 0) ≤ nrec r.log b i := by
  have hinv := inv_exec acts (inv_of_fresh hs)
  exact ⟨hinv.tok b i, ncons_le_nrec _ b i hinv.valid⟩

/-- Corollary in the property's words: the number of replies with id `i` written to backend `b`
    is at most the number of keep-alives with id `i` that `b` sent. -/
theorem forwards_le_requests (s : Sys) (hs : Fresh s) (acts : List Act) (b : Nat) (i : Int) :
    nfwd (exec s acts).log b i ≤ nrec (exec s acts).log b i := by
  have h := at_most_once s hs acts b i
  simp only at h
  omega

/-- A backend that never sent id `i` never receives a reply with id `i`. -/
theorem never_asked_never_forwarded (s : Sys) (hs : Fresh s) (acts : List Act) (b : Nat) (i : Int)
    (h : nrec (exec s acts).log b i = 0) : nfwd (exec s acts).log b i = 0 := by
  have := forwards_le_requests s hs acts b i
  omega

/-! ### the state gate: conn present, not closed, state CONFIG or PLAY are checked before the write -/

/-- While the environment leaves the backends' connections alone (no nil-ing, closing or protocol
    state change — everything else still interleaves freely), every forward in the history went to a
    backend whose connection is present, open and in CONFIG or PLAY. -/
theorem state_gate_quiescent (s : Sys) (hs : Fresh s) (acts : List Act) (hq : ∀ a ∈ acts, a.quiet = true)
    (b : Nat) (i : Int) (h : Ev.fwd b i ∈ (exec s acts).log) : connOk (s.bs b) := by
  have hg : GateInv s := ⟨(by rw [hs.ths]; intro _ hm; cases hm), (by rw [hs.log]; intro _ _ hm; cases hm)⟩
  obtain ⟨h1, e⟩ := gate_exec acts hq hg
  exact (connOk_congr (e b)).mp (h1.log b i h)

/-- With arbitrary environment interference the check is inherently check-then-act; what holds
    locally: the only step that takes a handler thread to `write b` is the one that reads
    `State() ∈ {CONFIG, PLAY}`, from `readState b` — itself reached only through `readClosed b`
    (not closed) and `readConn b` (connection present); see `thOk` / `GateInv` in Lemmas. -/
theorem write_only_after_state_check (s : Sys) (t : Nat) (th0 th : Thread) (b : Nat)
    (h0 : s.ths[t]? = some th0) (hne : th0.pc ≠ .write b)
    (h : (stepThread s t).ths[t]? = some th) (hw : th.pc = .write b) :
    th0.pc = .readState b ∧ (s.bs b).st.fwdOk = true := by
  have hlt : t < s.ths.length := (List.getElem?_eq_some_iff.mp h0).1
  -- where thread `t` stands after a step that set its pc to `pc`
  have hset : ∀ pc, (s.ths.set t { th0 with pc := pc })[t]? = some th → pc = .write b := by
    intro pc hs
    rw [List.getElem?_set_self hlt] at hs
    cases hs
    exact hw
  rcases stepThread_cases s t with he | ⟨th', ht, ⟨pc, hn, he⟩ | ⟨b', miss, _, hm, he⟩ | ⟨b', _, he⟩⟩ <;>
    rw [he] at h
  · rw [h0] at h
    cases h
    exact absurd hw hne
  all_goals
    rw [h0] at ht
    cases ht
  · cases hset pc h
    rcases hn with hn | ⟨b', ⟨_, _, hp⟩ | ⟨_, _, hp⟩ | ⟨h1, hk, hp⟩⟩
    · cases hn
    · cases hp
    · cases hp
    · cases hp
      exact ⟨h1, hk⟩
  · by_cases hin : th0.id ∈ (s.bs b').pending
    · rw [consumeStep_hit hin] at h
      cases hset _ h
    · rw [consumeStep_miss hin] at h
      cases hset _ h
      cases hm
  · cases hset _ h

/-! ### one reply, handled without interference: exact routing -/

/-- `forwardKeepAlive(id)` run to completion = `replyBs`: the current backend if `id` is pending there,
    else the in-flight backend if pending there, else nothing; the chosen backend's pending id is
    consumed, and the packet is written iff its connection is present, open and in CONFIG/PLAY;
    every other backend (and every other field) is untouched. -/
theorem reply_exact (s : Sys) (id : Int) (j : Nat) (hths : s.ths = []) :
    (reply s id).bs j = replyBs s id j := reply_bs s id j hths

/-- Replies matching no pending id (neither on the current nor on the in-flight backend) are dropped:
    no backend changes at all. -/
theorem unknown_dropped (s : Sys) (id : Int) (hths : s.ths = [])
    (hcur : ∀ b, s.cur = some b → id ∉ (s.bs b).pending)
    (hinfl : ∀ b, s.infl = some b → id ∉ (s.bs b).pending) (j : Nat) :
    (reply s id).bs j = s.bs j := by
  rw [reply_bs s id j hths]
  unfold replyBs
  cases h : replyTarget s id with
  | none => rfl
  | some b =>
    obtain ⟨hm, hc | hi⟩ := replyTarget_some h
    · exact absurd hm (hcur b hc)
    · exact absurd hm (hinfl b hi)

/-- A reply changes what was written to backend `j` only by appending exactly this id, and only if `j`
    is the current or in-flight backend, `id` was pending on `j`, and `j`'s connection passes the gate. -/
theorem written_only_to_asker (s : Sys) (id : Int) (j : Nat) (hths : s.ths = []) :
    ((reply s id).bs j).written = (s.bs j).written ∨
    (((reply s id).bs j).written = (s.bs j).written ++ [id] ∧ id ∈ (s.bs j).pending ∧
      connOkB (s.bs j) = true ∧ (s.cur = some j ∨ s.infl = some j)) := by
  rw [reply_bs s id j hths]
  unfold replyBs
  cases h : replyTarget s id with
  | none => exact .inl rfl
  | some b =>
    simp only
    by_cases hj : j = b
    · subst hj
      rw [if_pos rfl]
      unfold answered
      by_cases hk : connOkB (s.bs j) = true
      · rw [if_pos hk]
        exact .inr ⟨rfl, (replyTarget_some h).1, hk, (replyTarget_some h).2⟩
      · rw [if_neg hk]
        exact .inl rfl
    · rw [if_neg hj]
      exact .inl rfl

/-! ### the pending-ping LRU: at most `cap` ids per backend, the oldest evicted -/

/-- bounded and duplicate-free in every reachable state -/
theorem pending_bounded (s : Sys) (hs : Fresh s) (acts : List Act) (b : Nat) :
    ((exec s acts).bs b).pending.length ≤ cap ∧ ((exec s acts).bs b).pending.Nodup :=
  ⟨(inv_exec acts (inv_of_fresh hs)).len b, (inv_exec acts (inv_of_fresh hs)).nodup b⟩

/-- a full LRU evicts exactly its oldest entry when a new id arrives -/
theorem full_lru_evicts_oldest (l : Lru) (k : Int) (hk : k ∉ l) (hfull : l.length = cap) :
    lruSet cap l k = k :: l.dropLast := by
  have hpos : 0 < cap := by decide
  unfold lruSet
  rw [if_neg hk, if_pos (by simp only [List.length_cons]; omega)]
  cases l with
  | nil => simp at hfull; omega
  | cons a l => rfl

/-- a burst of distinct keep-alives from one backend with no reply in between leaves exactly the
    `cap` newest pending (newest first): with more than `cap` outstanding the oldest are forgotten -/
theorem pending_after_burst (s : Sys) (b : Nat) (ids : List Int) (hb : (s.bs b).pending = [])
    (hn : ids.Nodup) :
    ((exec s (ids.map (Act.record b))).bs b).pending = ids.reverse.take cap := by
  rw [exec_records, hb, foldl_lruSet_fresh cap ids [] (Nat.zero_le _) (by simpa using hn)]
  simp

/-- …so the reply to an evicted id finds nothing and is dropped, not mis-routed. -/
theorem evicted_reply_dropped (s : Sys) (b : Nat) (ids : List Int) (k : Int)
    (hb : (s.bs b).pending = []) (hn : ids.Nodup)
    (hk : k ∈ ids.take (ids.length - cap)) :
    k ∉ ((exec s (ids.map (Act.record b))).bs b).pending := by
  rw [pending_after_burst s b ids hb hn]
  intro hm
  rw [List.take_reverse, List.mem_reverse] at hm
  have hsplit : (ids.take (ids.length - cap) ++ ids.drop (ids.length - cap)).Nodup := by
    rw [List.take_append_drop]; exact hn
  exact (List.nodup_append.mp hsplit).2.2 k hk k hm rfl

/-! ### tie to the source (regenerated by tools/gofacts on every run) -/

/-- a function body is one critical section of `serverConn.mu`: Lock first, Unlock only deferred -/
def oneSection (cs : List String) : Bool :=
  cs.head? == some "serverConn.mu.Lock" && cs[1]? == some "defer:serverConn.mu.Unlock" &&
  !cs.contains "serverConn.mu.Unlock" && cs.count "serverConn.mu.Lock" == 1
/-- `a` occurs in `cs`, before the first `b`, and `b` occurs -/
def before (a b : String) (cs : List String) : Bool := cs.idxOf a < cs.idxOf b && cs.idxOf b < cs.length

open Gate.Gen.C18 in
/-- `consumePendingKeepAlive` does Get and Delete inside ONE critical section (the atomic `consume`
    step of the model); `recordBackendKeepAlive` does Set inside one. -/
theorem src_consume_and_record_atomic :
    oneSection consumeCalls ∧ before "serverConn.pendingPings.Get" "serverConn.pendingPings.Delete" consumeCalls ∧
    oneSection recordCalls ∧ "serverConn.pendingPings.Set" ∈ recordCalls := by decide +kernel

open Gate.Gen.C18 in
/-- `sendKeepAliveToBackend`: consume → conn() → Closed → State → a single WritePacket; and
    `forwardKeepAlive`: current backend first, in-flight second. -/
theorem src_send_and_forward_order :
    before "consumePendingKeepAlive" "serverConn.conn" sendCalls ∧ before "serverConn.conn" "netmc.Closed" sendCalls ∧
    before "netmc.Closed" "serverMc.State" sendCalls ∧ before "serverMc.State" "serverMc.WritePacket" sendCalls ∧
    sendCalls.count "serverMc.WritePacket" = 1 ∧ sendCalls.count "consumePendingKeepAlive" = 1 ∧
    forwardCalls = ["player.connectedServer", "sendKeepAliveToBackend", "player.connectionInFlight", "sendKeepAliveToBackend"] := by
  decide +kernel

open Gate.Gen.C18 in
/-- every session handler routes keep-alives through these functions; the LRU is built with the capacity option -/
theorem src_handlers_use_the_mechanism :
    clientPlayKA = ["forwardKeepAlive"] ∧ "forwardKeepAlive" ∈ clientConfigHandlePacket ∧
    backendPlayKA.head? = some "recordBackendKeepAlive" ∧ backendConfigKA.head? = some "recordBackendKeepAlive" ∧
    backendTransKA.head? = some "recordBackendKeepAlive" ∧
    before "lru.WithCapacity" "lru.NewSync[]" newServerConnCalls := by decide +kernel

theorem src_capacity_positive : 0 < cap := by decide +kernel

/-! ### non-vacuity -/

example : Fresh ({} : Sys) := ⟨fun _ => rfl, rfl, rfl⟩
/-- a reply to a pending id on the current backend in PLAY is forwarded there, exactly once -/
example : let s := exec {} [.setCur (some 0), .record 0 7]
    ((reply s.gc 7).bs 0).written = [7] ∧ ((reply (reply s.gc 7).gc 7).bs 0).written = [7] := by decide
/-- same id pending on current and in-flight: first reply goes to current, second to in-flight -/
example : let s := exec {} [.setCur (some 0), .setInfl (some 1), .setState 1 .config, .record 0 7, .record 1 7]
    ((reply s.gc 7).bs 0).written = [7] ∧ ((reply s.gc 7).bs 1).written = [] ∧
    ((reply (reply s.gc 7).gc 7).bs 1).written = [7] := by decide
/-- the gate: a backend in LOGIN consumes the ping but gets nothing written -/
example : let s := exec {} [.setCur (some 0), .setState 0 .login, .record 0 7]
    ((reply s.gc 7).bs 0).written = [] ∧ ((reply s.gc 7).bs 0).pending = [] := by decide
/-- two replies racing step by step for one pending id: one forward -/
example : let s := exec {} [.setCur (some 0), .record 0 7, .spawn 7, .spawn 7,
      .step 0, .step 1, .step 0, .step 1, .step 0, .step 1, .step 0, .step 1, .step 0, .step 1,
      .step 0, .step 1, .step 0, .step 1, .step 0, .step 1]
    (s.bs 0).written = [7] := by decide
example : (Act.record 0 1).quiet = true ∧ (Act.step 3).quiet = true := ⟨rfl, rfl⟩

end Gate.C18.Props
