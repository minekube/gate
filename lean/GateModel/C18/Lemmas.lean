import GateModel.C18.Model
import GateModel.Base.Sched
/-
C18 helper lemmas: LRU algebra, history bookkeeping, the kinds of step a thread can take, the system
invariant and the state gate with their preservation by every atomic action, and one reply run alone.
-/
namespace Gate.C18

theorem lruConsume_eq (l : Lru) (k : Int) :
    lruConsume l k = if k ∈ l then (l.erase k, true) else (l, false) := by
  unfold lruConsume lruGet lruDelete
  by_cases h : k ∈ l
  · simp [h]
  · simp [h]

/-- `Set` keeps the keys it had, newest first, possibly without the oldest -/
theorem lruSet_sublist (c : Nat) (l : Lru) (k : Int) : (lruSet c l k).Sublist (k :: l.erase k) := by
  unfold lruSet
  by_cases hk : k ∈ l
  · rw [if_pos hk]
    exact .refl _
  · rw [if_neg hk, List.erase_of_not_mem hk]
    split
    · exact List.dropLast_sublist _
    · exact .refl _

theorem mem_lruSet {c : Nat} {l : Lru} {k x : Int} (h : x ∈ lruSet c l k) : x = k ∨ x ∈ l := by
  rcases List.mem_cons.mp ((lruSet_sublist c l k).subset h) with h | h
  · exact .inl h
  · exact .inr (List.mem_of_mem_erase h)

theorem nodup_lruSet {c : Nat} {l : Lru} (k : Int) (h : l.Nodup) : (lruSet c l k).Nodup :=
  (List.nodup_cons.mpr ⟨fun hm => (h.mem_erase_iff.mp hm).1 rfl, h.erase k⟩).sublist (lruSet_sublist c l k)

theorem length_lruSet {c : Nat} {l : Lru} (k : Int) (h : l.length ≤ c) :
    (lruSet c l k).length ≤ c := by
  unfold lruSet
  by_cases hk : k ∈ l
  · rw [if_pos hk]
    have := List.length_erase_of_mem hk
    have hpos : 0 < l.length := List.length_pos_of_mem hk
    simp only [List.length_cons]; omega
  · rw [if_neg hk]
    by_cases hcc : (k :: l).length > c
    · rw [if_pos hcc]; simp only [List.length_dropLast, List.length_cons]; omega
    · rw [if_neg hcc]; omega

/-- inserting a fresh key into a (not over-full) LRU = push front, keep the `c` most recent -/
theorem lruSet_fresh {c : Nat} {l : Lru} {k : Int} (hk : k ∉ l) (h : l.length ≤ c) :
    lruSet c l k = (k :: l).take c := by
  unfold lruSet
  rw [if_neg hk]
  by_cases hc : (k :: l).length > c
  · rw [if_pos hc, List.dropLast_eq_take]
    have : (k :: l).length - 1 = c := by simp only [List.length_cons] at hc ⊢; omega
    rw [this]
  · rw [if_neg hc]
    exact (List.take_of_length_le (by omega)).symm

theorem take_append_take {α} (a b : List α) (c : Nat) : (a ++ b.take c).take c = (a ++ b).take c := by
  rw [List.take_append, List.take_append, List.take_take]
  congr 2
  omega

/-- recording fresh, pairwise distinct ids `ids` (oldest first) on top of `l` keeps exactly the `c`
    most recent keys, newest first -/
theorem foldl_lruSet_fresh (c : Nat) : ∀ (ids : List Int) (l : Lru), l.length ≤ c → (ids ++ l).Nodup →
    ids.foldl (lruSet c) l = (ids.reverse ++ l).take c
  | [], l, h, _ => by simp [List.take_of_length_le h]
  | k :: ids, l, h, hn => by
    have hk : k ∉ l := fun hm => (List.nodup_cons.mp hn).1 (List.mem_append_right _ hm)
    have hn' : (ids ++ (k :: l).take c).Nodup :=
      (List.perm_middle.nodup_iff.mpr hn).sublist (List.Sublist.append (List.Sublist.refl _) (List.take_sublist _ _))
    rw [List.foldl_cons, lruSet_fresh hk h,
      foldl_lruSet_fresh c ids _ (by simp [List.length_take]; omega) hn', take_append_take]
    simp

/-- backend `b` sent keep-alive `i` and no reply has consumed it since -/
def unanswered : List Ev → Nat → Int → Bool
  | [], _, _ => false
  | .recd b i :: h, b', i' => if b = b' ∧ i = i' then true else unanswered h b' i'
  | .cons b i :: h, b', i' => if b = b' ∧ i = i' then false else unanswered h b' i'
  | .fwd _ _ :: h, b', i' => unanswered h b' i'

def nrec (h : List Ev) (b : Nat) (i : Int) : Nat := h.count (.recd b i)
def ncons (h : List Ev) (b : Nat) (i : Int) : Nat := h.count (.cons b i)
def nfwd (h : List Ev) (b : Nat) (i : Int) : Nat := h.count (.fwd b i)

/-- every consume in the history took a keep-alive that was unanswered at that moment -/
def ValidC : List Ev → Prop
  | [] => True
  | .cons b i :: h => unanswered h b i = true ∧ ValidC h
  | _ :: h => ValidC h

theorem unanswered_cons_ne {h : List Ev} {b j : Nat} {id i : Int} (hne : ¬ (b = j ∧ id = i)) :
    unanswered (.cons b id :: h) j i = unanswered h j i := by
  rw [unanswered, if_neg hne]

theorem unanswered_recd_ne {h : List Ev} {b j : Nat} {id i : Int} (hne : ¬ (b = j ∧ id = i)) :
    unanswered (.recd b id :: h) j i = unanswered h j i := by
  rw [unanswered, if_neg hne]

theorem unanswered_recd_self (h : List Ev) (b : Nat) (id : Int) :
    unanswered (.recd b id :: h) b id = true := by
  rw [unanswered, if_pos ⟨rfl, rfl⟩]

theorem ncons_le_nrec : ∀ (h : List Ev) (b : Nat) (i : Int), ValidC h →
    ncons h b i + (if unanswered h b i = true then 1 else 0) ≤ nrec h b i
  | [], b, i, _ => Nat.le_refl 0
  | e :: h, b, i, hv => by
    cases e with
    | recd b' i' =>
      have ih := ncons_le_nrec h b i hv
      simp only [ncons, nrec, unanswered, List.count_cons, beq_iff_eq, Ev.recd.injEq, reduceCtorEq, if_false] at ih ⊢
      by_cases hb : b' = b ∧ i' = i
      · simp only [hb, and_self, if_true]
        split at ih <;> omega
      · simp only [hb, if_false]
        exact ih
    | cons b' i' =>
      have ih := ncons_le_nrec h b i hv.2
      have hu := hv.1
      simp only [ncons, nrec, unanswered, List.count_cons, beq_iff_eq, Ev.cons.injEq, reduceCtorEq, if_false] at ih ⊢
      by_cases hb : b' = b ∧ i' = i
      · rw [hb.1, hb.2] at hu
        simp only [hu, if_true] at ih
        simp only [hb, and_self, if_true, Bool.false_eq_true, if_false]
        omega
      · simp only [hb, if_false]
        exact ih
    | fwd b' i' =>
      have ih := ncons_le_nrec h b i hv
      simp only [ncons, nrec, unanswered, List.count_cons, beq_iff_eq, reduceCtorEq, if_false] at ih ⊢
      exact ih

def hold (b : Nat) (i : Int) (th : Thread) : Nat := if th.id = i ∧ th.pc.held = some b then 1 else 0
def holders (l : List Thread) (b : Nat) (i : Int) : Nat := (l.map (hold b i)).sum

theorem holders_set {l : List Thread} {t : Nat} {th : Thread} (x : Thread) (b : Nat) (i : Int)
    (h : l[t]? = some th) : holders (l.set t x) b i + hold b i th = holders l b i + hold b i x :=
  Gate.sum_map_set (hold b i) l t th x h

theorem holders_append (l : List Thread) (x : Thread) (b : Nat) (i : Int) :
    holders (l ++ [x]) b i = holders l b i + hold b i x := by
  simp [holders]

theorem hold_of_not_held {th : Thread} (h : th.pc.held = none) (b : Nat) (i : Int) : hold b i th = 0 := by
  simp [hold, h]

theorem consumeStep_hit {s : Sys} {t : Nat} {th : Thread} {b : Nat} {miss : Pc} (h : th.id ∈ (s.bs b).pending) :
    consumeStep s t th b miss =
      { (s.setB b { s.bs b with pending := (s.bs b).pending.erase th.id }).setPc t th (.readConn b) with
        log := .cons b th.id :: s.log } := by
  unfold consumeStep
  simp only [lruConsume_eq, if_pos h]

theorem consumeStep_miss {s : Sys} {t : Nat} {th : Thread} {b : Nat} {miss : Pc} (h : th.id ∉ (s.bs b).pending) :
    consumeStep s t th b miss = s.setPc t th miss := by
  unfold consumeStep
  simp only [lruConsume_eq, if_neg h]

/-- a step that only moves the pc: to one that holds nothing, or one check further towards the write -/
def Next (s : Sys) (pc pc' : Pc) : Prop :=
  pc'.held = none ∨ ∃ b,
    (pc = .readConn b ∧ (s.bs b).hasConn = true ∧ pc' = .readClosed b) ∨
    (pc = .readClosed b ∧ (s.bs b).closed = false ∧ pc' = .readState b) ∨
    (pc = .readState b ∧ (s.bs b).st.fwdOk = true ∧ pc' = .write b)

/-- the four kinds of step: none, a move of the pc, a consume attempt, the write -/
theorem stepThread_cases (s : Sys) (t : Nat) :
    stepThread s t = s ∨ ∃ th, s.ths[t]? = some th ∧
      ((∃ pc, Next s th.pc pc ∧ stepThread s t = s.setPc t th pc) ∨
       (∃ b miss, th.pc.held = none ∧ miss.held = none ∧ stepThread s t = consumeStep s t th b miss) ∨
       (∃ b, th.pc = .write b ∧ stepThread s t =
          { (s.setB b { s.bs b with written := (s.bs b).written ++ [th.id] }).setPc t th .done with
            log := .fwd b th.id :: s.log })) := by
  unfold stepThread
  cases s.ths[t]? with
  | none => exact .inl rfl
  | some th =>
    simp only
    by_cases hd : th.pc = .done
    · rw [hd]
      exact .inl rfl
    refine .inr ⟨th, rfl, ?_⟩
    cases hpc : th.pc with
    | done => exact absurd hpc hd
    | start => cases s.cur <;> exact .inl ⟨_, .inl rfl, rfl⟩
    | readInfl => cases s.infl <;> exact .inl ⟨_, .inl rfl, rfl⟩
    | consume1 b => exact .inr (.inl ⟨b, _, rfl, rfl, rfl⟩)
    | consume2 b => exact .inr (.inl ⟨b, _, rfl, rfl, rfl⟩)
    | readConn b =>
      simp only
      cases h : (s.bs b).hasConn
      · exact .inl ⟨_, .inl rfl, rfl⟩
      · exact .inl ⟨_, .inr ⟨b, .inl ⟨rfl, h, rfl⟩⟩, rfl⟩
    | readClosed b =>
      simp only
      cases h : (s.bs b).closed
      · exact .inl ⟨_, .inr ⟨b, .inr (.inl ⟨rfl, h, rfl⟩)⟩, rfl⟩
      · exact .inl ⟨_, .inl rfl, rfl⟩
    | readState b =>
      simp only
      cases h : (s.bs b).st.fwdOk
      · exact .inl ⟨_, .inl rfl, rfl⟩
      · exact .inl ⟨_, .inr ⟨b, .inr (.inr ⟨rfl, h, rfl⟩)⟩, rfl⟩
    | write b => exact .inr (.inr ⟨b, rfl, rfl⟩)

structure Inv (s : Sys) : Prop where
  nodup : ∀ b, (s.bs b).pending.Nodup
  len : ∀ b, (s.bs b).pending.length ≤ cap
  pend : ∀ b i, i ∈ (s.bs b).pending → unanswered s.log b i = true
  valid : ValidC s.log
  tok : ∀ b i, holders s.ths b i + nfwd s.log b i ≤ ncons s.log b i

/-- a step that only moves thread `t` to a pc holding no more than before -/
theorem inv_setPc {s : Sys} {t : Nat} {th : Thread} (pc : Pc) (h : Inv s) (ht : s.ths[t]? = some th)
    (hpc : pc.held = none ∨ pc.held = th.pc.held) : Inv (s.setPc t th pc) where
  nodup := h.nodup
  len := h.len
  pend := h.pend
  valid := h.valid
  tok := by
    intro b i
    have h1 := holders_set (l := s.ths) { th with pc := pc } b i ht
    have h2 := h.tok b i
    have h3 : hold b i { th with pc := pc } ≤ hold b i th := by
      rcases hpc with hp | hp
      · rw [hold_of_not_held (th := { th with pc := pc }) hp]; omega
      · simp [hold, hp]
    show holders (s.ths.set t { th with pc := pc }) b i + nfwd s.log b i ≤ ncons s.log b i
    omega

/-- a property of every backend survives `setB` if the new backend has it -/
theorem forall_setB {s : Sys} {b : Nat} {x : Backend} {P : Nat → Backend → Prop} (hx : P b x)
    (h : ∀ j, j ≠ b → P j (s.bs j)) (j : Nat) : P j ((s.setB b x).bs j) := by
  show P j (if j = b then x else s.bs j)
  by_cases hj : j = b
  · rw [if_pos hj, hj]
    exact hx
  · rw [if_neg hj]
    exact h j hj

/-- backend `b` becomes `x`: what is left to show of the invariant -/
theorem inv_setB {s s' : Sys} (h : Inv s) (b : Nat) (x : Backend) (hbs : s'.bs = (s.setB b x).bs)
    (hnd : x.pending.Nodup) (hlen : x.pending.length ≤ cap)
    (hb : ∀ i ∈ x.pending, unanswered s'.log b i = true)
    (ho : ∀ j, j ≠ b → ∀ i ∈ (s.bs j).pending, unanswered s'.log j i = true)
    (hv : ValidC s'.log) (ht : ∀ b i, holders s'.ths b i + nfwd s'.log b i ≤ ncons s'.log b i) : Inv s' where
  nodup := hbs ▸ forall_setB (P := fun _ B => B.pending.Nodup) hnd fun j _ => h.nodup j
  len := hbs ▸ forall_setB (P := fun _ B => B.pending.length ≤ cap) hlen fun j _ => h.len j
  pend := hbs ▸ forall_setB (P := fun j B => ∀ i ∈ B.pending, unanswered s'.log j i = true) hb ho
  valid := hv
  tok := ht

theorem inv_consumeStep {s : Sys} {t : Nat} {th : Thread} (b : Nat) (miss : Pc) (h : Inv s)
    (ht : s.ths[t]? = some th) (hth : th.pc.held = none) (hmiss : miss.held = none) :
    Inv (consumeStep s t th b miss) := by
  by_cases hm : th.id ∈ (s.bs b).pending
  · rw [consumeStep_hit hm]
    refine inv_setB h b _ rfl ((h.nodup b).erase _) (Nat.le_trans (List.length_erase_le ..) (h.len b))
      ?_ ?_ ⟨h.pend b th.id hm, h.valid⟩ ?_
    · intro i hi
      have := (h.nodup b).mem_erase_iff.mp hi
      rw [unanswered_cons_ne fun hc => this.1 hc.2.symm]
      exact h.pend b i this.2
    · intro j hj i hi
      rw [unanswered_cons_ne fun hc => hj hc.1.symm]
      exact h.pend j i hi
    · -- the thread now holds what the new `cons` event accounts for
      intro j i
      show holders (s.ths.set t { th with pc := .readConn b }) j i + nfwd (.cons b th.id :: s.log) j i
        ≤ ncons (.cons b th.id :: s.log) j i
      have h1 := holders_set (l := s.ths) { th with pc := Pc.readConn b } j i ht
      have h2 := h.tok j i
      rw [hold_of_not_held hth] at h1
      simp only [hold, Pc.held, nfwd, ncons, List.count_cons, beq_iff_eq, Ev.cons.injEq, reduceCtorEq, if_false,
        Option.some.injEq] at h1 h2 ⊢
      split at h1 <;> split <;> omega
  · rw [consumeStep_miss hm]
    exact inv_setPc miss h ht (.inl hmiss)

theorem inv_write {s : Sys} {t : Nat} {th : Thread} (b : Nat) (h : Inv s)
    (ht : s.ths[t]? = some th) (hpc : th.pc = .write b) :
    Inv { (s.setB b { s.bs b with written := (s.bs b).written ++ [th.id] }).setPc t th .done with
          log := .fwd b th.id :: s.log } := by
  refine inv_setB h b _ rfl (h.nodup b) (h.len b) (h.pend b) (fun j _ => h.pend j) h.valid ?_
  -- the `fwd` event takes over what the thread held
  intro j i
  show holders (s.ths.set t { th with pc := .done }) j i + nfwd (.fwd b th.id :: s.log) j i
    ≤ ncons (.fwd b th.id :: s.log) j i
  have h1 := holders_set (l := s.ths) { th with pc := Pc.done } j i ht
  have h2 := h.tok j i
  simp only [hold, hpc, Pc.held, nfwd, ncons, List.count_cons, beq_iff_eq, Ev.fwd.injEq, reduceCtorEq, if_false,
    Option.some.injEq, and_false] at h1 h2 ⊢
  split at h1 <;> split <;> omega

theorem inv_stepThread {s : Sys} (t : Nat) (h : Inv s) : Inv (stepThread s t) := by
  rcases stepThread_cases s t with he | ⟨th, ht, ⟨pc, hn, he⟩ | ⟨b, miss, h1, h2, he⟩ | ⟨b, hpc, he⟩⟩ <;> rw [he]
  · exact h
  · refine inv_setPc pc h ht ?_
    rcases hn with hn | ⟨b, ⟨h1, _, rfl⟩ | ⟨h1, _, rfl⟩ | ⟨h1, _, rfl⟩⟩
    · exact .inl hn
    all_goals exact .inr (by rw [h1]; rfl)
  · exact inv_consumeStep b miss h ht h1 h2
  · exact inv_write b h ht hpc

theorem inv_setB_conn {s : Sys} (b : Nat) (x : Backend) (h : Inv s) (hx : x.pending = (s.bs b).pending) :
    Inv (s.setB b x) :=
  inv_setB h b x rfl (hx ▸ h.nodup b) (hx ▸ h.len b) (hx ▸ h.pend b) (fun j _ => h.pend j) h.valid h.tok

theorem inv_record {s : Sys} (b : Nat) (id : Int) (h : Inv s) : Inv (act s (.record b id)) := by
  show Inv { s.setB b { s.bs b with pending := lruSet cap (s.bs b).pending id } with log := .recd b id :: s.log }
  refine inv_setB h b _ rfl (nodup_lruSet id (h.nodup b)) (length_lruSet id (h.len b)) ?_ ?_ h.valid ?_
  · intro i hi
    by_cases hc : id = i
    · rw [hc]
      exact unanswered_recd_self _ _ _
    · rw [unanswered_recd_ne fun hh => hc hh.2]
      rcases mem_lruSet hi with he | hm
      · exact absurd he.symm hc
      · exact h.pend b i hm
  · intro j hj i hi
    rw [unanswered_recd_ne fun hc => hj hc.1.symm]
    exact h.pend j i hi
  · intro j i
    have := h.tok j i
    unfold nfwd ncons at *
    rw [List.count_cons_of_ne (by simp), List.count_cons_of_ne (by simp)]
    exact this

theorem inv_spawn {s : Sys} (x : Thread) (h : Inv s) (hx : x.pc.held = none) :
    Inv { s with ths := s.ths ++ [x] } :=
  ⟨h.nodup, h.len, h.pend, h.valid, by
    intro b i
    show holders (s.ths ++ [x]) b i + nfwd s.log b i ≤ ncons s.log b i
    rw [holders_append, hold_of_not_held hx]
    exact h.tok b i⟩

theorem inv_act {s : Sys} (a : Act) (h : Inv s) : Inv (act s a) := by
  cases a with
  | record b id => exact inv_record b id h
  | spawn id => exact inv_spawn _ h rfl
  | spawnAt id pc =>
    show Inv (if pc.held.isSome then s else { s with ths := s.ths ++ [⟨id, pc⟩] })
    cases hp : pc.held with
    | some b => rw [if_pos (by simp)]; exact h
    | none => rw [if_neg (by simp)]; exact inv_spawn ⟨id, pc⟩ h hp
  | step t => exact inv_stepThread t h
  | setCur o => exact ⟨h.nodup, h.len, h.pend, h.valid, h.tok⟩
  | setInfl o => exact ⟨h.nodup, h.len, h.pend, h.valid, h.tok⟩
  | setState b st => exact inv_setB_conn b _ h rfl
  | setClosed b c => exact inv_setB_conn b _ h rfl
  | setConn b c => exact inv_setB_conn b _ h rfl

theorem inv_exec : ∀ (as : List Act) {s : Sys}, Inv s → Inv (exec s as)
  | [], _, h => h
  | a :: as, _, h => inv_exec as (inv_act a h)

/-- a system in which no keep-alive has been recorded and no reply is being handled -/
structure Fresh (s : Sys) : Prop where
  pending : ∀ b, (s.bs b).pending = []
  ths : s.ths = []
  log : s.log = []

theorem inv_of_fresh {s : Sys} (h : Fresh s) : Inv s where
  nodup b := by rw [h.pending]; exact List.nodup_nil
  len b := by rw [h.pending]; exact Nat.zero_le _
  pend b i hi := by rw [h.pending] at hi; cases hi
  valid := by rw [h.log]; trivial
  tok b i := by rw [h.ths, h.log]; simp [holders, nfwd, ncons]

/-! ## the state gate under a quiescent environment -/

def connOk (B : Backend) : Prop := B.hasConn = true ∧ B.closed = false ∧ B.st.fwdOk = true

/-- what a thread has already checked about the backend it holds a ping of -/
def thOk (bs : Nat → Backend) (th : Thread) : Prop :=
  match th.pc with
  | .readClosed b => (bs b).hasConn = true
  | .readState b => (bs b).hasConn = true ∧ (bs b).closed = false
  | .write b => connOk (bs b)
  | _ => True

def sameConn (B B' : Backend) : Prop := B'.hasConn = B.hasConn ∧ B'.closed = B.closed ∧ B'.st = B.st

structure GateInv (s : Sys) : Prop where
  th : ∀ th ∈ s.ths, thOk s.bs th
  log : ∀ b i, Ev.fwd b i ∈ s.log → connOk (s.bs b)

/-- the gate invariant holds in `s'`, whose backends have the connections they have in `s` -/
def GateTo (s s' : Sys) : Prop := GateInv s' ∧ ∀ b, sameConn (s.bs b) (s'.bs b)

theorem connOk_congr {B B' : Backend} (h : sameConn B B') : connOk B' ↔ connOk B := by
  unfold connOk
  rw [h.1, h.2.1, h.2.2]

theorem thOk_congr {bs bs' : Nat → Backend} (h : ∀ b, sameConn (bs b) (bs' b)) {th : Thread}
    (hk : thOk bs th) : thOk bs' th := by
  unfold thOk at *
  cases hpc : th.pc <;> rw [hpc] at hk <;> simp only at hk ⊢
  · rw [(h _).1]; exact hk
  · rw [(h _).1, (h _).2.1]; exact hk
  · exact (connOk_congr (h _)).mpr hk

theorem thOk_of_not_held {bs : Nat → Backend} {th : Thread} (h : th.pc.held = none) : thOk bs th := by
  -- the three pcs that `thOk` constrains all hold a ping
  unfold thOk
  cases hpc : th.pc <;> simp_all [Pc.held]

theorem sameConn_refl (B : Backend) : sameConn B B := ⟨rfl, rfl, rfl⟩

theorem sameConn_trans {A B C : Backend} (h1 : sameConn A B) (h2 : sameConn B C) : sameConn A C :=
  ⟨h2.1.trans h1.1, h2.2.1.trans h1.2.1, h2.2.2.trans h1.2.2⟩

theorem sameConn_setB (s : Sys) (b : Nat) (x : Backend) (hx : sameConn (s.bs b) x) :
    ∀ j, sameConn (s.bs j) ((s.setB b x).bs j) :=
  forall_setB (P := fun j B => sameConn (s.bs j) B) hx fun _ _ => sameConn_refl _

theorem gateTo_refl {s : Sys} (h : GateInv s) : GateTo s s := ⟨h, fun _ => sameConn_refl _⟩

/-- every new thread and every new forward is justified in the old state -/
theorem gate_step {s s' : Sys} (h : GateInv s) (hbs : ∀ b, sameConn (s.bs b) (s'.bs b))
    (hths : ∀ th' ∈ s'.ths, th' ∈ s.ths ∨ thOk s.bs th')
    (hlog : ∀ b i, Ev.fwd b i ∈ s'.log → Ev.fwd b i ∈ s.log ∨ connOk (s.bs b)) : GateTo s s' :=
  ⟨{ th := fun th' hm => thOk_congr hbs ((hths th' hm).elim (h.th th') id)
     log := fun b i hm => (connOk_congr (hbs b)).mpr ((hlog b i hm).elim (h.log b i) id) }, hbs⟩

/-- thread `t` moves to `pc` while backend `b`'s bookkeeping changes and `e` is logged -/
theorem gate_setB_setPc {s : Sys} {t : Nat} {th : Thread} (b : Nat) (x : Backend) (pc : Pc) (e : Ev)
    (h : GateInv s) (hx : sameConn (s.bs b) x) (hk : thOk s.bs { th with pc := pc })
    (he : ∀ j i, e = .fwd j i → connOk (s.bs j)) :
    GateTo s { (s.setB b x).setPc t th pc with log := e :: s.log } :=
  gate_step h (sameConn_setB s b x hx)
    (fun th' hm => (List.mem_or_eq_of_mem_set hm).imp_right fun (hh : th' = { th with pc := pc }) => hh ▸ hk)
    (fun j i hm => by
      rcases List.mem_cons.mp hm with hh | hh
      · exact .inr (he j i hh.symm)
      · exact .inl hh)

theorem gate_setPc {s : Sys} {t : Nat} {th : Thread} (pc : Pc) (h : GateInv s)
    (hk : thOk s.bs { th with pc := pc }) : GateTo s (s.setPc t th pc) :=
  gate_step h (fun _ => sameConn_refl _)
    (fun th' hm => (List.mem_or_eq_of_mem_set hm).imp_right fun (hh : th' = { th with pc := pc }) => hh ▸ hk)
    (fun _ _ hm => .inl hm)

theorem gate_spawn {s : Sys} (x : Thread) (h : GateInv s) (hx : x.pc.held = none) :
    GateTo s { s with ths := s.ths ++ [x] } :=
  gate_step h (fun _ => sameConn_refl _)
    (fun th' hm => by
      rcases List.mem_append.mp hm with hh | hh
      · exact .inl hh
      · rw [List.mem_singleton.mp hh]
        exact .inr (thOk_of_not_held hx))
    (fun _ _ hm => .inl hm)

theorem gate_consumeStep {s : Sys} {t : Nat} {th : Thread} (b : Nat) (miss : Pc) (h : GateInv s)
    (hmiss : thOk s.bs { th with pc := miss }) : GateTo s (consumeStep s t th b miss) := by
  by_cases hm : th.id ∈ (s.bs b).pending
  · rw [consumeStep_hit hm]
    exact gate_setB_setPc b _ _ _ h ⟨rfl, rfl, rfl⟩ trivial fun _ _ hh => by cases hh
  · rw [consumeStep_miss hm]
    exact gate_setPc miss h hmiss

theorem gate_stepThread {s : Sys} (t : Nat) (h : GateInv s) : GateTo s (stepThread s t) := by
  rcases stepThread_cases s t with he | ⟨th, ht, ⟨pc, hn, he⟩ | ⟨b, miss, _, h2, he⟩ | ⟨b, hpc, he⟩⟩ <;> rw [he]
  · exact gateTo_refl h
  · have hth := h.th th (List.mem_of_getElem? ht)
    unfold thOk at hth
    refine gate_setPc pc h ?_
    rcases hn with hn | ⟨b, ⟨_, hc, rfl⟩ | ⟨h1, hc, rfl⟩ | ⟨h1, hc, rfl⟩⟩
    · exact thOk_of_not_held hn
    · exact hc
    · rw [h1] at hth
      exact ⟨hth, hc⟩
    · rw [h1] at hth
      exact ⟨hth.1, hth.2, hc⟩
  · exact gate_consumeStep b miss h (thOk_of_not_held h2)
  · have hth := h.th th (List.mem_of_getElem? ht)
    unfold thOk at hth
    rw [hpc] at hth
    refine gate_setB_setPc b _ _ _ h ⟨rfl, rfl, rfl⟩ trivial fun j i hh => ?_
    cases hh
    exact hth

/-- actions that do not touch a backend connection's nil-ness / closed flag / protocol state -/
def Act.quiet : Act → Bool
  | .setState _ _ | .setClosed _ _ | .setConn _ _ => false
  | _ => true

theorem gate_act {s : Sys} (a : Act) (hq : a.quiet = true) (h : GateInv s) : GateTo s (act s a) := by
  cases a with
  | record b id =>
    exact gate_step h (sameConn_setB s b _ ⟨rfl, rfl, rfl⟩) (fun _ hm => .inl hm)
      (fun j i hm => by
        rcases List.mem_cons.mp hm with hh | hh
        · cases hh
        · exact .inl hh)
  | spawn id => exact gate_spawn _ h rfl
  | spawnAt id pc =>
    show GateTo s (if pc.held.isSome then s else { s with ths := s.ths ++ [⟨id, pc⟩] })
    cases hp : pc.held with
    | some b => rw [if_pos (by simp)]; exact gateTo_refl h
    | none => rw [if_neg (by simp)]; exact gate_spawn ⟨id, pc⟩ h hp
  | step t => exact gate_stepThread t h
  | setCur o => exact ⟨⟨h.th, h.log⟩, fun _ => sameConn_refl _⟩
  | setInfl o => exact ⟨⟨h.th, h.log⟩, fun _ => sameConn_refl _⟩
  | setState b st => cases hq
  | setClosed b c => cases hq
  | setConn b c => cases hq

/-- quiet actions keep the gate invariant and leave every backend's connection fields alone -/
theorem gate_exec : ∀ (as : List Act) {s : Sys}, (∀ a ∈ as, a.quiet = true) → GateInv s → GateTo s (exec s as)
  | [], _, _, h => gateTo_refl h
  | a :: as, _, hq, h =>
    have ⟨h1, e1⟩ := gate_act a (hq a List.mem_cons_self) h
    have ⟨h2, e2⟩ := gate_exec as (fun x hx => hq x (List.mem_cons_of_mem _ hx)) h1
    ⟨h2, fun b => sameConn_trans (e1 b) (e2 b)⟩

/-! ## one reply handled without interference = the function `replyBs`

The reply's thread is the only one, so its steps can be written out on the explicit state. -/

section
variable {bs : Nat → Backend} {cur infl : Option Nat} {id : Int} {log : List Ev} {b : Nat} {pc miss : Pc}

theorem step_done : stepThread ⟨bs, cur, infl, [⟨id, .done⟩], log⟩ 0 = ⟨bs, cur, infl, [⟨id, .done⟩], log⟩ := rfl

theorem step_start :
    stepThread ⟨bs, cur, infl, [⟨id, .start⟩], log⟩ 0 =
      ⟨bs, cur, infl, [⟨id, match cur with | some b => .consume1 b | none => .readInfl⟩], log⟩ := by
  cases cur <;> rfl

theorem step_readInfl :
    stepThread ⟨bs, cur, infl, [⟨id, .readInfl⟩], log⟩ 0 =
      ⟨bs, cur, infl, [⟨id, match infl with | some b => .consume2 b | none => .done⟩], log⟩ := by
  cases infl <;> rfl

theorem step_consume1 :
    stepThread ⟨bs, cur, infl, [⟨id, .consume1 b⟩], log⟩ 0 =
      consumeStep ⟨bs, cur, infl, [⟨id, .consume1 b⟩], log⟩ 0 ⟨id, .consume1 b⟩ b .readInfl := rfl

theorem step_consume2 :
    stepThread ⟨bs, cur, infl, [⟨id, .consume2 b⟩], log⟩ 0 =
      consumeStep ⟨bs, cur, infl, [⟨id, .consume2 b⟩], log⟩ 0 ⟨id, .consume2 b⟩ b .done := rfl

theorem step_miss (h : id ∉ (bs b).pending) :
    consumeStep ⟨bs, cur, infl, [⟨id, pc⟩], log⟩ 0 ⟨id, pc⟩ b miss = ⟨bs, cur, infl, [⟨id, miss⟩], log⟩ :=
  consumeStep_miss (s := ⟨bs, cur, infl, _, log⟩) h

/-- a hit on backend `b`, then the three checks and the write: `b`'s pending ping is answered -/
theorem steps_hit (h : id ∈ (bs b).pending) :
    stepThread (stepThread (stepThread (stepThread
      (consumeStep ⟨bs, cur, infl, [⟨id, pc⟩], log⟩ 0 ⟨id, pc⟩ b miss) 0) 0) 0) 0 =
      ⟨fun j => if j = b then answered (bs b) id else bs j, cur, infl, [⟨id, .done⟩],
        if connOkB (bs b) = true then .fwd b id :: .cons b id :: log else .cons b id :: log⟩ := by
  rw [consumeStep_hit (s := ⟨bs, cur, infl, _, log⟩) h]
  cases h1 : (bs b).hasConn
  · simp [stepThread, Sys.setPc, Sys.setB, connOkB, answered, h1]
  cases h2 : (bs b).closed
  · cases h3 : (bs b).st.fwdOk
    · simp [stepThread, Sys.setPc, Sys.setB, connOkB, answered, h1, h2, h3]
    · simp [stepThread, Sys.setPc, Sys.setB, connOkB, answered, h1, h2, h3]
      funext j
      by_cases hj : j = b <;> simp [hj]
  · simp [stepThread, Sys.setPc, Sys.setB, connOkB, answered, h1, h2]

end

theorem reply_bs (s : Sys) (id : Int) (j : Nat) (hths : s.ths = []) :
    (reply s id).bs j = replyBs s id j := by
  obtain ⟨bs, cur, infl, ths, log⟩ := s
  simp only at hths
  subst hths
  unfold reply replyActs replyBs replyTarget inflTarget
  simp only [List.length_nil, List.replicate, exec, act, List.nil_append, step_start]
  cases cur with
  | none =>
    simp only [step_readInfl]
    cases infl with
    | none => rfl
    | some b =>
      simp only [step_consume2]
      by_cases hm : id ∈ (bs b).pending
      · simp only [steps_hit hm, step_done, if_pos hm]
      · simp only [step_miss hm, step_done, if_neg hm]
  | some c =>
    simp only [step_consume1]
    by_cases hc : id ∈ (bs c).pending
    · simp only [steps_hit hc, step_done, if_pos hc]
    · simp only [step_miss hc, step_readInfl, if_neg hc]
      cases infl with
      | none => rfl
      | some b =>
        simp only [step_consume2]
        by_cases hm : id ∈ (bs b).pending
        · simp only [steps_hit hm, if_pos hm]
        · simp only [step_miss hm, step_done, if_neg hm]

theorem inflTarget_some {s : Sys} {id : Int} {b : Nat} (h : inflTarget s id = some b) :
    id ∈ (s.bs b).pending ∧ s.infl = some b := by
  unfold inflTarget at h
  split at h
  next c hi =>
    split at h
    next hm =>
      cases h
      exact ⟨hm, hi⟩
    · cases h
  · cases h

/-- a reply consumes only where its id is pending, on the current or the in-flight backend -/
theorem replyTarget_some {s : Sys} {id : Int} {b : Nat} (h : replyTarget s id = some b) :
    id ∈ (s.bs b).pending ∧ (s.cur = some b ∨ s.infl = some b) := by
  unfold replyTarget at h
  split at h
  next c hc =>
    split at h
    next hm =>
      cases h
      exact ⟨hm, .inl hc⟩
    · exact (inflTarget_some h).imp_right .inr
  · exact (inflTarget_some h).imp_right .inr

theorem exec_records (b : Nat) : ∀ (ids : List Int) (s : Sys),
    ((exec s (ids.map (Act.record b))).bs b).pending = ids.foldl (lruSet cap) (s.bs b).pending
  | [], _ => rfl
  | k :: ids, s => by
    rw [List.map_cons, exec, exec_records b ids, List.foldl_cons]
    congr 1
    show (if b = b then _ else s.bs b).pending = _
    rw [if_pos rfl]

end Gate.C18
