import GateModel.C19.Spec
/-
C19 — helper lemmas: the first NUL-separated part under appending, Forge tokens start with NUL,
splitting of the forwarding address, hex of the UUID, `netutil.Host` on host:port, UTF-8 decoding.
-/
namespace Gate.C19
open Gate Gate.C19.Spec

theorem beforeNul_append_nul (a t : Bytes) : beforeNul (a ++ NUL :: t) = beforeNul a := by
  unfold beforeNul
  induction a with
  | nil => simp [List.takeWhile]
  | cons x xs ih =>
    simp only [List.cons_append, List.takeWhile_cons]
    split
    · rw [ih]
    · rfl

theorem beforeNul_no_nul (a : Bytes) : NUL ∉ beforeNul a := by
  intro hm
  have := List.all_eq_true.mp (List.all_takeWhile (p := (· ≠ NUL)) (l := a)) NUL hm
  simp at this

theorem beforeNul_of_no_nul (a : Bytes) (h : NUL ∉ a) : beforeNul a = a := by
  unfold beforeNul
  induction a with
  | nil => rfl
  | cons x xs ih =>
    have hx : x ≠ NUL := fun hx => h (by simp [hx])
    have hxs : NUL ∉ xs := fun hm => h (by simp [hm])
    simp only [List.takeWhile_cons, ne_eq, hx, not_false_eq_true, decide_true, if_true, ih hxs]

theorem beforeNul_idem (a : Bytes) : beforeNul (beforeNul a) = beforeNul a :=
  beforeNul_of_no_nul _ (beforeNul_no_nul a)

theorem beforeNul_append_of_no_nul (a t : Bytes) (h : NUL ∉ a) :
    beforeNul (a ++ NUL :: t) = a := by
  rw [beforeNul_append_nul, beforeNul_of_no_nul a h]

/-- `ClearVirtualHost` looks only at the first NUL-separated part -/
theorem clearVirtualHost_congr (a b : Bytes) (h : beforeNul a = beforeNul b) :
    clearVirtualHost a = clearVirtualHost b := by
  unfold clearVirtualHost; rw [h]

theorem modernTokenLoop_error_head (ps : List Bytes) (n : Int) (tok : Bytes)
    (h : modernTokenLoop ps n = .error tok) : ∃ t, tok = NUL :: t := by
  induction ps generalizing n with
  | nil => simp [modernTokenLoop] at h
  | cons pt rest ih =>
    unfold modernTokenLoop at h
    split at h
    · injection h with h; exact ⟨pt ++ [0], by rw [← h]; rfl⟩
    · split at h
      · exact ih _ h
      · exact ih _ h

theorem modernToken_head (hn : Bytes) : ∃ t, modernToken hn = NUL :: t := by
  unfold modernToken
  simp only
  split
  · rename_i tok heq
    split at heq
    · exact modernTokenLoop_error_head _ _ _ heq
    · cases heq
  · split
    · exact ⟨FORGE, rfl⟩
    · exact ⟨FORGE ++ itoa _, rfl⟩

theorem legacyForgeToken_head : legacyForgeToken = NUL :: [70, 77, 76, 0] := by decide

/-- an address is compared through `Except.toOption`, where equality is decidable -/
theorem eq_ok_of_toOption {x : Except Unit Bytes} {v : Bytes} (h : x.toOption = some v) : x = .ok v := by
  cases x with
  | error _ => cases h
  | ok a => exact congrArg Except.ok (Option.some.inj h)

theorem forwardedOrHost_not_used (e : Env) (vHost : Bytes) (h : usedForwarding e = false) :
    forwardedOrHost e vHost = vHost := by
  unfold forwardedOrHost; simp [h]

/-- with no `HandshakeAddresser` in sight, both forwarding modes send the forwarding address as it is -/
theorem serverAddress_forwarding (e : Env) (h1 : e.hook1Seen = none)
    (hm : e.mode = .legacy ∨ e.mode = .bungeeguard) :
    usedForwarding e = true ∧
    serverAddress e = .ok (forwardingAddress e (decide (e.mode = .bungeeguard))) := by
  rcases hm with hm | hm
  · simp [serverAddress, handshakeAddr, usedForwarding, afterHook1, forwardedOrHost, h1, hm,
      createLegacyForwardingAddress]
  · simp [serverAddress, handshakeAddr, usedForwarding, afterHook1, forwardedOrHost, h1, hm,
      createBungeeGuardForwardingAddress]

/-- contract of a `HandshakeAddresser`: keeps the first NUL-separated part of what it is given -/
def KeepsFirst (f : Bytes → Bytes) : Prop := ∀ v, beforeNul (f v) = beforeNul v
/-- contract of a `BackendHandshakeAddresser` -/
def KeepsFirst2 (g : Bytes → Except Unit Bytes) : Prop := ∀ b v, g b = .ok v → beforeNul v = beforeNul b

def HooksKeepFirst (e : Env) : Prop :=
  (∀ f, e.hook1Seen = some f → KeepsFirst f) ∧ (∀ g, e.hook2 = some g → KeepsFirst2 g)

theorem baseHost_first (v : Bytes) (t : ConnType) : beforeNul (backendHandshakeBaseHost v t) = beforeNul v := by
  unfold backendHandshakeBaseHost
  split
  · exact beforeNul_idem v
  · rfl

theorem afterHook2_first (e : Env) (vHost v2 : Bytes) (hnf : usedForwarding e = false)
    (hk : HooksKeepFirst e) (h : afterHook2 e vHost = .ok v2) : beforeNul v2 = beforeNul vHost := by
  have h1 : beforeNul (afterHook1 e vHost) = beforeNul vHost := by
    unfold afterHook1
    rw [forwardedOrHost_not_used e vHost hnf]
    cases hh : e.hook1Seen with
    | some f => exact hk.1 f hh vHost
    | none => rfl
  unfold afterHook2 at h
  cases hg : e.hook2 with
  | some g =>
    rw [hg] at h
    rw [hk.2 g hg _ _ h, baseHost_first, h1]
  | none =>
    rw [hg] at h
    injection h with h; subst h; exact h1

theorem splitOn1_ne_nil (sep : UInt8) (s : Bytes) : splitOn1 sep s ≠ [] := by
  induction s with
  | nil => simp [splitOn1]
  | cons b r ih =>
    unfold splitOn1
    split
    · simp
    · split
      · simp
      · simp

theorem splitOn1_cons_ne (sep b : UInt8) (r p : Bytes) (ps : List Bytes) (hb : b ≠ sep)
    (h : splitOn1 sep r = p :: ps) : splitOn1 sep (b :: r) = (b :: p) :: ps := by
  rw [splitOn1, if_neg hb, h]

theorem splitOn1_cons_eq (sep : UInt8) (r : Bytes) : splitOn1 sep (sep :: r) = [] :: splitOn1 sep r := by
  rw [splitOn1]; simp

theorem splitOn1_no_sep (sep : UInt8) (s : Bytes) (h : sep ∉ s) : splitOn1 sep s = [s] := by
  induction s with
  | nil => rfl
  | cons b r ih =>
    have hb : b ≠ sep := fun hb => h (by simp [hb])
    have hr : sep ∉ r := fun hr => h (by simp [hr])
    exact splitOn1_cons_ne _ _ _ _ _ hb (ih hr)

theorem splitOn1_append (sep : UInt8) (a rest : Bytes) (h : sep ∉ a) :
    splitOn1 sep (a ++ sep :: rest) = a :: splitOn1 sep rest := by
  induction a with
  | nil => simp [splitOn1_cons_eq]
  | cons b r ih =>
    have hb : b ≠ sep := fun hb => h (by simp [hb])
    have hr : sep ∉ r := fun hr => h (by simp [hr])
    simp only [List.cons_append]
    exact splitOn1_cons_ne _ _ _ _ _ hb (ih hr)

theorem split_four (a b c d : Bytes) (ha : NUL ∉ a) (hb : NUL ∉ b) (hc : NUL ∉ c) (hd : NUL ∉ d) :
    splitOn1 NUL (a ++ [0] ++ b ++ [0] ++ c ++ [0] ++ d) = [a, b, c, d] := by
  have : a ++ [0] ++ b ++ [0] ++ c ++ [0] ++ d = a ++ NUL :: (b ++ NUL :: (c ++ NUL :: d)) := by
    simp [NUL]
  rw [this, splitOn1_append _ _ _ ha, splitOn1_append _ _ _ hb, splitOn1_append _ _ _ hc,
    splitOn1_no_sep _ _ hd]

theorem nibble_lt (b : UInt8) : b.toNat / 16 < 16 ∧ b.toNat % 16 < 16 := by
  have := b.toNat_lt
  omega

theorem hexVal_hexLower (n : Nat) (h : n < 16) : hexVal (hexLower n) = some n := by
  have : ∀ m : Fin 16, hexVal (hexLower m.val) = some m.val := by decide
  exact this ⟨n, h⟩

theorem hexLower_ne_nul (n : Nat) (h : n < 16) : hexLower n ≠ NUL := by
  have : ∀ m : Fin 16, hexLower m.val ≠ NUL := by decide
  exact this ⟨n, h⟩

theorem undashed_no_nul (id : Bytes) : NUL ∉ undashed id := by
  unfold undashed
  intro h
  rw [List.mem_flatMap] at h
  obtain ⟨b, _, hb⟩ := h
  simp only [List.mem_cons, List.not_mem_nil, or_false] at hb
  obtain ⟨h1, h2⟩ := nibble_lt b
  rcases hb with hb | hb
  · exact hexLower_ne_nul _ h1 hb.symm
  · exact hexLower_ne_nul _ h2 hb.symm

theorem undashed_length (id : Bytes) : (undashed id).length = 2 * id.length := by
  unfold undashed
  induction id with
  | nil => rfl
  | cons b r ih => simp only [List.flatMap_cons, List.length_append, List.length_cons, List.length_nil, ih]; omega

theorem unhex_undashed (id : Bytes) : unhexPairs (undashed id) = some id := by
  unfold undashed
  induction id with
  | nil => rfl
  | cons b r ih =>
    obtain ⟨h1, h2⟩ := nibble_lt b
    simp only [List.flatMap_cons, List.cons_append, List.nil_append, unhexPairs,
      hexVal_hexLower _ h1, hexVal_hexLower _ h2, ih]
    congr 2
    have : b.toNat / 16 * 16 + b.toNat % 16 = b.toNat := by omega
    rw [this]
    exact UInt8.ofNat_toNat

theorem lastIndexOf_none (c : UInt8) (s : Bytes) (h : c ∉ s) : lastIndexOf c s = none := by
  induction s with
  | nil => rfl
  | cons b r ih =>
    have hb : b ≠ c := fun hb => h (by simp [hb])
    have hr : c ∉ r := fun hr => h (by simp [hr])
    simp [lastIndexOf, ih hr, hb]

theorem lastIndexOf_append (c : UInt8) (a p : Bytes) (hp : c ∉ p) :
    lastIndexOf c (a ++ c :: p) = some a.length := by
  induction a with
  | nil => simp [lastIndexOf, lastIndexOf_none c p hp]
  | cons x a ih => simp [lastIndexOf, ih]

theorem hostOf_host_port (sa port : Bytes) (h1 : COLON ∉ sa) (h2 : LBR ∉ sa) (h3 : RBR ∉ sa)
    (p1 : COLON ∉ port) (p2 : LBR ∉ port) (p3 : RBR ∉ port) :
    hostOf (sa ++ COLON :: port) = sa := by
  have hhead : (sa ++ COLON :: port).head? ≠ some LBR := by
    cases sa with
    | nil => simp [COLON, LBR]
    | cons x xs =>
      simp only [List.cons_append, List.head?_cons, ne_eq, Option.some.injEq]
      intro hx; exact h2 (by simp [hx])
  have hl : LBR ∉ sa ++ COLON :: port := by
    simp only [List.mem_append, List.mem_cons, not_or]
    exact ⟨h2, by decide, p2⟩
  have hr : RBR ∉ sa ++ COLON :: port := by
    simp only [List.mem_append, List.mem_cons, not_or]
    exact ⟨h3, by decide, p3⟩
  unfold hostOf splitHostPort
  rw [lastIndexOf_append COLON sa port p1]
  simp only [hhead, if_false, List.take_left']
  simp [h1, hl, hr]

/-- Go's `first` table read backwards: what a leader's entry says about the leader -/
theorem utf8Lead_shape {x size lo hi : Nat} (h : utf8Lead x = some (size, lo, hi)) :
    0x80 ≤ lo ∧ hi ≤ 0xBF ∧
    ((size = 2 ∧ 0xC2 ≤ x ∧ x ≤ 0xDF) ∨ (size = 3 ∧ 0xE0 ≤ x ∧ x ≤ 0xEF ∧ (x = 0xE0 → 0xA0 ≤ lo)) ∨
     (size = 4 ∧ 0xF0 ≤ x ∧ x ≤ 0xF4 ∧ (x = 0xF0 → 0x90 ≤ lo))) := by
  unfold utf8Lead at h
  by_cases c1 : 0xC2 ≤ x ∧ x ≤ 0xDF
  · rw [if_pos c1] at h
    cases h
    omega
  rw [if_neg c1] at h
  by_cases c2 : x = 0xE0
  · rw [if_pos c2] at h
    cases h
    omega
  rw [if_neg c2] at h
  by_cases c3 : x = 0xED
  · rw [if_pos c3] at h
    cases h
    omega
  rw [if_neg c3] at h
  by_cases c4 : 0xE1 ≤ x ∧ x ≤ 0xEF
  · rw [if_pos c4] at h
    cases h
    omega
  rw [if_neg c4] at h
  by_cases c5 : x = 0xF0
  · rw [if_pos c5] at h
    cases h
    omega
  rw [if_neg c5] at h
  by_cases c6 : x = 0xF4
  · rw [if_pos c6] at h
    cases h
    omega
  rw [if_neg c6] at h
  by_cases c7 : 0xF1 ≤ x ∧ x ≤ 0xF3
  · rw [if_pos c7] at h
    cases h
    omega
  rw [if_neg c7] at h
  cases h

theorem contOk_high (lo hi : Nat) (cs : Bytes) (hlo : 0x80 ≤ lo) (h : contOk lo hi cs = true) :
    ∀ x ∈ cs, 0x80 ≤ x.toNat := by
  cases cs with
  | nil => simp
  | cons c1 t =>
    simp only [contOk, Bool.and_eq_true, decide_eq_true_eq, List.all_eq_true] at h
    intro x hx
    simp only [List.mem_cons] at hx
    rcases hx with rfl | hx
    · omega
    · exact (h.2 x hx).1

theorem decodeRune_some {b : UInt8} {r : Bytes} {c size : Nat} (h : decodeRune (b :: r) = some (c, size)) :
    ∃ lo hi, utf8Lead b.toNat = some (size, lo, hi) ∧ (r.take (size - 1)).length = size - 1 ∧
      contOk lo hi (r.take (size - 1)) = true ∧
      c = (r.take (size - 1)).foldl (fun acc c => acc * 64 + (c.toNat - 0x80))
        (b.toNat - if size = 2 then 0xC0 else if size = 3 then 0xE0 else 0xF0) := by
  unfold decodeRune at h
  simp only at h
  cases hl : utf8Lead b.toNat with
  | none =>
    rw [hl] at h
    cases h
  | some t =>
    obtain ⟨sz, lo, hi⟩ := t
    rw [hl] at h
    simp only at h
    by_cases hc : (r.take (sz - 1)).length = sz - 1 ∧ contOk lo hi (r.take (sz - 1)) = true
    · rw [if_pos hc] at h
      cases h
      exact ⟨lo, hi, rfl, hc.1, hc.2, rfl⟩
    · rw [if_neg hc] at h
      cases h

/-- a decoded rune spans `size` bytes (2 to 4), all of them ≥ 0x80 -/
theorem decodeRune_high (b : UInt8) (r : Bytes) (c size : Nat) (h : decodeRune (b :: r) = some (c, size)) :
    2 ≤ size ∧ size ≤ 4 ∧ (r.take (size - 1)).length = size - 1 ∧
    (b :: r).take size = b :: r.take (size - 1) ∧ ∀ x ∈ b :: r.take (size - 1), 0x80 ≤ x.toNat := by
  obtain ⟨lo, hi, hl, hlen, hok, _⟩ := decodeRune_some h
  obtain ⟨hlo, _, hs⟩ := utf8Lead_shape hl
  refine ⟨by omega, by omega, hlen, ?_, ?_⟩
  · obtain ⟨k, rfl⟩ : ∃ k, size = k + 1 := ⟨size - 1, by omega⟩
    rfl
  · intro x hx
    rcases List.mem_cons.mp hx with rfl | hx
    · omega
    · exact contOk_high lo hi _ hlo hok x hx

end Gate.C19
