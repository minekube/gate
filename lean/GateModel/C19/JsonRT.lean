import GateModel.C19.Lemmas
/-
C19 — the JSON text gate writes for a property list is read back exactly by the reference reader
(for every list of valid-UTF-8 strings), and contains no NUL.
-/
namespace Gate.C19
open Gate Gate.C19.Spec

theorem read_quote (f : Nat) (rest : Bytes) : readStrBody (f + 1) (34 :: rest) = some ([], rest) := by
  rw [readStrBody.eq_def]; simp

theorem read_plain (b : UInt8) (h20 : 0x20 ≤ b.toNat) (h34 : b ≠ 34) (h92 : b ≠ 92) (f : Nat)
    (tail s rest : Bytes) (h : readStrBody f tail = some (s, rest)) :
    readStrBody (f + 1) (b :: tail) = some (b :: s, rest) := by
  rw [readStrBody.eq_def]
  have : ¬ (b.toNat < 0x20) := by omega
  simp [h34, h92, h, this]

theorem read_simple (e c : UInt8) (hne : e ≠ 117) (hec : unescape1 e = some c)
    (f : Nat) (tail s rest : Bytes) (h : readStrBody f tail = some (s, rest)) :
    readStrBody (f + 1) (92 :: e :: tail) = some (c :: s, rest) := by
  rw [readStrBody.eq_def]
  simp [hne, hec, h]

theorem read_u (hs : Bytes) (cp : Nat) (tail : Bytes) (u : Bytes)
    (e1 : hex4 (hs ++ tail) = some (cp, tail)) (eu : utf8Encode cp = some u)
    (f : Nat) (s rest : Bytes) (h : readStrBody f tail = some (s, rest)) :
    readStrBody (f + 1) (92 :: 117 :: (hs ++ tail)) = some (u ++ s, rest) := by
  rw [readStrBody.eq_def]
  simp [e1, eu, h]

/-- a block of bytes ≥ 0x80 is copied verbatim -/
theorem read_high (blk : Bytes) (hb : ∀ x ∈ blk, 0x80 ≤ x.toNat) (f : Nat) (tail s rest : Bytes)
    (h : readStrBody f tail = some (s, rest)) :
    readStrBody (f + blk.length) (blk ++ tail) = some (blk ++ s, rest) := by
  induction blk with
  | nil => simpa using h
  | cons x xs ih =>
    have hx : 0x80 ≤ x.toNat := hb x (by simp)
    have h34 : x ≠ 34 := by intro hh; subst hh; simp at hx
    have h92 : x ≠ 92 := by intro hh; subst hh; simp at hx
    have := ih (fun y hy => hb y (by simp [hy]))
    simp only [List.length_cons, List.cons_append]
    rw [show f + (xs.length + 1) = (f + xs.length) + 1 by omega]
    exact read_plain x (by omega) h34 h92 _ _ _ _ this

theorem hex4_esc (b : UInt8) (tail : Bytes) :
    hex4 ([48, 48, hexLower (b.toNat / 16), hexLower (b.toNat % 16)] ++ tail) = some (b.toNat, tail) := by
  obtain ⟨h1, h2⟩ := nibble_lt b
  have h0 : hexVal 48 = some 0 := by decide
  simp only [List.cons_append, List.nil_append, hex4, h0, hexVal_hexLower _ h1, hexVal_hexLower _ h2]
  congr 2
  omega

theorem utf8Encode_ascii (b : UInt8) (hb : b.toNat < 0x80) : utf8Encode b.toNat = some [b] := by
  unfold utf8Encode
  rw [if_pos hb]
  simp

/-- the three ways `appendString` writes an ASCII byte: a two-character escape, `\u00XX`, or the byte itself -/
theorem jsonEscAscii_cases (b : UInt8) :
    (∃ e, e ≠ 117 ∧ unescape1 e = some b ∧ jsonEscAscii b = [92, e]) ∨
    jsonEscAscii b = [92, 117, 48, 48, hexLower (b.toNat / 16), hexLower (b.toNat % 16)] ∨
    (0x20 ≤ b.toNat ∧ b ≠ 34 ∧ b ≠ 92 ∧ jsonEscAscii b = [b]) := by
  unfold jsonEscAscii
  by_cases c1 : b = 92 ∨ b = 34
  · rw [if_pos c1]
    rcases c1 with rfl | rfl
    · exact .inl ⟨92, by decide, by decide, rfl⟩
    · exact .inl ⟨34, by decide, by decide, rfl⟩
  rw [if_neg c1]
  by_cases c2 : b = 8
  · subst c2
    exact .inl ⟨98, by decide, by decide, rfl⟩
  rw [if_neg c2]
  by_cases c3 : b = 12
  · subst c3
    exact .inl ⟨102, by decide, by decide, rfl⟩
  rw [if_neg c3]
  by_cases c4 : b = 10
  · subst c4
    exact .inl ⟨110, by decide, by decide, rfl⟩
  rw [if_neg c4]
  by_cases c5 : b = 13
  · subst c5
    exact .inl ⟨114, by decide, by decide, rfl⟩
  rw [if_neg c5]
  by_cases c6 : b = 9
  · subst c6
    exact .inl ⟨116, by decide, by decide, rfl⟩
  rw [if_neg c6]
  by_cases c7 : b.toNat < 0x20 ∨ b = 60 ∨ b = 62 ∨ b = 38
  · rw [if_pos c7]
    exact .inr (.inl rfl)
  · rw [if_neg c7]
    simp only [not_or] at c1 c7
    exact .inr (.inr ⟨by omega, c1.2, c1.1, rfl⟩)

theorem read_esc_ascii (b : UInt8) (hb : b.toNat < 0x80) (f : Nat) (tail s rest : Bytes)
    (h : readStrBody f tail = some (s, rest)) :
    readStrBody (f + 1) (jsonEscAscii b ++ tail) = some (b :: s, rest) := by
  rcases jsonEscAscii_cases b with ⟨e, hne, hec, hj⟩ | hj | ⟨h20, h34, h92, hj⟩
  · rw [hj]
    exact read_simple e b hne hec f tail s rest h
  · rw [hj]
    exact read_u _ b.toNat tail [b] (hex4_esc b tail) (utf8Encode_ascii b hb) f s rest h
  · rw [hj]
    exact read_plain b h20 h34 h92 f tail s rest h

theorem jsonEscAscii_length_pos (b : UInt8) : 1 ≤ (jsonEscAscii b).length := by
  rcases jsonEscAscii_cases b with ⟨e, _, _, hj⟩ | hj | ⟨_, _, _, hj⟩ <;> rw [hj] <;> simp

theorem len_two {α} (l : List α) (h : l.length = 2) : ∃ a b, l = [a, b] := by
  match l, h with
  | [a, b], _ => exact ⟨a, b, rfl⟩

theorem len_three {α} (l : List α) (h : l.length = 3) : ∃ a b c, l = [a, b, c] := by
  match l, h with
  | [a, b, c], _ => exact ⟨a, b, c, rfl⟩

theorem u8_eq_of_toNat (a : UInt8) (n : Nat) (h : a.toNat = n) (hn : n < 256) : a = UInt8.ofNat n := by
  apply UInt8.toNat_inj.mp
  rw [h]; simp [Nat.mod_eq_of_lt hn]

/-- U+2028 / U+2029 can only have been decoded from their three-byte encodings -/
theorem decodeRune_2028 (b : UInt8) (r : Bytes) (c size : Nat) (h : decodeRune (b :: r) = some (c, size))
    (hc : c = 0x2028 ∨ c = 0x2029) :
    size = 3 ∧ b :: r.take (size - 1) = [0xE2, 0x80, UInt8.ofNat (0x80 + c % 64)] := by
  obtain ⟨lo, hi, hl, hlen, hok, hval⟩ := decodeRune_some h
  obtain ⟨hlo, hhi, hshape⟩ := utf8Lead_shape hl
  rcases hshape with ⟨rfl, h1, h2⟩ | ⟨rfl, h1, h2, h3⟩ | ⟨rfl, h1, h2, h3⟩
  · -- two bytes: too small
    obtain ⟨c1, hcs⟩ := List.length_eq_one_iff.mp hlen
    rw [hcs] at hok hval
    simp only [contOk, Bool.and_eq_true, decide_eq_true_eq, List.all_nil, Bool.and_true] at hok
    simp only [List.foldl_cons, List.foldl_nil, if_true] at hval
    omega
  · obtain ⟨c1, c2, hcs⟩ := len_two _ hlen
    rw [hcs] at hok hval ⊢
    simp only [contOk, Bool.and_eq_true, decide_eq_true_eq, List.all_cons, List.all_nil, Bool.and_true] at hok
    simp only [List.foldl_cons, List.foldl_nil, show ¬ ((3 : Nat) = 2) by decide, if_false, if_true] at hval
    obtain ⟨hb, h1', h2'⟩ : b.toNat = 0xE2 ∧ c1.toNat = 0x80 ∧ c2.toNat = 0x80 + c % 64 := by omega
    refine ⟨rfl, ?_⟩
    rw [u8_eq_of_toNat b _ hb (by decide), u8_eq_of_toNat c1 _ h1' (by decide),
      u8_eq_of_toNat c2 _ h2' (by omega)]
    rfl
  · -- four bytes: too large
    have hc' : c < 0x10000 := by omega
    clear hc
    obtain ⟨c1, c2, c3, hcs⟩ := len_three _ hlen
    rw [hcs] at hok hval
    simp only [contOk, Bool.and_eq_true, decide_eq_true_eq, List.all_cons, List.all_nil, Bool.and_true] at hok
    simp only [List.foldl_cons, List.foldl_nil, show ¬ ((4 : Nat) = 2) by decide,
      show ¬ ((4 : Nat) = 3) by decide, if_false] at hval
    omega

theorem hex4_202x (c : Nat) (hc : c = 0x2028 ∨ c = 0x2029) (tail : Bytes) :
    hex4 ([50, 48, 50, hexLower (c % 16)] ++ tail) = some (c, tail) := by
  rcases hc with rfl | rfl <;> rfl

theorem utf8Encode_202x (c : Nat) (hc : c = 0x2028 ∨ c = 0x2029) :
    utf8Encode c = some [0xE2, 0x80, UInt8.ofNat (0x80 + c % 64)] := by
  rcases hc with rfl | rfl <;> rfl

theorem jsonStrBody_ascii (n : Nat) (b : UInt8) (r : Bytes) (hb : b.toNat < 0x80) :
    jsonStrBody (n + 1) (b :: r) = jsonEscAscii b ++ jsonStrBody n r := by
  rw [jsonStrBody, if_pos hb]

theorem jsonStrBody_invalid (n : Nat) (b : UInt8) (r : Bytes) (hb : ¬ b.toNat < 0x80)
    (hd : decodeRune (b :: r) = none) :
    jsonStrBody (n + 1) (b :: r) = str "\\ufffd" ++ jsonStrBody n r := by
  rw [jsonStrBody, if_neg hb, hd]

theorem jsonStrBody_rune (n : Nat) (b : UInt8) (r : Bytes) (c size : Nat) (hb : ¬ b.toNat < 0x80)
    (hd : decodeRune (b :: r) = some (c, size)) :
    jsonStrBody (n + 1) (b :: r) =
      (if c = 0x2028 ∨ c = 0x2029 then [92, 117, 50, 48, 50, hexLower (c % 16)] else (b :: r).take size) ++
        jsonStrBody n (r.drop (size - 1)) := by
  rw [jsonStrBody, if_neg hb, hd]
  by_cases h28 : c = 0x2028 ∨ c = 0x2029
  · simp only [if_pos h28]
  · simp only [if_neg h28]

theorem jsonStr_read (n : Nat) : ∀ (s : Bytes), s.length ≤ n → validUtf8 n s = true →
    ∀ (f : Nat) (rest : Bytes), (jsonStrBody n s).length + 1 ≤ f →
      readStrBody f (jsonStrBody n s ++ 34 :: rest) = some (s, rest) := by
  induction n with
  | zero =>
    intro s hs _ f rest hf
    have : s = [] := List.eq_nil_of_length_eq_zero (by omega)
    subst this
    obtain ⟨f', rfl⟩ : ∃ f', f = f' + 1 := ⟨f - 1, by omega⟩
    exact read_quote f' rest
  | succ n ih =>
    intro s hs hv f rest hf
    cases s with
    | nil =>
      obtain ⟨f', rfl⟩ : ∃ f', f = f' + 1 := ⟨f - 1, by omega⟩
      exact read_quote f' rest
    | cons b r =>
      have hr : r.length ≤ n := Nat.le_of_succ_le_succ hs
      by_cases hb : b.toNat < 0x80
      · rw [jsonStrBody_ascii n b r hb, List.length_append] at hf
        rw [validUtf8, if_pos hb] at hv
        have hpos := jsonEscAscii_length_pos b
        obtain ⟨f', rfl⟩ : ∃ f', f = f' + 1 := ⟨f - 1, by omega⟩
        rw [jsonStrBody_ascii n b r hb, List.append_assoc]
        exact read_esc_ascii b hb f' _ r rest (ih r hr hv f' rest (by omega))
      · rw [validUtf8, if_neg hb] at hv
        cases hd : decodeRune (b :: r) with
        | none =>
          rw [hd] at hv
          cases hv
        | some p =>
          obtain ⟨c, size⟩ := p
          rw [hd] at hv
          simp only at hv
          obtain ⟨hs2, hs4, hlen, htake, hblk⟩ := decodeRune_high b r c size hd
          have hr' : (r.drop (size - 1)).length ≤ n := by
            rw [List.length_drop]
            omega
          have hsplit : r.take (size - 1) ++ r.drop (size - 1) = r := List.take_append_drop _ _
          rw [jsonStrBody_rune n b r c size hb hd, List.length_append] at hf
          rw [jsonStrBody_rune n b r c size hb hd, List.append_assoc]
          by_cases h28 : c = 0x2028 ∨ c = 0x2029
          · -- the escape is read back as the three bytes it was decoded from
            rw [if_pos h28] at hf ⊢
            obtain ⟨f', rfl⟩ : ∃ f', f = f' + 1 := ⟨f - 1, by omega⟩
            have hrec := ih _ hr' hv f' rest (by
              simp only [List.length_cons, List.length_nil] at hf
              omega)
            have := read_u [50, 48, 50, hexLower (c % 16)] c _ _
              (hex4_202x c h28 _) (utf8Encode_202x c h28) f' _ rest hrec
            rw [← (decodeRune_2028 b r c size hd h28).2] at this
            simp only [List.cons_append, hsplit] at this
            exact this
          · rw [if_neg h28, htake] at hf ⊢
            obtain ⟨f0, rfl⟩ : ∃ f0, f = f0 + (b :: r.take (size - 1)).length := ⟨f - (b :: r.take (size - 1)).length, by omega⟩
            have := read_high _ hblk f0 _ _ rest (ih _ hr' hv f0 rest (by omega))
            simp only [List.cons_append, hsplit] at this
            exact this

def validStr (s : Bytes) : Prop := validUtf8 s.length s = true

theorem validStr_fuel (s : Bytes) (h : validUtf8 s.length s = true) : validStr s := h

theorem skipWs_nonws (b : UInt8) (r : Bytes) (h : isWs b = false) : skipWs (b :: r) = b :: r := by
  simp [skipWs, List.dropWhile, h]

theorem readString_json (s rest : Bytes) (hv : validStr s) :
    readString (jsonString s ++ rest) = some (s, rest) := by
  unfold readString jsonString
  simp only [List.cons_append, List.nil_append, List.append_assoc]
  rw [skipWs_nonws 34 _ (by decide)]
  simp only
  exact jsonStr_read s.length s (Nat.le_refl _) hv _ rest (by simp only [List.length_append, List.length_cons]; omega)

theorem readMembers_last (k v rest : Bytes) (hk : validStr k) (hv : validStr v) (f : Nat) (hf : 1 ≤ f) :
    readMembers f (jsonString k ++ 58 :: (jsonString v ++ 125 :: rest)) = some ([(k, v)], rest) := by
  obtain ⟨f, rfl⟩ := Nat.exists_eq_add_of_le' hf
  rw [readMembers, readString_json k _ hk]
  simp only
  rw [skipWs_nonws 58 _ (by decide)]
  simp only
  rw [readString_json v _ hv]
  simp only
  rw [skipWs_nonws 125 _ (by decide)]
  rfl

theorem readMembers_cons (k v tail rest : Bytes) (ms : List (Bytes × Bytes)) (n : Nat)
    (hk : validStr k) (hv : validStr v) (h : ∀ f, n ≤ f → readMembers f tail = some (ms, rest))
    (f : Nat) (hf : n + 1 ≤ f) :
    readMembers f (jsonString k ++ 58 :: (jsonString v ++ 44 :: tail)) = some ((k, v) :: ms, rest) := by
  obtain ⟨f, rfl⟩ := Nat.exists_eq_add_of_le' (Nat.le_trans (Nat.le_add_left 1 n) hf)
  rw [readMembers, readString_json k _ hk]
  simp only
  rw [skipWs_nonws 58 _ (by decide)]
  simp only
  rw [readString_json v _ hv]
  simp only
  rw [skipWs_nonws 44 _ (by decide)]
  simp only
  rw [h f (Nat.le_of_succ_le_succ hf)]

def kName : Bytes := str "name"
def kValue : Bytes := str "value"
def kSig : Bytes := str "signature"

theorem validStr_keys : validStr kName ∧ validStr kValue ∧ validStr kSig := by
  refine ⟨?_, ?_, ?_⟩ <;> (unfold validStr; decide +kernel)

/-- the text of one property, spelled with the key strings as JSON strings -/
theorem jsonProperty_eq (p : Property) :
    jsonProperty p = 123 :: (jsonString kName ++ 58 :: (jsonString p.name ++ 44 ::
      (jsonString kValue ++ 58 :: (jsonString p.value ++
        (if p.signature.isEmpty then [125]
         else 44 :: (jsonString kSig ++ 58 :: (jsonString p.signature ++ [125]))))))) := by
  have e1 : str "{\"name\":" = 123 :: (jsonString kName ++ [58]) := by decide +kernel
  have e2 : str ",\"value\":" = 44 :: (jsonString kValue ++ [58]) := by decide +kernel
  have e3 : str ",\"signature\":" = 44 :: (jsonString kSig ++ [58]) := by decide +kernel
  have e4 : str "}" = [125] := by decide +kernel
  unfold jsonProperty
  rw [e1, e2, e3, e4]
  cases p.signature.isEmpty <;>
    simp only [List.cons_append, List.append_assoc, List.nil_append, List.append_nil, if_true, if_false,
      Bool.false_eq_true]

theorem jsonString_cons (s : Bytes) : ∃ t, jsonString s = 34 :: t :=
  ⟨jsonStrBody s.length s ++ [34], rfl⟩

theorem jsonString_length (s : Bytes) : 2 ≤ (jsonString s).length := by
  simp [jsonString]

theorem readObject_of_members (body rest : Bytes) (ms : List (Bytes × Bytes)) (t : Bytes)
    (hb : body = 34 :: t) (h : readMembers body.length body = some (ms, rest)) :
    readObject (123 :: body) = some (ms, rest) := by
  unfold readObject
  rw [skipWs_nonws 123 _ (by decide)]
  simp only
  rw [hb, skipWs_nonws 34 _ (by decide)]
  rw [hb] at h
  exact h

theorem readObject_property (p : Property) (rest : Bytes) (hp : propOk p = true) :
    readObject (jsonProperty p ++ rest) =
      some ((kName, p.name) :: (kValue, p.value) ::
        (if p.signature.isEmpty then [] else [(kSig, p.signature)]), rest) := by
  simp only [propOk, Bool.and_eq_true] at hp
  obtain ⟨⟨hn, hv⟩, hs⟩ := hp
  obtain ⟨k1, k2, k3⟩ := validStr_keys
  obtain ⟨t, ht⟩ := jsonString_cons kName
  have l1 := jsonString_length p.name
  have l2 := jsonString_length kValue
  rw [jsonProperty_eq]
  cases hse : p.signature.isEmpty with
  | true =>
    simp only [if_true, List.cons_append, List.append_assoc, List.nil_append]
    refine readObject_of_members _ rest _ _ (by rw [ht]; rfl) ?_
    exact readMembers_cons kName p.name _ rest _ 1 k1 hn (readMembers_last kValue p.value rest k2 hv) _ (by
      simp only [List.length_append, List.length_cons]
      omega)
  | false =>
    simp only [Bool.false_eq_true, if_false, List.cons_append, List.append_assoc, List.nil_append]
    refine readObject_of_members _ rest _ _ (by rw [ht]; rfl) ?_
    exact readMembers_cons kName p.name _ rest _ 2 k1 hn
      (readMembers_cons kValue p.value _ rest _ 1 k2 hv (readMembers_last kSig p.signature rest k3 hs)) _ (by
      simp only [List.length_append, List.length_cons]
      omega)

theorem toProperty_members (p : Property) :
    toProperty ((kName, p.name) :: (kValue, p.value) ::
      (if p.signature.isEmpty then [] else [(kSig, p.signature)])) = some p := by
  have n1 : (kName = str "name") = True := eq_true rfl
  have n3 : (kValue = str "value") = True := eq_true rfl
  have n4 : (kName = str "value") = False := eq_false (by decide +kernel)
  have n5 : (kName = str "signature") = False := eq_false (by decide +kernel)
  have n6 : (kValue = str "signature") = False := eq_false (by decide +kernel)
  have n7 : (kSig = str "signature") = True := eq_true rfl
  cases hse : p.signature.isEmpty with
  | true =>
    have : p.signature = [] := List.isEmpty_iff.mp hse
    simp only [toProperty, lookup, List.find?, n1, n3, n4, n5, n6, decide_true, decide_false, if_true,
      Option.map_some, Option.map_none, Option.getD_none, ← this]
  | false =>
    simp only [toProperty, lookup, List.find?, n1, n3, n4, n5, n6, n7, decide_true, decide_false,
      Bool.false_eq_true, if_false, Option.map_some, Option.getD_some]

theorem jsonProperty_length (p : Property) : 1 ≤ (jsonProperty p).length := by
  rw [jsonProperty_eq]; simp

/-- a non-empty array body -/
theorem readElems_list (ps : List Property) (hne : ps ≠ []) (hp : ∀ p ∈ ps, propOk p = true) :
    ∀ (f : Nat) (rest : Bytes), ps.length ≤ f →
      readElems f (joinComma (ps.map jsonProperty) ++ 93 :: rest) = some (ps, rest) := by
  induction ps with
  | nil => exact absurd rfl hne
  | cons p t ih =>
    intro f rest hf
    obtain ⟨f', rfl⟩ : ∃ f', f = f' + 1 := ⟨f - 1, by simp only [List.length_cons] at hf; omega⟩
    cases t with
    | nil =>
      simp only [List.map_cons, List.map_nil, joinComma]
      rw [readElems, readObject_property p _ (hp p (by simp))]
      simp only [toProperty_members]
      rw [skipWs_nonws 93 _ (by decide)]
      rfl
    | cons q t' =>
      have hrec := ih (by simp) (fun x hx => hp x (by simp [hx])) f' rest
        (by simp only [List.length_cons] at hf ⊢; omega)
      simp only [List.map_cons, joinComma, List.append_assoc, List.cons_append, List.nil_append] at hrec ⊢
      rw [readElems, readObject_property p _ (hp p (by simp))]
      simp only [toProperty_members]
      rw [skipWs_nonws 44 _ (by decide)]
      simp only
      rw [hrec]

theorem joinComma_length (xs : List Bytes) (h : ∀ x ∈ xs, 1 ≤ x.length) : xs.length ≤ (joinComma xs).length + 1 := by
  induction xs with
  | nil => simp
  | cons x t ih =>
    cases t with
    | nil => simp [joinComma]
    | cons y t' =>
      have := ih (fun z hz => h z (by simp [hz]))
      have hx := h x (by simp)
      simp only [joinComma, List.length_append, List.length_cons, List.length_nil] at this ⊢
      omega

theorem joinComma_head (p : Property) (t : List Property) :
    ∃ u, joinComma ((p :: t).map jsonProperty) = 123 :: u := by
  cases t with
  | nil => exact ⟨_, by simp only [List.map_cons, List.map_nil, joinComma]; rw [jsonProperty_eq]⟩
  | cons q t' => exact ⟨_, by simp only [List.map_cons, joinComma]; rw [jsonProperty_eq p]; rfl⟩

/-- the reference reader recovers exactly the list gate serialised (`null` for a nil list) -/
theorem readProperties_json (isNil : Bool) (ps : List Property) (hp : ∀ p ∈ ps, propOk p = true) :
    readProperties (jsonProps isNil ps) = some (if ps.isEmpty ∧ isNil then none else some ps) := by
  cases ps with
  | nil =>
    cases isNil <;> rfl
  | cons p t =>
    obtain ⟨u, hu⟩ := joinComma_head p t
    have hlen : (p :: t).length ≤ (joinComma ((p :: t).map jsonProperty)).length + 1 := by
      have := joinComma_length ((p :: t).map jsonProperty) (by
        intro x hx
        simp only [List.mem_map] at hx
        obtain ⟨q, _, rfl⟩ := hx
        exact jsonProperty_length q)
      simpa using this
    have hj : jsonProps isNil (p :: t) = 91 :: (joinComma ((p :: t).map jsonProperty) ++ [93]) := by
      simp [jsonProps]
    rw [hj]
    unfold readProperties
    simp only
    rw [skipWs_nonws 91 _ (by decide)]
    have hnn : ¬ (91 :: (joinComma ((p :: t).map jsonProperty) ++ [93]) = str "null") := fun h => by
      have h0 := congrArg List.head? h
      simp [str] at h0
    simp only [hnn, if_false]
    rw [hu]
    simp only [List.cons_append]
    rw [skipWs_nonws 123 _ (by decide)]
    split
    · rename_i heq; simp at heq
    · rw [← List.cons_append, ← hu]
      rw [readElems_list (p :: t) (by simp) hp _ [] (by
        simp only [List.length_append, List.length_cons, List.length_nil]; omega)]
      simp [skipWs]

theorem jsonEscAscii_no_nul (b : UInt8) : NUL ∉ jsonEscAscii b := by
  obtain ⟨h1, h2⟩ := nibble_lt b
  have n1 := hexLower_ne_nul _ h1
  have n2 := hexLower_ne_nul _ h2
  rcases jsonEscAscii_cases b with ⟨e, _, hec, hj⟩ | hj | ⟨h20, _, _, hj⟩
  · rw [hj]
    have he : e ≠ NUL := by
      rintro rfl
      have : unescape1 NUL = none := by decide
      rw [this] at hec
      cases hec
    simp only [List.mem_cons, List.not_mem_nil, or_false, not_or]
    exact ⟨by decide, he.symm⟩
  · rw [hj]
    simp only [List.mem_cons, List.not_mem_nil, or_false, not_or]
    exact ⟨by decide, by decide, by decide, by decide, n1.symm, n2.symm⟩
  · rw [hj]
    simp only [List.mem_cons, List.not_mem_nil, or_false]
    intro h0
    rw [← h0] at h20
    exact absurd h20 (by decide)

theorem jsonStrBody_no_nul (n : Nat) : ∀ s : Bytes, NUL ∉ jsonStrBody n s := by
  induction n with
  | zero => intro s; simp [jsonStrBody]
  | succ n ih =>
    intro s
    cases s with
    | nil => simp [jsonStrBody]
    | cons b r =>
      by_cases hb : b.toNat < 0x80
      · rw [jsonStrBody_ascii n b r hb, List.mem_append, not_or]
        exact ⟨jsonEscAscii_no_nul b, ih r⟩
      · cases hd : decodeRune (b :: r) with
        | none =>
          rw [jsonStrBody_invalid n b r hb hd, List.mem_append, not_or]
          exact ⟨by decide, ih r⟩
        | some p =>
          obtain ⟨c, size⟩ := p
          obtain ⟨_, _, _, htake, hblk⟩ := decodeRune_high b r c size hd
          rw [jsonStrBody_rune n b r c size hb hd, List.mem_append, not_or]
          refine ⟨?_, ih _⟩
          by_cases h28 : c = 0x2028 ∨ c = 0x2029
          · rw [if_pos h28]
            have := hexLower_ne_nul (c % 16) (by omega)
            simp only [List.mem_cons, List.not_mem_nil, or_false, not_or]
            exact ⟨by decide, by decide, by decide, by decide, by decide, this.symm⟩
          · rw [if_neg h28, htake]
            intro h
            exact absurd (hblk NUL h) (by decide)

theorem str_lits_no_nul : NUL ∉ str "{\"name\":" ∧ NUL ∉ str ",\"value\":" ∧ NUL ∉ str ",\"signature\":" ∧
    NUL ∉ str "}" ∧ NUL ∉ str "null" := by decide +kernel

theorem jsonString_no_nul (s : Bytes) : NUL ∉ jsonString s := by
  unfold jsonString
  simp only [List.mem_append, List.mem_cons, List.not_mem_nil, or_false, not_or]
  exact ⟨⟨by decide, jsonStrBody_no_nul _ s⟩, by decide⟩

theorem jsonProperty_no_nul (p : Property) : NUL ∉ jsonProperty p := by
  obtain ⟨l1, l2, l3, l4, _⟩ := str_lits_no_nul
  unfold jsonProperty
  simp only [List.mem_append, not_or]
  refine ⟨⟨⟨⟨⟨l1, jsonString_no_nul _⟩, l2⟩, jsonString_no_nul _⟩, ?_⟩, l4⟩
  split
  · simp
  · simp only [List.mem_append, not_or]; exact ⟨l3, jsonString_no_nul _⟩

theorem joinComma_no_nul (xs : List Bytes) (h : ∀ x ∈ xs, NUL ∉ x) : NUL ∉ joinComma xs := by
  induction xs with
  | nil => simp [joinComma]
  | cons x t ih =>
    cases t with
    | nil => simpa [joinComma] using h x (by simp)
    | cons y t' =>
      simp only [joinComma, List.mem_append, List.mem_cons, List.not_mem_nil, or_false, not_or]
      exact ⟨⟨h x (by simp), by decide⟩, ih (fun z hz => h z (by simp [hz]))⟩

theorem jsonProps_no_nul (isNil : Bool) (ps : List Property) : NUL ∉ jsonProps isNil ps := by
  unfold jsonProps
  split
  · exact str_lits_no_nul.2.2.2.2
  · simp only [List.mem_append, List.mem_cons, List.not_mem_nil, or_false, not_or]
    refine ⟨⟨by decide, joinComma_no_nul _ ?_⟩, by decide⟩
    intro x hx
    simp only [List.mem_map] at hx
    obtain ⟨q, _, rfl⟩ := hx
    exact jsonProperty_no_nul q

theorem jsonProps_ne_nil (isNil : Bool) (ps : List Property) : jsonProps isNil ps ≠ [] := by
  unfold jsonProps
  split
  · decide
  · simp

/-! ## the BungeeCord backend's view of a forwarding address -/

theorem dropTrailingEmpty_four (a b c d : Bytes) (hd : d ≠ []) : dropTrailingEmpty [a, b, c, d] = [a, b, c, d] := by
  unfold dropTrailingEmpty
  simp [hd]

theorem bungeeParse_address (srv ip id : Bytes) (isNil : Bool) (ps : List Property)
    (h1 : NUL ∉ srv) (h2 : NUL ∉ ip) (hid : id.length = 16) (hp : ∀ p ∈ ps, propOk p = true) :
    bungeeParse (srv ++ [0] ++ ip ++ [0] ++ undashed id ++ [0] ++ jsonProps isNil ps)
      = some ⟨srv, ip, id, if ps.isEmpty ∧ isNil then none else some ps⟩ := by
  unfold bungeeParse javaSplitNul
  rw [split_four srv ip (undashed id) (jsonProps isNil ps) h1 h2 (undashed_no_nul id) (jsonProps_no_nul isNil ps),
    dropTrailingEmpty_four _ _ _ _ (jsonProps_ne_nil isNil ps)]
  have hl : (undashed id).length = 32 := by rw [undashed_length, hid]
  simp only [hl, if_true, unhex_undashed, readProperties_json isNil ps hp]

end Gate.C19
