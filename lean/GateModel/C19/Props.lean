import GateModel.C19.JsonRT
/-
C19 — Backend handshake keeps the player's host first and forwarding data well-formed.

  A. Without legacy/BungeeGuard forwarding the address sent to the backend has the player's virtual host
     as its first NUL-separated part — for every virtual host (any bytes), connection type, Forge marker
     and every address hook that keeps the first part of what it is given — hence `ClearVirtualHost`
     (what a downstream gate routes on) sees the same host.
  B. With legacy/BungeeGuard forwarding the address is exactly backend address, player IP, undashed UUID
     and the JSON property list (+ BungeeForge extraData, + token last), NUL-separated, and the
     BungeeCord backend's parser recovers exactly those values.
-/
namespace Gate.C19.Props
open Gate Gate.C19 Gate.C19.Spec

/-! ### A. the host stays first -/

/-- No hook contract needed: whatever the hooks return, the Forge marker handling appends a NUL-led
    marker (legacy Forge), re-attaches a NUL-led token to the base host (modern Forge) or does nothing —
    the first NUL-separated part of the result is the first part of the hook chain's result. -/
theorem marker_never_displaces_first_part (e : Env) (vHost r : Bytes) (hnf : usedForwarding e = false)
    (h : handshakeAddr e vHost = .ok r) :
    ∃ v2, afterHook2 e vHost = .ok v2 ∧ beforeNul r = beforeNul v2 := by
  unfold handshakeAddr at h
  simp only [hnf, Bool.false_eq_true, if_false] at h
  cases h2 : afterHook2 e vHost with
  | error u => rw [h2] at h; cases u; simp at h
  | ok v2 =>
    rw [h2] at h
    refine ⟨v2, rfl, ?_⟩
    simp only [Except.ok.injEq] at h
    subst h
    unfold withForgeMarker
    split
    · rw [legacyForgeToken_head, beforeNul_append_nul]
    · split
      · obtain ⟨t, ht⟩ := modernToken_head (afterHook1 e vHost)
        rw [ht, beforeNul_append_nul]
        exact baseHost_first v2 .modernForge
      · rfl

/-- every connection type, every virtual host, hooks that keep the first part: the backend sees the
    player's virtual host first -/
theorem host_first (e : Env) (r : Bytes) (hnf : usedForwarding e = false) (hk : HooksKeepFirst e)
    (h : serverAddress e = .ok r) : beforeNul r = beforeNul (playerVHost e) := by
  obtain ⟨v2, h2, hr⟩ := marker_never_displaces_first_part e (playerVHost e) r hnf h
  rw [hr, afterHook2_first e (playerVHost e) v2 hnf hk h2]

/-- without hooks the address always exists and starts with the player's virtual host -/
theorem host_first_no_hooks (e : Env) (h1 : e.hook1Seen = none) (h2 : e.hook2 = none)
    (hm : e.mode ≠ .legacy ∧ e.mode ≠ .bungeeguard) :
    ∃ r, serverAddress e = .ok r ∧ beforeNul r = beforeNul (playerVHost e) := by
  have hnf : usedForwarding e = false := by simp [usedForwarding, h1, hm.1, hm.2]
  have hk : HooksKeepFirst e :=
    ⟨fun f hf => (by rw [h1] at hf; cases hf), fun g hg => (by rw [h2] at hg; cases hg)⟩
  obtain ⟨r, hr⟩ : ∃ r, serverAddress e = .ok r := by
    unfold serverAddress handshakeAddr afterHook2
    simp [hnf, h2]
  exact ⟨r, hr, host_first e r hnf hk hr⟩

/-- the chained-proxy statement: a downstream gate computing `ClearVirtualHost` on the handshake address
    gets what it would get from the player's virtual host itself -/
theorem clear_virtual_host_preserved (e : Env) (r : Bytes) (hnf : usedForwarding e = false)
    (hk : HooksKeepFirst e) (h : serverAddress e = .ok r) :
    clearVirtualHost r = clearVirtualHost (playerVHost e) :=
  clearVirtualHost_congr _ _ (host_first e r hnf hk h)

/-- glue: the virtual host the handshake handler stores is `<client's address>:<port>`; for a client
    address without `:`, `[`, `]` (any other bytes, NUL parts and Forge markers included) `netutil.Host`
    returns it unchanged, so the first part the backend sees is the first part the client sent -/
theorem host_first_of_client_address (e : Env) (sa port r : Bytes)
    (hv : e.vhostAddr = sa ++ COLON :: port) (hsa : sa ≠ [])
    (c1 : COLON ∉ sa) (c2 : LBR ∉ sa) (c3 : RBR ∉ sa) (p1 : COLON ∉ port) (p2 : LBR ∉ port) (p3 : RBR ∉ port)
    (hnf : usedForwarding e = false) (hk : HooksKeepFirst e) (h : serverAddress e = .ok r) :
    beforeNul r = beforeNul sa ∧ clearVirtualHost r = clearVirtualHost sa := by
  have hp : playerVHost e = sa := by
    unfold playerVHost
    rw [hv, hostOf_host_port sa port c1 c2 c3 p1 p2 p3]
    simp [hsa]
  have := host_first e r hnf hk h
  rw [hp] at this
  exact ⟨this, clearVirtualHost_congr _ _ this⟩

/-- the only way to get no address is a failing `BackendHandshakeAddresser` -/
theorem failure_only_from_backend_addresser (e : Env) (h : serverAddress e = .error ()) :
    ∃ g, e.hook2 = some g ∧ usedForwarding e = false := by
  unfold serverAddress handshakeAddr at h
  cases hu : usedForwarding e with
  | true => simp [hu] at h
  | false =>
    cases hg : e.hook2 with
    | some g => exact ⟨g, rfl, rfl⟩
    | none => simp [hu, afterHook2, hg] at h

/-- the contract is necessary: a hook that ignores what it is given replaces the host (this is why the
    statement without the contract is not claimed) -/
theorem host_first_fails_for_contract_breaking_hook :
    let e : Env := { mode := .none, bgSecret := [], serverAddr := str "10.0.0.1:25566", remoteAddr := str "1.2.3.4:5",
                     id := List.replicate 16 0, props := [], propsNil := true, connType := .vanilla,
                     vhostAddr := str "play.example.org:25565", hook1 := some (fun _ => str "lobby"), hook2 := none }
    serverAddress e = .ok (str "lobby") ∧ beforeNul (str "lobby") ≠ beforeNul (playerVHost e) := by
  dsimp only
  exact ⟨eq_ok_of_toOption (by decide +kernel), by decide +kernel⟩

/-- Outside the domain of `host_first_of_client_address`: a `]` (or `[`) in a later NUL part of the client's
    address, with no `:` anywhere, makes `netutil.Host` fail ("unexpected ']' in address"); the virtual host
    then counts as empty and `startHandshake` sends the BACKEND's own host — the player's host is lost
    (known finding `host-replaced-on-bracket`). -/
theorem host_first_fails_on_bracket_in_later_part :
    let e : Env := { mode := .none, bgSecret := [], serverAddr := str "10.0.0.1:25566", remoteAddr := str "1.2.3.4:5",
                     id := List.replicate 16 0, props := [], propsNil := true, connType := .vanilla,
                     vhostAddr := str "play.example.org" ++ [0] ++ str "a]b:25565", hook1 := none, hook2 := none }
    serverAddress e = .ok (str "10.0.0.1") ∧
    beforeNul (str "10.0.0.1") ≠ beforeNul (str "play.example.org" ++ [0] ++ str "a]b") := by
  dsimp only
  exact ⟨eq_ok_of_toOption (by decide +kernel), by decide +kernel⟩

/-! ### B. legacy / BungeeGuard forwarding -/

/-- legacy mode (no `HandshakeAddresser` on the server): exactly four NUL-joined fields, no Forge marker
    appended, the `BackendHandshakeAddresser` not consulted -/
theorem legacy_address_shape (e : Env) (h1 : e.hook1Seen = none) (hm : e.mode = .legacy) :
    serverAddress e = .ok (e.serverAddr ++ [0] ++ hostOf e.remoteAddr ++ [0] ++ undashed e.id ++ [0] ++
      jsonProps (e.propsNil && e.props.isEmpty && (forwardedProps e false).isEmpty) (forwardedProps e false)) := by
  rw [(serverAddress_forwarding e h1 (.inl hm)).2, hm]
  rfl

theorem bungeeguard_address_shape (e : Env) (h1 : e.hook1Seen = none) (hm : e.mode = .bungeeguard) :
    serverAddress e = .ok (e.serverAddr ++ [0] ++ hostOf e.remoteAddr ++ [0] ++ undashed e.id ++ [0] ++
      jsonProps (e.propsNil && e.props.isEmpty && (forwardedProps e true).isEmpty) (forwardedProps e true)) := by
  rw [(serverAddress_forwarding e h1 (.inr hm)).2, hm]
  rfl

/-- the property list that is forwarded: the profile's properties in order, then BungeeForge's `extraData`
    (Forge clients only), then — BungeeGuard — the token, last -/
theorem forwarded_props_order (e : Env) (withToken : Bool) :
    e.props <+: forwardedProps e withToken ∧
    (withToken = true → (forwardedProps e withToken).getLast? = some ⟨tokenName, e.bgSecret, []⟩) ∧
    (e.connType = .legacyForge → ⟨extraDataName, [1, 70, 77, 76, 0], []⟩ ∈ forwardedProps e withToken) := by
  refine ⟨?_, ?_, ?_⟩
  · unfold forwardedProps; rw [List.append_assoc]; exact List.prefix_append _ _
  · intro h; subst h; simp [forwardedProps]
  · intro h
    have : forgeExtraData e = [1, 70, 77, 76, 0] := by simp [forgeExtraData, h]
    simp [forwardedProps, this]

/-- In both forwarding formats a BungeeCord-protocol backend splits the address into exactly four parts and
    recovers exactly the backend address, the player's IP text, the UUID and the property list (a nil list
    is sent as JSON `null`, which the backend reads as "no properties") — for every property list whose
    strings are valid UTF-8 (JSON text cannot carry other byte strings) and NUL-free address texts. -/
theorem forwarding_address_parsed_by_backend (e : Env) (withToken : Bool)
    (hs : NUL ∉ e.serverAddr) (hi : NUL ∉ hostOf e.remoteAddr) (hid : e.id.length = 16)
    (hp : ∀ p ∈ forwardedProps e withToken, propOk p = true) :
    splitOn1 NUL (forwardingAddress e withToken) =
      [e.serverAddr, hostOf e.remoteAddr, undashed e.id,
       jsonProps (e.propsNil && e.props.isEmpty && (forwardedProps e withToken).isEmpty) (forwardedProps e withToken)] ∧
    bungeeParse (forwardingAddress e withToken) =
      some ⟨e.serverAddr, hostOf e.remoteAddr, e.id,
        if (forwardedProps e withToken).isEmpty ∧ e.propsNil then none else some (forwardedProps e withToken)⟩ := by
  refine ⟨?_, ?_⟩
  · unfold forwardingAddress
    exact split_four _ _ _ _ hs hi (undashed_no_nul _) (jsonProps_no_nul _ _)
  · unfold forwardingAddress
    simp only
    rw [bungeeParse_address _ _ _ _ _ hs hi hid hp]
    congr 2
    cases hE : (forwardedProps e withToken).isEmpty <;> cases hN : e.propsNil <;> simp
    -- a nil flag matters only for an empty list; then `props` is empty as well
    have : e.props = [] := by
      have := List.isEmpty_iff.mp hE
      unfold forwardedProps at this
      simp only [List.append_eq_nil_iff] at this
      exact this.1.1
    simp [this]

/-! ### the ServerInfo wrapper (`newViaServerInfo`, stored by `Proxy.Register` for Via-routed backends) -/

/-- A Via-wrapped registration behaves, for the handshake address, exactly like the same server without a
    `HandshakeAddresser`: the wrapper is not a hook, for every input. -/
theorem via_wrapped_like_unhooked (e : Env) (hv : e.viaWrapped = true) :
    serverAddress e = serverAddress { e with hook1 := none, viaWrapped := false } := by
  cases e
  simp only at hv
  subst hv
  rfl

/-- hence the wrapper never switches the forwarding format off: a wrapped backend in legacy / BungeeGuard
    mode is sent the full forwarding address, whether or not the wrapped ServerInfo has a hook of its own -/
theorem via_wrapped_keeps_forwarding (e : Env) (hv : e.viaWrapped = true)
    (hm : e.mode = .legacy ∨ e.mode = .bungeeguard) :
    usedForwarding e = true ∧
    serverAddress e = .ok (forwardingAddress e (decide (e.mode = .bungeeguard))) :=
  serverAddress_forwarding e (by simp [Env.hook1Seen, hv]) hm

/-- The defective variant (a wrapper that itself implements `HandshakeAddresser` by delegating, returning the
    default address when the wrapped ServerInfo has no hook) is "a hook that is always present": modelled as
    `hook1 := some id`, it sends the bare virtual host where the forwarding address is due. -/
theorem via_wrapper_as_hook_fails :
    let e : Env := { mode := .legacy, bgSecret := [], serverAddr := str "10.0.0.1:25566", remoteAddr := str "1.2.3.4:5",
                     id := List.replicate 16 0, props := [], propsNil := false, connType := .vanilla,
                     vhostAddr := str "play.example.org:25565", hook1 := some (fun v => v), hook2 := none }
    serverAddress e = .ok (str "play.example.org") ∧ bungeeParse (str "play.example.org") = none ∧
    serverAddress { e with viaWrapped := true } = .ok (forwardingAddress e false) := by
  dsimp only
  exact ⟨eq_ok_of_toOption (by decide +kernel), by decide +kernel, eq_ok_of_toOption (by decide +kernel)⟩

/-- the JSON part never contains a raw NUL (so the four-way split is unambiguous), whatever the properties -/
theorem json_part_has_no_nul (isNil : Bool) (ps : List Property) : NUL ∉ jsonProps isNil ps :=
  jsonProps_no_nul isNil ps

/-- the reference reader reads the JSON text back exactly -/
theorem json_part_read_back (isNil : Bool) (ps : List Property) (hp : ∀ p ∈ ps, propOk p = true) :
    readProperties (jsonProps isNil ps) = some (if ps.isEmpty ∧ isNil then none else some ps) :=
  readProperties_json isNil ps hp

/-! ### tie to the source (facts regenerated by `tools/gofacts` on every run) -/

open Gate.Gen.C19 in
/-- order of the steps in `handshakeAddr`: forwarding formats, `HandshakeAddr` hook, backend addresser on
    the base host, then the Forge marker with `ModernToken` last -/
theorem src_handshakeAddr_order :
    handshakeAddrCalls.filter (fun c => c ∈ ["s.createLegacyForwardingAddress", "s.createBungeeGuardForwardingAddress",
        "ha.HandshakeAddr", "backendHandshakeBaseHost", "backendAddresser.BackendHandshakeAddr", "modernforge.ModernToken"]) =
      ["s.createLegacyForwardingAddress", "s.createBungeeGuardForwardingAddress", "ha.HandshakeAddr",
       "backendHandshakeBaseHost", "backendAddresser.BackendHandshakeAddr", "backendHandshakeBaseHost",
       "modernforge.ModernToken"] := by decide +kernel

open Gate.Gen.C19 in
theorem src_forwarding_builders :
    legacyCalls.filter (fun c => c ∈ ["netutil.Host", "s.server.ServerInfo().Addr().String", "s.player.profile.ID.Undashed",
        "s.forgeExtraDataProperty", "append", "json.Marshal"]) =
      ["netutil.Host", "s.server.ServerInfo().Addr().String", "s.player.profile.ID.Undashed",
       "s.forgeExtraDataProperty", "append", "json.Marshal"] ∧
    bungeeGuardCalls.filter (fun c => c ∈ ["netutil.Host", "s.server.ServerInfo().Addr().String", "s.player.profile.ID.Undashed",
        "s.forgeExtraDataProperty", "append", "json.Marshal"]) =
      ["netutil.Host", "s.server.ServerInfo().Addr().String", "s.player.profile.ID.Undashed",
       "s.forgeExtraDataProperty", "append", "append", "json.Marshal"] ∧
    (legacyCalls.filter (· = "b.WriteString")).length = 7 ∧
    (bungeeGuardCalls.filter (· = "b.WriteString")).length = 7 := by decide +kernel

open Gate.Gen.C19 in
theorem src_constants_and_helpers :
    handshakeHostnameToken = "\x00FML\x00" ∧ modernForgeToken = "FORGE" ∧ liteForgeSeparator = "\x00" ∧
    tcpShieldRealIPSeparator = "///" ∧
    clearVirtualHostCalls = ["strings.Split", "strings.Split", "strings.Trim", "return"] ∧
    baseHostCalls = ["strings.SplitN", "return", "return"] ∧
    "net.SplitHostPort" ∈ splitHostPortCalls ∧ "strconv.Atoi" ∈ modernTokenCalls ∧
    startHandshakeCalls.idxOf "s.handshakeAddr" < startHandshakeCalls.idxOf "serverMc.BufferPacket" := by decide +kernel

/-! ### non-vacuity -/

def sampleEnv : Env :=
  { mode := .none, bgSecret := str "tok", serverAddr := str "10.0.0.1:25566", remoteAddr := str "192.0.2.7:40000",
    id := List.replicate 16 0xab, props := [⟨str "textures", str "e30=", str "c2ln"⟩], propsNil := false,
    connType := .modernForge, vhostAddr := str "play.example.org" ++ [0] ++ str "FML3" ++ [0] ++ str ":25565",
    hook1 := none, hook2 := some (fun b => .ok (b ++ [0] ++ str "floodgate")) }

example : usedForwarding sampleEnv = false := by decide
example : HooksKeepFirst sampleEnv := by
  refine ⟨fun f hf => by simp [sampleEnv, Env.hook1Seen] at hf, fun g hg => ?_⟩
  simp only [sampleEnv, Option.some.injEq] at hg
  subst hg
  intro b v hv
  simp only [Except.ok.injEq] at hv
  subst hv
  rw [List.append_assoc]
  exact beforeNul_append_nul b _
-- (for a modern-Forge player the NUL parts a backend addresser appends are cut again: base host + token)
example : serverAddress sampleEnv = .ok (str "play.example.org" ++ [0] ++ str "FML3" ++ [0]) :=
  eq_ok_of_toOption (by decide +kernel)
example : serverAddress { sampleEnv with connType := .legacyForge } =
    .ok (str "play.example.org" ++ [0] ++ str "floodgate" ++ [0] ++ str "FML" ++ [0]) :=
  eq_ok_of_toOption (by decide +kernel)
example : ∀ p ∈ forwardedProps { sampleEnv with mode := .bungeeguard } true, propOk p = true := by decide +kernel
example : NUL ∉ sampleEnv.serverAddr ∧ NUL ∉ hostOf sampleEnv.remoteAddr ∧ sampleEnv.id.length = 16 := by
  decide +kernel

end Gate.C19.Props
