import GateModel.C33.Lemmas
import GateModel.Gen.C33
/-
C33 — PROXY protocol headers are honoured only from trusted upstreams.

`netip.ParseAddr/ParsePrefix` and go-proxyproto's `Conn` are parameters of the model (see Model.lean); everything
gate itself does with their results is proved here for ALL parsed peers, all trusted lists and all first-byte classes.
-/
namespace Gate.C33.Props
open Gate Gate.C33

/-! ### parsing the trusted list -/

/-- an entry is accepted iff netip accepts it as IP (no `/`) resp. CIDR (with `/`) and it is not IPv4-mapped -/
theorem parse_accepts_iff (t : Bytes) (ppfx : Option (PAddr × Nat)) (paddr : Option PAddr) :
    (parseNetwork t ppfx paddr).isSome ↔
      (if t.contains 47 then ∃ a b, ppfx = some (a, b) ∧ a.is4In6 = false
       else ∃ a, paddr = some a ∧ a.is4In6 = false) := by
  unfold parseNetwork
  by_cases hs : t.contains 47 = true
  · simp only [hs, if_true]
    cases ppfx with
    | none => simp
    | some ab =>
      obtain ⟨a, b⟩ := ab
      cases hm : a.is4In6 <;> simp [hm]
  · simp only [hs, Bool.false_eq_true, if_false]
    cases paddr with
    | none => simp
    | some a => cases hm : a.is4In6 <;> simp [hm]

/-- a list is accepted iff every entry is -/
theorem parse_list_accepts_iff (es : List Entry) :
    (parseTrusted es).isSome ↔ ∀ e ∈ es, (parseNetwork (trimSpace e.raw) e.ppfx e.paddr).isSome :=
  mapM_isSome_iff _ es

/-- every accepted entry has its host bits cleared (`Masked()`), so `Contains` is the range test -/
theorem parsed_prefix_masked (es : List Entry) (ps : List Prefix) (h : parseTrusted es = some ps) :
    ∀ p ∈ ps, p.val % 2 ^ (p.bitLen - p.bits) = 0 := by
  intro p hp
  obtain ⟨e, _, he⟩ := mapM_some_forall _ es ps h p hp
  exact parseNetwork_masked _ _ _ p he

/-- a plain IP entry (no `/`) trusts exactly that address (zone of the entry ignored) -/
theorem single_ip_entry_matches_only_itself (t : Bytes) (a : PAddr) (ht : t.contains 47 = false)
    (hm : a.is4In6 = false) (ip : PAddr) :
    ∃ p, parseNetwork t none (some a) = some p ∧
      (p.contains ip = true ↔ ip.zone = [] ∧ ip.v6 = a.v6 ∧ ip.val = a.val) := by
  refine ⟨{ v6 := a.v6, val := a.val, bits := a.bitLen }, ?_, ?_⟩
  · unfold parseNetwork
    rw [if_neg (by rw [ht]; simp)]
    simp [hm, unmap_of_not_mapped a hm]
  · unfold Prefix.contains Prefix.bitLen PAddr.bitLen
    simp only [Nat.sub_self, Nat.pow_zero, Nat.div_one, Bool.and_eq_true, beq_iff_eq, List.isEmpty_iff]
    constructor
    · intro ⟨⟨h1, h2⟩, h3⟩; exact ⟨h1, h2.symm, h3⟩
    · intro ⟨h1, h2, h3⟩; exact ⟨⟨h1, h2.symm⟩, h3⟩

example : (parseNetwork [49] none (some ⟨true, 0xffff00000000 + 5, []⟩)).isSome = false := by decide

/-! ### trusted-network membership -/

/-- For every list `ParseTrustedNetworks` can return: USE is chosen iff the peer — IPv4-mapped unwrapped, zone
    dropped — lies in the numeric range of some trusted network of the same family. -/
theorem policy_use_iff (es : List Entry) (trusted : List Prefix) (hp : parseTrusted es = some trusted)
    (peerIsNil : Bool) (parsedHost : Option PAddr) :
    choosePolicy trusted peerIsNil parsedHost = .use ↔ trustedSpec trusted peerIsNil parsedHost = true := by
  unfold choosePolicy
  rw [containsParsed_eq_spec trusted (parsed_prefix_masked es trusted hp)]
  cases peerIsNil
  · cases h : trustedSpec trusted false parsedHost <;> simp
  · have : trustedSpec trusted true parsedHost = false := by
      cases parsedHost <;> simp [trustedSpec]
    simp [this]

/-- masked compare = set-theoretic CIDR membership, for any prefix without host bits -/
theorem contains_iff_in_range (p : Prefix) (ip : PAddr) (hm : p.val % 2 ^ (p.bitLen - p.bits) = 0) :
    p.contains ip = true ↔
      (ip.zone = [] ∧ p.v6 = ip.v6 ∧ p.val ≤ ip.val ∧ ip.val < p.val + 2 ^ (p.bitLen - p.bits)) := by
  rw [contains_eq_inRange p ip hm]
  unfold inRange
  simp [List.isEmpty_iff, and_assoc]

example : (Prefix.mk false 0x0a000000 8).contains ⟨false, 0x0a09_0807, []⟩ = true := by decide
example : (Prefix.mk false 0x0a000000 8).contains ⟨false, 0x0b00_0000, []⟩ = false := by decide

theorem nil_peer_or_unparsable_never_trusted (trusted : List Prefix) (ph : Option PAddr) :
    choosePolicy trusted true ph = .reject ∧ choosePolicy trusted false none = .reject := by
  constructor
  · simp [choosePolicy]
  · simp [choosePolicy, containsParsed]

/-- a nil wrapper / empty list trusts nothing -/
theorem no_config_trusts_nothing (peerIsNil : Bool) (ph : Option PAddr) :
    choosePolicy [] peerIsNil ph = .reject := by
  cases ph <;> simp [choosePolicy, containsParsed]

/-! ### what the wrapped connection does -/

/-- `RemoteAddr()` differs from the peer's own address only for a trusted peer that sent a well-formed PROXY-command
    header (then it is that header's source) -/
theorem address_changes_only_if_trusted (es : List Entry) (trusted : List Prefix)
    (hp : parseTrusted es = some trusted) (peerIsNil : Bool) (ph : Option PAddr) (h : Hdr) (a : Bytes)
    (hc : (wrapOutcome (choosePolicy trusted peerIsNil ph) h).addr = some a) :
    trustedSpec trusted peerIsNil ph = true ∧ h = .proxy a ∧
    (wrapOutcome (choosePolicy trusted peerIsNil ph) h).err = .none := by
  cases hpol : choosePolicy trusted peerIsNil ph
  · have ht := (policy_use_iff es trusted hp peerIsNil ph).mp hpol
    rw [hpol] at hc
    cases h <;> simp [wrapOutcome] at hc ⊢
    exact ⟨ht, hc⟩
  · rw [hpol] at hc
    cases h <;> simp [wrapOutcome] at hc

/-- a header (PROXY or LOCAL) from any other peer makes the first read fail and leaves the address alone -/
theorem untrusted_header_fails (es : List Entry) (trusted : List Prefix) (hp : parseTrusted es = some trusted)
    (peerIsNil : Bool) (ph : Option PAddr) (hu : trustedSpec trusted peerIsNil ph = false) (h : Hdr)
    (hh : h ≠ .none) :
    (wrapOutcome (choosePolicy trusted peerIsNil ph) h).addr = none ∧
    (wrapOutcome (choosePolicy trusted peerIsNil ph) h).err ≠ .none := by
  have hpol : choosePolicy trusted peerIsNil ph = .reject := by
    cases hc : choosePolicy trusted peerIsNil ph
    · have := (policy_use_iff es trusted hp peerIsNil ph).mp hc
      rw [hu] at this; cases this
    · rfl
  rw [hpol]
  cases h <;> simp [wrapOutcome] at hh ⊢

theorem trusted_header_applied (trusted : List Prefix) (peerIsNil : Bool) (ph : Option PAddr)
    (hpol : choosePolicy trusted peerIsNil ph = .use) (src : Bytes) :
    wrapOutcome (choosePolicy trusted peerIsNil ph) (.proxy src) = ⟨some src, .none⟩ := by
  rw [hpol]; rfl

/-- without a header the address is the peer's own and nothing fails, trusted or not -/
theorem no_header_keeps_addr (pol : Policy) : wrapOutcome pol .none = ⟨none, .none⟩ := by
  cases pol <;> rfl

/-! ### normalisation -/

/-- an IPv4-mapped peer `::ffff:a.b.c.d` (with any zone) is judged exactly like `a.b.c.d` -/
theorem mapped_peer_same_as_v4 (trusted : List Prefix) (v : Nat) (hv : v < 2 ^ 32) (z : Bytes) :
    containsParsed trusted (some ⟨true, 0xffff * 2 ^ 32 + v, z⟩) = containsParsed trusted (some ⟨false, v, []⟩) := by
  simp only [containsParsed, normalise_mapped v hv z]

/-- a socket peer (`*net.TCPAddr` / `*net.UDPAddr`) carrying an IPv4 address as 16-byte IPv4-mapped slice (what a
    dual-stack listener reports) must be judged exactly like the 4-byte form — this is the spec the harness's
    `cta` probe evaluates on every `net.Addr` implementation (`viol:contains-mismatch`) -/
theorem socket_forms_agree (trusted : List Prefix) (a b c d : UInt8) (z : Bytes) :
    trustedSpec trusted false (addrOfIP [0, 0, 0, 0, 0, 0, 0, 0, 0, 0, 0xff, 0xff, a, b, c, d] z) =
    trustedSpec trusted false (addrOfIP [a, b, c, d] []) := by
  have hlt : beNat [a, b, c, d] < 2 ^ 32 := by
    rw [beNat4]; have := a.toNat_lt; have := b.toNat_lt; have := c.toNat_lt; have := d.toNat_lt; omega
  have e16 : addrOfIP [0, 0, 0, 0, 0, 0, 0, 0, 0, 0, 0xff, 0xff, a, b, c, d] z
      = some ⟨true, 0xffff * 2 ^ 32 + beNat [a, b, c, d], z⟩ := by
    simp only [addrOfIP, List.length_cons, List.length_nil]; rw [beNat_mapped]; rfl
  have e4 : addrOfIP [a, b, c, d] [] = some ⟨false, beNat [a, b, c, d], []⟩ := by
    simp [addrOfIP]
  rw [e16, e4]
  simp only [trustedSpec, canon_eq_normalise, normalise_mapped _ hlt z]

/-- the zone of the peer never matters -/
theorem zone_irrelevant (trusted : List Prefix) (a : PAddr) (z : Bytes) :
    containsParsed trusted (some { a with zone := z }) = containsParsed trusted (some a) := by
  have : ({ a with zone := z } : PAddr).normalise = a.normalise := by
    unfold PAddr.normalise PAddr.unmap PAddr.is4In6 PAddr.withoutZone
    by_cases h : (a.v6 && a.val / 2 ^ 32 == 0xffff) = true <;> simp [h]
  simp only [containsParsed, this]

/-- an IPv4 address never matches an IPv6 network and vice versa -/
theorem families_never_mix (p : Prefix) (ip : PAddr) (h : p.v6 ≠ ip.v6) : p.contains ip = false := by
  unfold Prefix.contains
  have : (p.v6 == ip.v6) = false := by simpa using h
  simp [this]

/-! ### Host -/

/-- `Host` returns the IP literal for both shapes a TCP address prints: `host:port` (IPv4) … -/
theorem host_of_tcpaddr_v4 (h port : Bytes) (h1 : 58 ∉ h) (h2 : 91 ∉ h) (h3 : 93 ∉ h)
    (p1 : 58 ∉ port) (p2 : 91 ∉ port) (p3 : 93 ∉ port) : hostOf (h ++ 58 :: port) = h := by
  unfold hostOf splitHostPort
  rw [lastIndexOf_append_here 58 h port p1]
  have hhead : ¬ ((h ++ 58 :: port).head? = some 91) := by
    cases h with
    | nil => simp
    | cons x xs => simp; intro hx; subst hx; simp at h2
  have t : (h ++ 58 :: port).take h.length = h := by simp
  have c1 : h.contains 58 = false := contains_false_of_not_mem h1
  have c2 : (h ++ 58 :: port).contains 91 = false := contains_false_of_not_mem (by simp [h2, p2])
  have c3 : (h ++ 58 :: port).contains 93 = false := contains_false_of_not_mem (by simp [h3, p3])
  simp only [hhead, if_false, t, c1, c2, c3, Bool.false_eq_true]

/-- … and `[host]:port` (IPv6, zone included in `host`) -/
theorem host_of_tcpaddr_v6 (h port : Bytes) (h2 : 91 ∉ h) (h3 : 93 ∉ h)
    (p1 : 58 ∉ port) (p2 : 91 ∉ port) (p3 : 93 ∉ port) : hostOf (91 :: (h ++ 93 :: 58 :: port)) = h := by
  unfold hostOf splitHostPort
  have e1 : (91 :: (h ++ 93 :: 58 :: port)) = (91 :: h ++ [93]) ++ 58 :: port := by simp
  have hl : lastIndexOf 58 (91 :: (h ++ 93 :: 58 :: port)) = some (h.length + 2) := by
    rw [e1, lastIndexOf_append_here 58 _ port p1]; simp
  have e2 : (91 :: (h ++ 93 :: 58 :: port)) = (91 :: h) ++ 93 :: (58 :: port) := by simp
  have hi : indexOf 93 (91 :: (h ++ 93 :: 58 :: port)) = some (h.length + 1) := by
    rw [e2, indexOf_append_here 93 _ _ (by simp [h3])]; simp
  rw [hl, hi]
  have len : (91 :: (h ++ 93 :: 58 :: port)).length = h.length + 3 + port.length := by simp; omega
  have d1 : (91 :: (h ++ 93 :: 58 :: port)).drop 1 = h ++ 93 :: 58 :: port := rfl
  have c1 : (h ++ 93 :: 58 :: port).contains 91 = false := contains_false_of_not_mem (by simp [h2, p2])
  have d2 : (91 :: (h ++ 93 :: 58 :: port)).drop (h.length + 1 + 1) = 58 :: port := by
    rw [e2]; simp
  have c2 : (58 :: port).contains 93 = false := contains_false_of_not_mem (by simp [p3])
  have t : (h ++ 93 :: 58 :: port).take (h.length + 1 - 1) = h := by simp
  simp only [List.head?_cons, if_true, len, d1, c1, d2, c2, t, Bool.false_eq_true, if_false]
  rw [if_neg (by omega)]

-- "[::1]:80" ↦ "::1";  "pipe" ↦ "pipe" (not an IP);  "[::1" ↦ "" (missing ']': no host at all)
example : hostOf [91, 58, 58, 49, 93, 58, 56, 48] = [58, 58, 49] := by decide
example : hostOf [112, 105, 112, 101] = [112, 105, 112, 101] := by decide
example : hostOf [91, 58, 58, 49] = [] := by decide

/-! ### tie to the source: facts regenerated by `tools/gofacts` -/

/-- in a call sequence `a` occurs, and before the first `b` -/
def before (a b : String) (cs : List String) : Bool := cs.idxOf a < cs.idxOf b && cs.idxOf a < cs.length

open Gate.Gen.C33 in
theorem src_wrap_shape :
    wrapCalls = ["p.trustedNetworks", "conn.RemoteAddr", "p.trustedNetworks().Contains", "proxyproto.WithPolicy",
      "proxyproto.SetReadHeaderTimeout", "proxyproto.NewConn", "return"] ∧
    wrapConnCalls = ["p.wrapConnTimeout", "return"] ∧
    containsCalls = ["return", "Host", "t.ContainsStr", "return"] ∧
    containsStrCalls = ["netip.ParseAddr", "return", "ip.Unmap", "ip.Unmap().WithZone", "prefix.Contains",
      "return", "return"] := by decide +kernel

open Gate.Gen.C33 in
/-- both branches of `parseNetwork` test `Is4In6` before building the prefix; the CIDR branch masks;
    `ParseTrustedNetworks` trims before parsing -/
theorem src_parse_shape :
    before "strings.TrimSpace" "parseNetwork" parseTrustedCalls ∧
    before "netip.ParsePrefix" "prefix.Addr().Is4In6" parseNetworkCalls ∧
    before "prefix.Addr().Is4In6" "netip.PrefixFrom" parseNetworkCalls ∧
    "netip.PrefixFrom().Masked" ∈ parseNetworkCalls ∧
    before "netip.ParseAddr" "addr.Is4In6" parseNetworkCalls ∧
    before "addr.Is4In6" "addr.Unmap" parseNetworkCalls ∧
    splitHostPortCalls = ["net.SplitHostPort", "strconv.Atoi", "isMissingPortErr", "isTooManyColonsErr", "uint16", "return"] := by
  decide +kernel

end Gate.C33.Props
