/-
Facts shared by the interleaving machines: a system holds a list of work stacks, one per thread; `step s t` lets
thread `t` perform its next atomic action (`none`: not enabled), and `exec` runs a schedule, a list of thread ids.
-/
namespace Gate

/-- replacing entry `t` of a list changes the sum of `h` over it by the difference at `t` -/
theorem sum_map_set {α} (h : α → Nat) : ∀ (l : List α) (t : Nat) (x y : α), l[t]? = some x →
    ((l.set t y).map h).sum + h x = (l.map h).sum + h y
  | [], t, x, y, hx => by simp at hx
  | a :: l, 0, x, y, hx => by
      simp at hx; subst hx
      simp only [List.set_cons_zero, List.map_cons, List.sum_cons]; omega
  | a :: l, t + 1, x, y, hx => by
      simp at hx
      have := sum_map_set h l t x y hx
      simp only [List.set_cons_succ, List.map_cons, List.sum_cons]; omega

theorem getElem?_set_of_some {α} {l : List α} {i : Nat} {a : α} (h : l[i]? = some a) (x : α) :
    (l.set i x)[i]? = some x := by
  rw [List.getElem?_set_self', h]; rfl

theorem all_isEmpty_iff {α} (ths : List (List α)) : ths.all (·.isEmpty) = true ↔ ∀ th ∈ ths, th = [] := by
  simp [List.all_eq_true, List.isEmpty_iff]

/-- unless every stack is empty, some thread has a next action -/
theorem exists_work {α} {ths : List (List α)} (h : ths.all (·.isEmpty) = false) :
    ∃ (t : Nat) (a : α) (rest : List α), ths[t]? = some (a :: rest) := by
  apply Classical.byContradiction
  intro hn
  have : ths.all (·.isEmpty) = true := (all_isEmpty_iff ths).2 fun th hth => by
    obtain ⟨t, ht⟩ := List.getElem?_of_mem hth
    cases th with
    | nil => rfl
    | cons a r => exact absurd ⟨t, a, r, ht⟩ hn
  rw [h] at this
  cases this

/-- `exec` runs a schedule by folding `step` over it and is `none` as soon as a scheduled action is not enabled.
    For an `exec` defined by these two equations the instance is `⟨fun _ => rfl, fun _ _ _ => rfl⟩`. -/
structure Runs {σ ι} (step : σ → ι → Option σ) (exec : σ → List ι → Option σ) : Prop where
  nil : ∀ s, exec s [] = some s
  cons : ∀ s t ts, exec s (t :: ts) = (step s t).bind (fun s' => exec s' ts)

namespace Runs
variable {σ ι} {step : σ → ι → Option σ} {exec : σ → List ι → Option σ} (R : Runs step exec)
include R

theorem cons_some {s s1 t ts} (hs : step s t = some s1) : exec s (t :: ts) = exec s1 ts := by
  rw [R.cons, hs]; rfl

theorem of_cons {s s' t ts} (h : exec s (t :: ts) = some s') : ∃ s1, step s t = some s1 ∧ exec s1 ts = some s' :=
  Option.bind_eq_some_iff.1 ((R.cons s t ts).symm.trans h)

/-- what every step preserves holds after every schedule -/
theorem induct (P : σ → Prop) (hstep : ∀ s t s', P s → step s t = some s' → P s') {sched : List ι} {s s' : σ}
    (hp : P s) (h : exec s sched = some s') : P s' := by
  induction sched generalizing s with
  | nil => exact Option.some.inj ((R.nil s).symm.trans h) ▸ hp
  | cons t ts ih =>
    obtain ⟨s1, hs, h⟩ := R.of_cons h
    exact ih (hstep s t s1 hp hs) h

theorem append : ∀ (a b : List ι) (s : σ), exec s (a ++ b) = (exec s a).bind (fun s' => exec s' b)
  | [], b, s => by rw [R.nil]; rfl
  | t :: a, b, s => by
      rw [List.cons_append, R.cons, R.cons]
      cases step s t with
      | none => rfl
      | some s1 => exact append a b s1

/-- a measure that every step lowers bounds the length of every schedule -/
theorem length_le (w : σ → Nat) (hstep : ∀ s t s', step s t = some s' → w s' + 1 ≤ w s) {sched : List ι} {s s' : σ}
    (h : exec s sched = some s') : sched.length + w s' ≤ w s := by
  induction sched generalizing s with
  | nil => cases Option.some.inj ((R.nil s).symm.trans h); simp
  | cons t ts ih =>
    obtain ⟨s1, hs, h⟩ := R.of_cons h
    have := ih h
    have := hstep s t s1 hs
    simp only [List.length_cons]
    omega

end Runs
end Gate
