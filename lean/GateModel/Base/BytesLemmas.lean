import GateModel.Base.Bytes
/-
What `readFull` does with enough and with too little input, and that `beNat` reads back the `n` bytes `beBytes n`
wrote of a value below `256 ^ n`.
-/
namespace Gate

theorem readFull_append (a rest : Bytes) : readFull a.length (a ++ rest) = .ok (a, rest) := by
  simp [readFull]

theorem readFull_short (n : Nat) (a : Bytes) (h : a.length < n) : readFull n a = .error .eof :=
  if_neg (Nat.not_le.2 h)

theorem readFull_take_lt (n k : Nat) (a : Bytes) (h : k < n) : readFull n (a.take k) = .error .eof :=
  readFull_short n _ (Nat.lt_of_le_of_lt (List.length_take_le k a) h)

theorem readFull_ok {n : Nat} {bs b r : Bytes} (h : readFull n bs = .ok (b, r)) :
    b.length = n ∧ bs.length = n + r.length := by
  unfold readFull at h
  split at h
  · cases h
    simp only [List.length_take, List.length_drop]; omega
  · cases h

/-- input behind what a successful `readFull` took is left over -/
theorem readFull_app (n : Nat) (bs a r x : Bytes) (h : readFull n bs = .ok (a, r)) :
    readFull n (bs ++ x) = .ok (a, r ++ x) := by
  unfold readFull at *
  split at h
  · rename_i hn
    cases h
    rw [if_pos (by rw [List.length_append]; omega), List.take_append_of_le_length hn,
      List.drop_append_of_le_length hn]
  · cases h

theorem beBytes_length (n v : Nat) : (beBytes n v).length = n := by
  induction n generalizing v with
  | zero => simp [beBytes]
  | succ n ih => simp [beBytes, ih]

theorem beNat_append_single (a : Bytes) (b : UInt8) : beNat (a ++ [b]) = beNat a * 256 + b.toNat := by
  simp [beNat, List.foldl_append]

theorem beNat_foldl (acc : Nat) (l : Bytes) :
    l.foldl (fun a b => a * 256 + b.toNat) acc = acc * 256 ^ l.length + beNat l := by
  induction l generalizing acc with
  | nil => simp [beNat]
  | cons b r ih =>
    simp only [List.foldl_cons, beNat, List.length_cons]
    rw [ih, ih (0 * 256 + b.toNat)]
    simp only [beNat, Nat.pow_succ, Nat.zero_mul, Nat.zero_add]
    rw [Nat.add_mul, Nat.mul_assoc, Nat.mul_comm 256, Nat.add_assoc]

theorem beNat_cons (b : UInt8) (r : Bytes) : beNat (b :: r) = b.toNat * 256 ^ r.length + beNat r := by
  have := beNat_foldl (0 * 256 + b.toNat) r
  simpa [beNat] using this

theorem beNat_lt (l : Bytes) : beNat l < 256 ^ l.length := by
  -- bytes are added at the low end, so the induction runs over the reversed string
  have rev : ∀ l : Bytes, beNat l.reverse < 256 ^ l.length := by
    intro l
    induction l with
    | nil => simp [beNat]
    | cons b r ih =>
      have := b.toNat_lt
      rw [List.reverse_cons, beNat_append_single, List.length_cons, Nat.pow_succ]
      omega
  simpa using rev l.reverse

theorem beNat_beBytes (n v : Nat) (h : v < 256 ^ n) : beNat (beBytes n v) = v := by
  induction n generalizing v with
  | zero => simp [beBytes, beNat] at *; omega
  | succ n ih =>
    have h1 : v / 256 < 256 ^ n := by
      rw [Nat.pow_succ] at h; exact Nat.div_lt_of_lt_mul (by omega)
    rw [beBytes, beNat_append_single, ih _ h1, UInt8.toNat_ofNat']
    omega

end Gate
