import GateModel.C12.Model
import GateModel.Base.Sched
/-
C12 helper lemmas: the invariant of well-locked systems and its preservation by every atomic action.
-/
namespace Gate.C12

def Held.afterT : Held → Task → Option Held
  | h, .act a => h.after a
  | .free, .iterNext _ => Option.none
  | h, .iterNext _ => some h

/-- the remaining stack of a thread is well locked from the mode the thread holds now -/
def wlT : Held → List Task → Bool
  | h, [] => h == .free
  | h, t :: rest => match h.afterT t with
    | some h' => wlT h' rest
    | none => false

theorem wlT_map_act (h : Held) (p : List Act) : wlT h (p.map Task.act) = wl h p := by
  induction p generalizing h with
  | nil => rfl
  | cons a rest ih =>
    simp only [List.map_cons, wlT, wl, Held.afterT]
    cases h.after a with
    | none => rfl
    | some h' => exact ih h'

/-- the mode thread `t` holds in state `s` -/
def heldOf (s : Sys) (t : Nat) : Held :=
  if s.writer = some t then .w else if t ∈ s.readers then .r else .free

/-- ownership of the returned slices -/
structure HeapInv (s : Sys) : Prop where
  handlesND : (s.outs.map (·.handle)).Nodup
  handlesLt : ∀ o ∈ s.outs, o.handle < s.heap.length
  mineOwn   : ∀ t h, s.mine t = some h → ∃ o ∈ s.outs, o.handle = h ∧ o.tid = t
  content   : ∀ o ∈ s.outs, o.handle ∈ s.dirty ∨ s.heap[o.handle]? = some o.listing
  dirtyOwn  : ∀ h ∈ s.dirty, ∃ o ∈ s.outs, o.handle = h
  cacheNone : s.cache = none

theorem heap_frame {s s' : Sys} (h : HeapInv s) (ho : s'.outs = s.outs := by rfl) (hh : s'.heap = s.heap := by rfl)
    (hm : s'.mine = s.mine := by rfl) (hd : s'.dirty = s.dirty := by rfl) (hc : s'.cache = s.cache := by rfl) :
    HeapInv s' where
  handlesND := by rw [ho]; exact h.handlesND
  handlesLt := by rw [ho, hh]; exact h.handlesLt
  mineOwn := by rw [ho, hm]; exact h.mineOwn
  content := by rw [ho, hh, hd]; exact h.content
  dirtyOwn := by rw [ho, hd]; exact h.dirtyOwn
  cacheNone := by rw [hc]; exact h.cacheNone

structure Inv (s : Sys) : Prop where
  heapInv : HeapInv s
  excl    : s.writer.isSome = true → s.readers = []
  rnodup  : s.readers.Nodup
  inodup  : s.iterating.Nodup
  wlAll   : ∀ t ts, s.threads[t]? = some ts → wlT (heldOf s t) ts = true
  clean   : s.race = false ∧ s.fatal = false
  iterHead : ∀ t ∈ s.iterating, ∃ i rest, s.threads[t]? = some (.iterNext i :: rest) ∧
               s.acc t = (s.m.take i).map (·.2) ∧ s.began t = s.m
  iterConv : ∀ t i rest, s.threads[t]? = some (.iterNext i :: rest) → t ∈ s.iterating
  restActs : ∀ (t : Nat) (task : Task) (rest : List Task), s.threads[t]? = some (task :: rest) →
               ∀ x ∈ rest, ∃ a, x = Task.act a
  outsOK  : ∀ o ∈ s.outs, o.listing = o.began.vals

theorem heldOf_w {s : Sys} {t : Nat} (h : heldOf s t = .w) : s.writer = some t := by
  unfold heldOf at h
  split at h
  · assumption
  · split at h <;> cases h

theorem heldOf_eq_w {s : Sys} {t : Nat} (h : s.writer = some t) : heldOf s t = .w := by simp [heldOf, h]

theorem heldOf_r {s : Sys} {t : Nat} (h : heldOf s t = .r) : s.writer ≠ some t ∧ t ∈ s.readers := by
  unfold heldOf at h
  split at h
  · cases h
  · split at h
    · exact ⟨by assumption, by assumption⟩
    · cases h

theorem heldOf_free {s : Sys} {t : Nat} (h : heldOf s t = .free) : s.writer ≠ some t ∧ t ∉ s.readers := by
  unfold heldOf at h
  split at h
  · cases h
  · split at h
    · cases h
    · exact ⟨by assumption, by assumption⟩

theorem canRead_of_held {s : Sys} {t : Nat} (h : heldOf s t ≠ .free) : s.canRead t = true := by
  unfold heldOf at h
  unfold Sys.canRead
  split at h
  · rename_i hw; simp [hw]
  · split at h
    · rename_i hr; simp [hr]
    · exact absurd rfl h

/-- a thread in the middle of a range holds the mutex (in some mode) -/
theorem Inv.iter_held {s : Sys} (inv : Inv s) {u : Nat} (hu : u ∈ s.iterating) : heldOf s u ≠ .free := by
  obtain ⟨i, rest, hth, _, _⟩ := inv.iterHead u hu
  have := inv.wlAll u _ hth
  intro hn
  rw [hn] at this
  simp [wlT, Held.afterT] at this

/-- while some thread holds the write lock and is not itself iterating, nobody iterates -/
theorem Inv.no_iter_of_writer {s : Sys} (inv : Inv s) {t : Nat} (hw : s.writer = some t) (hnot : t ∉ s.iterating) :
    s.iterating = [] := by
  cases hi : s.iterating with
  | nil => rfl
  | cons u rest =>
    have hu : u ∈ s.iterating := by rw [hi]; exact List.mem_cons_self ..
    have hh := inv.iter_held hu
    have hre : s.readers = [] := inv.excl (by rw [hw]; rfl)
    unfold heldOf at hh
    by_cases h1 : s.writer = some u
    · rw [hw] at h1; injection h1 with h1; subst h1; exact absurd hu hnot
    · simp [h1, hre] at hh

/-- the stacks after thread `t` replaced its own: `t` has the new one, every other thread the one it had -/
theorem get_set_cases {l : List (List Task)} {t u : Nat} {old new ts : List Task} (h : l[t]? = some old)
    (hu : (l.set t new)[u]? = some ts) : u = t ∧ ts = new ∨ u ≠ t ∧ l[u]? = some ts := by
  by_cases hut : u = t
  · subst hut
    rw [List.getElem?_set_self (List.getElem?_eq_some_iff.mp h).1] at hu
    exact .inl ⟨rfl, (Option.some.inj hu).symm⟩
  · rw [List.getElem?_set_ne (Ne.symm hut)] at hu
    exact .inr ⟨hut, hu⟩

/-- split `wlT` of a non-empty stack -/
theorem wlT_cons {h : Held} {task : Task} {rest : List Task} (hw : wlT h (task :: rest) = true) :
    ∃ h', h.afterT task = some h' ∧ wlT h' rest = true := by
  simp only [wlT] at hw
  cases hh : h.afterT task with
  | none => rw [hh] at hw; cases hw
  | some h' => rw [hh] at hw; exact ⟨h', rfl, hw⟩

/-- the mode an action needs before it, and the mode it leaves -/
theorem afterT_act_inv {h h' : Held} {a : Act} (e : h.afterT (.act a) = some h') :
    match a with
    | .lock => h = .free ∧ h' = .w
    | .unlock => h = .w ∧ h' = .free
    | .rlock => h = .free ∧ h' = .r
    | .runlock => h = .r ∧ h' = .free
    | .put _ _ | .del _ => h = .w ∧ h' = .w
    | .size | .range => h ≠ .free ∧ h' = h
    | .use | .mutate => h' = h
    | .rangeCached => False := by
  cases a <;> cases h <;> cases e <;> simp

/-- a range loop may go on in any mode but `free`, and keeps the mode -/
theorem afterT_iterNext_inv {h h' : Held} {i : Nat} (e : h.afterT (.iterNext i) = some h') : h ≠ .free ∧ h' = h := by
  cases h <;> cases e <;> simp

theorem wlT_iterNext {h : Held} (hne : h ≠ .free) (i : Nat) (rest : List Task) :
    wlT h (.iterNext i :: rest) = wlT h rest := by
  cases h
  · exact absurd rfl hne
  all_goals rfl

theorem not_iterating_of_act {s : Sys} (inv : Inv s) {t : Nat} {a : Act} {rest : List Task}
    (hth : s.threads[t]? = some (.act a :: rest)) : t ∉ s.iterating := by
  intro hin
  obtain ⟨i, r, h, _, _⟩ := inv.iterHead t hin
  rw [hth] at h; injection h with h; injection h with h; cases h

/-- below its head a stack holds plain actions only -/
theorem Inv.rest_ne_iterNext {s : Sys} (inv : Inv s) {t : Nat} {task : Task} {rest : List Task}
    (hth : s.threads[t]? = some (task :: rest)) (i : Nat) (r : List Task) : rest ≠ .iterNext i :: r := by
  intro e
  obtain ⟨a, ha⟩ := inv.restActs t _ _ hth (.iterNext i) (e ▸ List.mem_cons_self ..)
  cases ha

/-- a finished range hands a FRESH slice to its caller -/
theorem heap_alloc {s : Sys} (h : HeapInv s) (t : Nat) (l : List Val) (g : GMap) {s' : Sys}
    (ho : s'.outs = s.outs ++ [⟨t, l, g, s.heap.length⟩] := by rfl) (hh : s'.heap = s.heap ++ [l] := by rfl)
    (hm : s'.mine = updF s.mine t (some s.heap.length) := by rfl) (hd : s'.dirty = s.dirty := by rfl)
    (hc : s'.cache = s.cache := by rfl) : HeapInv s' where
  handlesND := by
    rw [ho, List.map_append, List.nodup_append]
    refine ⟨h.handlesND, by simp, ?_⟩
    intro a ha b hb
    simp only [List.map_cons, List.map_nil, List.mem_singleton] at hb
    obtain ⟨o, hoo, rfl⟩ := List.mem_map.mp ha
    have := h.handlesLt o hoo
    omega
  handlesLt := by
    intro o hoo
    rw [ho] at hoo; rw [hh, List.length_append]
    rcases List.mem_append.mp hoo with hoo | hoo
    · have := h.handlesLt o hoo; simp; omega
    · simp only [List.mem_singleton] at hoo; subst hoo; simp
  mineOwn := by
    intro u k hk
    rw [hm] at hk; rw [ho]
    unfold updF at hk
    split at hk
    · rename_i hut
      injection hk with hk
      exact ⟨⟨t, l, g, s.heap.length⟩, List.mem_append_right _ (List.mem_singleton.mpr rfl), hk, hut.symm⟩
    · obtain ⟨o, hoo, h1, h2⟩ := h.mineOwn u k hk
      exact ⟨o, List.mem_append_left _ hoo, h1, h2⟩
  content := by
    intro o hoo
    rw [ho] at hoo; rw [hh, hd]
    rcases List.mem_append.mp hoo with hoo | hoo
    · rcases h.content o hoo with hc' | hc'
      · exact Or.inl hc'
      · right; rw [List.getElem?_append_left (h.handlesLt o hoo)]; exact hc'
    · simp only [List.mem_singleton] at hoo; subst hoo
      right; simp
  dirtyOwn := by
    intro k hk
    rw [hd] at hk; rw [ho]
    obtain ⟨o, hoo, h1⟩ := h.dirtyOwn k hk
    exact ⟨o, List.mem_append_left _ hoo, h1⟩
  cacheNone := by rw [hc]; exact h.cacheNone

/-- mutating one's own slice in place touches no other slice -/
theorem heap_mutate {s : Sys} (h : HeapInv s) (k : Nat) (hk : ∃ o ∈ s.outs, o.handle = k) (f : List Val → List Val)
    {s' : Sys} (ho : s'.outs = s.outs := by rfl) (hh : s'.heap = s.heap.set k (f (s.heap.getD k [])) := by rfl)
    (hm : s'.mine = s.mine := by rfl) (hd : s'.dirty = k :: s.dirty := by rfl)
    (hc : s'.cache = s.cache := by rfl) : HeapInv s' where
  handlesND := by rw [ho]; exact h.handlesND
  handlesLt := by rw [ho, hh, List.length_set]; exact h.handlesLt
  mineOwn := by rw [ho, hm]; exact h.mineOwn
  content := by
    intro o hoo
    rw [ho] at hoo; rw [hh, hd]
    by_cases hok : o.handle = k
    · exact Or.inl (hok ▸ List.mem_cons_self ..)
    · rcases h.content o hoo with hc' | hc'
      · exact Or.inl (List.mem_cons_of_mem _ hc')
      · right; rw [List.getElem?_set_ne (Ne.symm hok)]; exact hc'
  dirtyOwn := by
    intro j hj
    rw [hd] at hj; rw [ho]
    rcases List.mem_cons.mp hj with hj | hj
    · subst hj; exact hk
    · exact h.dirtyOwn j hj
  cacheNone := by rw [hc]; exact h.cacheNone

/-- The shape every action has: thread `t` replaces its stack `task :: rest` by `new` (the tail, possibly
    under a new head), the range state of the other threads stays, and the map changes only while nobody
    iterates.  What remains to be shown speaks of `t` and of the changed components alone. -/
theorem inv_step {s s' : Sys} (inv : Inv s) {t : Nat} {task : Task} {rest new : List Task}
    (hth : s.threads[t]? = some (task :: rest)) (hthr : s'.threads = s.threads.set t new)
    (hnew : new = rest ∨ ∃ x, new = x :: rest) (hm : s'.m = s.m ∨ s.iterating = [])
    (hind : s'.iterating.Nodup) (hmem : ∀ u, u ≠ t → (u ∈ s'.iterating ↔ u ∈ s.iterating))
    (hacc : ∀ u, u ≠ t → s'.acc u = s.acc u) (hb : ∀ u, u ≠ t → s'.began u = s.began u)
    (hhead : t ∈ s'.iterating →
      ∃ i, new = .iterNext i :: rest ∧ s'.acc t = (s'.m.take i).map (·.2) ∧ s'.began t = s'.m)
    (hconv : ∀ i r, new = .iterNext i :: r → t ∈ s'.iterating)
    (hheap : HeapInv s') (houts : ∀ o ∈ s'.outs, o.listing = o.began.vals)
    (hrace : s'.race = false) (hfatal : s'.fatal = false)
    (hexcl : s'.writer.isSome = true → s'.readers = []) (hnd : s'.readers.Nodup)
    (hother : ∀ u, u ≠ t → heldOf s' u = heldOf s u) (hself : wlT (heldOf s' t) new = true) : Inv s' where
  heapInv := hheap
  excl := hexcl
  rnodup := hnd
  inodup := hind
  wlAll := by
    intro u ts hu
    rcases get_set_cases hth (hthr ▸ hu) with ⟨rfl, rfl⟩ | ⟨hut, hu⟩
    · exact hself
    · rw [hother u hut]; exact inv.wlAll u ts hu
  clean := ⟨hrace, hfatal⟩
  iterHead := by
    intro u hu
    by_cases hut : u = t
    · subst hut
      obtain ⟨i, hn, h2, h3⟩ := hhead hu
      have hlt := (List.getElem?_eq_some_iff.mp hth).1
      exact ⟨i, rest, by rw [hthr, List.getElem?_set_self hlt, hn], h2, h3⟩
    · have hu' := (hmem u hut).mp hu
      have hm : s'.m = s.m := hm.resolve_right fun h => by rw [h] at hu'; cases hu'
      obtain ⟨i, r, h1, h2, h3⟩ := inv.iterHead u hu'
      refine ⟨i, r, ?_, ?_, ?_⟩
      · rw [hthr, List.getElem?_set_ne (Ne.symm hut)]; exact h1
      · rw [hacc u hut, hm]; exact h2
      · rw [hb u hut, hm]; exact h3
  iterConv := by
    intro u i r hu
    rcases get_set_cases hth (hthr ▸ hu) with ⟨rfl, hn⟩ | ⟨hut, hu⟩
    · exact hconv i r hn.symm
    · exact (hmem u hut).mpr (inv.iterConv u i r hu)
  restActs := by
    intro u task' rest' hu x hx
    rcases get_set_cases hth (hthr ▸ hu) with ⟨rfl, hn⟩ | ⟨hut, hu⟩
    · refine inv.restActs u task rest hth x ?_
      rcases hnew with h | ⟨y, h⟩
      · exact hn.trans h ▸ List.mem_cons_of_mem _ hx
      · exact (List.cons.inj (hn.trans h)).2 ▸ hx
    · exact inv.restActs u task' rest' hu x hx
  outsOK := houts

/-- all actions that neither start, advance nor finish a range -/
theorem inv_plain_step {s s' : Sys} (inv : Inv s) {t : Nat} {a : Act} {rest : List Task}
    (hth : s.threads[t]? = some (.act a :: rest)) (hm : s'.m = s.m ∨ s.iterating = []) (hheap : HeapInv s')
    (hrace : s'.race = false) (hfatal : s'.fatal = false)
    (hexcl : s'.writer.isSome = true → s'.readers = []) (hnd : s'.readers.Nodup)
    (hother : ∀ u, u ≠ t → heldOf s' u = heldOf s u) (hself : wlT (heldOf s' t) rest = true)
    (hthr : s'.threads = s.threads.set t rest := by rfl) (hi : s'.iterating = s.iterating := by rfl)
    (hacc : s'.acc = s.acc := by rfl) (hb : s'.began = s.began := by rfl) (houts : s'.outs = s.outs := by rfl) :
    Inv s' :=
  inv_step inv hth hthr (.inl rfl) hm (hi ▸ inv.inodup) (fun _ _ => by rw [hi]) (fun _ _ => by rw [hacc])
    (fun _ _ => by rw [hb]) (fun h => absurd (hi ▸ h) (not_iterating_of_act inv hth))
    (fun i r e => absurd e (inv.rest_ne_iterNext hth i r)) hheap (houts ▸ inv.outsOK)
    hrace hfatal hexcl hnd hother hself

theorem stepTask_inv {s s' : Sys} {t : Nat} {task : Task} {rest : List Task} (inv : Inv s)
    (hth : s.threads[t]? = some (task :: rest)) (hs : stepTask s t task rest = some s') : Inv s' := by
  obtain ⟨h', haft, hwl⟩ := wlT_cons (inv.wlAll t _ hth)
  have hsame : ∀ {s' : Sys}, s'.writer = s.writer → s'.readers = s.readers → ∀ u, u ≠ t → heldOf s' u = heldOf s u :=
    fun hw hr u _ => by unfold heldOf; rw [hw, hr]
  cases task with
  | act a =>
    have hnot := not_iterating_of_act inv hth
    have hact := afterT_act_inv haft
    cases a with
    | lock =>
      obtain ⟨_, rfl⟩ := hact
      simp only [stepTask] at hs
      split at hs
      · rename_i hc
        injection hs with hs; subst hs
        simp only [Bool.and_eq_true, Option.isNone_iff_eq_none, List.isEmpty_iff] at hc
        refine inv_plain_step inv hth (.inl rfl) (heap_frame inv.heapInv) inv.clean.1 inv.clean.2
          (fun _ => hc.2) inv.rnodup ?_ ?_
        · intro u hut
          have h1 : ¬ (some t = some u) := fun e => hut (Option.some.inj e).symm
          simp [heldOf, hc.1, h1]
        · rw [heldOf_eq_w rfl]; exact hwl
      · cases hs
    | unlock =>
      obtain ⟨hw, rfl⟩ := hact
      have hwr := heldOf_w hw
      have hre : s.readers = [] := inv.excl (by rw [hwr]; rfl)
      simp only [stepTask, hwr, beq_self_eq_true, if_true] at hs
      injection hs with hs; subst hs
      refine inv_plain_step inv hth (.inl rfl) (heap_frame inv.heapInv) inv.clean.1 inv.clean.2
        (fun h => by cases h) inv.rnodup ?_ ?_
      · intro u hut
        have h1 : ¬ (some t = some u) := fun e => hut (Option.some.inj e).symm
        simp [heldOf, hwr, h1]
      · simp only [heldOf, hre]; simpa using hwl
    | rlock =>
      obtain ⟨hf, rfl⟩ := hact
      simp only [stepTask] at hs
      split at hs
      · rename_i hc
        injection hs with hs; subst hs
        simp only [Option.isNone_iff_eq_none] at hc
        refine inv_plain_step inv hth (.inl rfl) (heap_frame inv.heapInv) inv.clean.1 inv.clean.2
          (fun h => by simp [hc] at h) (List.nodup_cons.mpr ⟨(heldOf_free hf).2, inv.rnodup⟩) ?_ ?_
        · intro u hut
          simp [heldOf, hc, hut]
        · simp only [heldOf, hc]; simpa using hwl
      · cases hs
    | runlock =>
      obtain ⟨hr, rfl⟩ := hact
      obtain ⟨hnw, hin⟩ := heldOf_r hr
      have hc : s.readers.contains t = true := List.contains_iff_mem.mpr hin
      simp only [stepTask, hc, if_true] at hs
      injection hs with hs; subst hs
      have hwn : s.writer = none := by
        cases hw : s.writer with
        | none => rfl
        | some w => have := inv.excl (by rw [hw]; rfl); rw [this] at hin; cases hin
      refine inv_plain_step inv hth (.inl rfl) (heap_frame inv.heapInv) inv.clean.1 inv.clean.2
        (fun h => by simp [hwn] at h) (inv.rnodup.erase t) ?_ ?_
      · intro u hut
        simp only [heldOf, List.mem_erase_of_ne hut]
      · have : t ∉ s.readers.erase t := fun h => ((inv.rnodup.mem_erase_iff).mp h).1 rfl
        simp only [heldOf, hwn, this]; simpa using hwl
    | put k v | del k =>
      obtain ⟨hw, rfl⟩ := hact
      have hwr := heldOf_w hw
      have hni := inv.no_iter_of_writer hwr hnot
      simp only [stepTask] at hs
      injection hs with hs; subst hs
      refine inv_plain_step inv hth (.inr hni) (heap_frame inv.heapInv) ?_ ?_ inv.excl inv.rnodup (hsame rfl rfl)
        (hw ▸ hwl)
      · simp [inv.clean.1, Sys.canWrite, hwr]
      · simp [inv.clean.2, hni]
    | size =>
      obtain ⟨hne, rfl⟩ := hact
      simp only [stepTask] at hs
      injection hs with hs; subst hs
      exact inv_plain_step inv hth (.inl rfl) (heap_frame inv.heapInv) (by simp [inv.clean.1, canRead_of_held hne])
        inv.clean.2 inv.excl inv.rnodup (hsame rfl rfl) hwl
    | use =>
      obtain rfl : h' = heldOf s t := hact
      simp only [stepTask] at hs
      injection hs with hs; subst hs
      exact inv_plain_step inv hth (.inl rfl) (heap_frame inv.heapInv) inv.clean.1 inv.clean.2 inv.excl inv.rnodup
        (hsame rfl rfl) hwl
    | mutate =>
      obtain rfl : h' = heldOf s t := hact
      simp only [stepTask] at hs
      cases hmine : s.mine t with
      | none =>
        rw [hmine] at hs; injection hs with hs; subst hs
        exact inv_plain_step inv hth (.inl rfl) (heap_frame inv.heapInv) inv.clean.1 inv.clean.2 inv.excl inv.rnodup
          (hsame rfl rfl) hwl
      | some k =>
        rw [hmine] at hs; injection hs with hs; subst hs
        obtain ⟨o, hoo, h1, _⟩ := inv.heapInv.mineOwn t k hmine
        exact inv_plain_step inv hth (.inl rfl) (heap_mutate inv.heapInv k ⟨o, hoo, h1⟩ scramble)
          inv.clean.1 inv.clean.2 inv.excl inv.rnodup (hsame rfl rfl) hwl
    | rangeCached => exact hact.elim
    | range =>
      obtain ⟨hne, rfl⟩ := hact
      simp only [stepTask] at hs
      injection hs with hs; subst hs
      exact inv_step inv hth rfl (.inr ⟨_, rfl⟩) (.inl rfl)
        (hind := List.nodup_cons.mpr ⟨hnot, inv.inodup⟩)
        (hmem := fun u hut => List.mem_cons.trans (or_iff_right hut))
        (hacc := fun u hut => if_neg hut) (hb := fun u hut => if_neg hut)
        (hhead := fun _ => ⟨0, rfl, if_pos rfl, if_pos rfl⟩)
        (hconv := fun _ _ _ => List.mem_cons_self ..)
        (heap_frame inv.heapInv) inv.outsOK (by simp [inv.clean.1, canRead_of_held hne]) inv.clean.2
        inv.excl inv.rnodup (hsame rfl rfl) ((wlT_iterNext hne 0 rest).trans hwl)
  | iterNext i =>
    obtain ⟨hne, rfl⟩ := afterT_iterNext_inv haft
    have hin : t ∈ s.iterating := inv.iterConv t i rest hth
    obtain ⟨i', r', h1, hacc, hbeg⟩ := inv.iterHead t hin
    rw [hth] at h1; injection h1 with h1; injection h1 with h1 h1r; injection h1 with h1; subst h1
    have hrace : (s.race || !s.canRead t) = false := by simp [inv.clean.1, canRead_of_held hne]
    simp only [stepTask] at hs
    cases hmi : s.m[i]? with
    | some e =>
      rw [hmi] at hs; injection hs with hs; subst hs
      refine inv_step inv hth rfl (.inr ⟨_, rfl⟩) (.inl rfl) inv.inodup (fun _ _ => .rfl)
        (hacc := fun u hut => if_neg hut) (hb := fun _ _ => rfl)
        (hhead := fun _ => ⟨i + 1, rfl, ?_, hbeg⟩) (hconv := fun _ _ _ => hin)
        (heap_frame inv.heapInv) inv.outsOK hrace inv.clean.2
        inv.excl inv.rnodup (hsame rfl rfl) ((wlT_iterNext hne _ rest).trans hwl)
      show updF s.acc t (s.acc t ++ [e.2]) t = _
      simp only [updF, if_true, hacc, List.take_add_one, hmi, List.map_append]
      rfl
    | none =>
      rw [hmi] at hs; injection hs with hs; subst hs
      have hlen : s.m.length ≤ i := List.getElem?_eq_none_iff.mp hmi
      refine inv_step inv hth rfl (.inl rfl) (.inl rfl) (inv.inodup.erase t)
        (hmem := fun u hut => List.mem_erase_of_ne hut) (hacc := fun _ _ => rfl) (hb := fun _ _ => rfl)
        (hhead := fun h => absurd rfl (inv.inodup.mem_erase_iff.mp h).1)
        (hconv := fun j r e => absurd e (inv.rest_ne_iterNext hth j r))
        (heap_alloc inv.heapInv t (s.acc t) (s.began t)) ?_ hrace inv.clean.2
        inv.excl inv.rnodup (hsame rfl rfl) hwl
      intro o ho
      rcases List.mem_append.mp ho with ho | ho
      · exact inv.outsOK o ho
      · rw [List.mem_singleton.mp ho]
        show s.acc t = (s.began t).vals
        rw [hacc, hbeg, List.take_of_length_le hlen]; rfl

theorem step_inv {s s' : Sys} {t : Nat} (inv : Inv s) (hs : step s t = some s') : Inv s' := by
  unfold step at hs
  split at hs
  · rename_i task rest hth
    exact stepTask_inv inv hth hs
  · cases hs

theorem runs : Runs step exec := ⟨fun _ => rfl, fun _ _ _ => rfl⟩

theorem exec_inv {s s' : Sys} (sched : List Nat) (inv : Inv s) (hs : exec s sched = some s') : Inv s' :=
  runs.induct Inv (fun _ _ _ hp hst => step_inv hp hst) inv hs

theorem mkSys_thread {m0 : GMap} {progs : List (List Act)} {t : Nat} {ts : List Task}
    (h : (mkSys m0 progs).threads[t]? = some ts) : ∃ p ∈ progs, ts = p.map Task.act := by
  obtain ⟨p, hp, rfl⟩ := List.getElem?_map .. ▸ h |> Option.map_eq_some_iff.1
  exact ⟨p, List.mem_of_getElem? hp, rfl⟩

theorem mkSys_inv (m0 : GMap) (progs : List (List Act)) (hwl : ∀ p ∈ progs, wellLocked p = true) :
    Inv (mkSys m0 progs) where
  heapInv := {
    handlesND := List.nodup_nil
    handlesLt := nofun
    mineOwn := nofun
    content := nofun
    dirtyOwn := nofun
    cacheNone := rfl }
  excl := fun _ => rfl
  rnodup := List.nodup_nil
  inodup := List.nodup_nil
  wlAll := by
    intro t ts hts
    obtain ⟨p, hp, rfl⟩ := mkSys_thread hts
    rw [show heldOf (mkSys m0 progs) t = .free from rfl, wlT_map_act]
    exact hwl p hp
  clean := ⟨rfl, rfl⟩
  iterHead := nofun
  iterConv := by
    intro t i rest hts
    obtain ⟨p, _, hp⟩ := mkSys_thread hts
    cases p with
    | nil => cases hp
    | cons a r => cases (List.cons.inj hp).1
  restActs := by
    intro t task rest hts x hx
    obtain ⟨p, _, hp⟩ := mkSys_thread hts
    obtain ⟨a, _, ha⟩ := List.mem_map.mp (hp ▸ List.mem_cons_of_mem task hx)
    exact ⟨a, ha.symm⟩
  outsOK := nofun

end Gate.C12
