import GateModel.C12.Lemmas
import GateModel.Gen.C12
/-
C12 — Listing players and servers is safe during concurrent joins and leaves.

The system: one Go map under a `sync.RWMutex`, ANY number of threads with ANY well-locked programs
(writers: register / unregister / players.add / players.remove / server Register / Unregister; readers:
Players, DisconnectAll, players.Range, Servers, PlayerCount, players.Len), ANY initial map content, ANY
schedule — including schedules that switch threads between two elements of a running `range`.
`wellLocked` / `copiesUnderLock` are decidable and are evaluated, on every run, on the programs read off
the REGENERATED call sequences of the real functions (`Gate.Gen.C12`), so the general theorems apply to
the code as it is now; on the unchanged tree three of them were false (`as_found_not_well_locked`).
-/
namespace Gate.C12.Props
open Gate.C12

/-- states reachable from map `m0` by well-locked thread programs under some schedule -/
def Reachable (s : Sys) : Prop :=
  ∃ (m0 : GMap) (progs : List (List Act)) (sched : List Nat),
    (∀ p ∈ progs, wellLocked p = true) ∧ exec (mkSys m0 progs) sched = some s

theorem Reachable.inv {s : Sys} (h : Reachable s) : Inv s := by
  obtain ⟨m0, progs, sched, hwl, hs⟩ := h
  exact exec_inv sched (mkSys_inv m0 progs hwl) hs

/-- no schedule makes a well-locked system hit `concurrent map iteration and map write`, and no map
    access ever executes outside the lock mode it needs -/
theorem no_fault {s : Sys} (h : Reachable s) : s.fatal = false ∧ s.race = false :=
  ⟨h.inv.clean.2, h.inv.clean.1⟩

/-- step form: in a reachable state a map write is never executed while another thread is in the middle
    of a range (the condition the Go runtime checks) -/
theorem no_write_during_foreign_range {s : Sys} (h : Reachable s) (t : Nat) (a : Act) (rest : List Task)
    (hth : s.threads[t]? = some (.act a :: rest)) (hw : (∃ k v, a = .put k v) ∨ (∃ k, a = .del k)) :
    s.iterating = [] := by
  have inv := h.inv
  have hnot := not_iterating_of_act inv hth
  obtain ⟨h', haft, _⟩ := wlT_cons (inv.wlAll t _ hth)
  have hheld : heldOf s t = .w := by
    rcases hw with ⟨k, v, rfl⟩ | ⟨k, rfl⟩ <;> exact (afterT_act_inv haft).1
  exact inv.no_iter_of_writer (heldOf_w hheld) hnot

/-- readers and the writer exclude each other, so the mutex model is a real RWMutex -/
theorem rw_exclusion {s : Sys} (h : Reachable s) (hw : s.writer.isSome = true) : s.readers = [] := h.inv.excl hw

/-- every listing a `range` returned is exactly the content the map had at one instant (when the range
    began, inside the critical section) — never a mix of entries from different moments -/
theorem snapshot_consistent {s : Sys} (h : Reachable s) (o : Out) (ho : o ∈ s.outs) : o.listing = o.began.vals :=
  h.inv.outsOK o ho

/-- while a range is running the map still has the content it had when the range began, and what has
    been collected so far is a prefix of it -/
theorem map_frozen_during_range {s : Sys} (h : Reachable s) (t : Nat) (ht : t ∈ s.iterating) :
    s.began t = s.m ∧ ∃ i, s.acc t = (s.m.take i).map (·.2) := by
  obtain ⟨i, _, _, h2, h3⟩ := h.inv.iterHead t ht
  exact ⟨h3, i, h2⟩

/-- a thread in the middle of a range holds the mutex -/
theorem range_holds_lock {s : Sys} (h : Reachable s) (t : Nat) (ht : t ∈ s.iterating) : s.canRead t = true :=
  canRead_of_held (h.inv.iter_held ht)

/-- every listing call hands out its OWN backing array: no two returned lists share one, and a returned
    list still holds exactly the snapshot it was built from unless that very slice was mutated in place -/
theorem returned_lists_unshared {s : Sys} (h : Reachable s) :
    (s.outs.map (·.handle)).Nodup ∧
    (∀ o ∈ s.outs, o.handle ∈ s.dirty ∨ s.heap[o.handle]? = some o.listing) ∧
    s.cache = none :=
  ⟨h.inv.heapInv.handlesND, h.inv.heapInv.content, h.inv.heapInv.cacheNone⟩

/-- a caller that reorders / overwrites the list it got (sortServers(proxy.Servers())) changes the slice
    of no other caller, and the slice it changes is one that was returned to IT -/
theorem mutation_touches_only_own_slice {s s' : Sys} {t : Nat} {rest : List Task} (h : Reachable s)
    (hth : s.threads[t]? = some (.act .mutate :: rest)) (hs : step s t = some s') :
    (∀ o ∈ s.outs, s.mine t ≠ some o.handle → s'.heap[o.handle]? = s.heap[o.handle]?) ∧
    (∀ k, s.mine t = some k → ∃ o ∈ s.outs, o.handle = k ∧ o.tid = t) ∧
    s'.outs = s.outs ∧ s'.m = s.m := by
  unfold step at hs
  rw [hth] at hs
  simp only [stepTask] at hs
  refine ⟨?_, h.inv.heapInv.mineOwn t, ?_⟩
  · intro o _ hne
    cases hm : s.mine t with
    | none => rw [hm] at hs; injection hs with hs; subst hs; rfl
    | some k =>
      rw [hm] at hs hne; injection hs with hs; subst hs
      exact List.getElem?_set_ne fun e => hne (congrArg some e)
  · cases hm : s.mine t <;> (rw [hm] at hs; injection hs with hs; subst hs; exact ⟨rfl, rfl⟩)

/-- a listing made AFTER some caller scrambled its list is still the map's content: `snapshot_consistent`
    holds for every out, whatever mutations happened before -/
theorem later_listing_unaffected {s : Sys} (h : Reachable s) (o : Out) (ho : o ∈ s.outs) :
    o.listing = o.began.vals ∧ (o.handle ∈ s.dirty ∨ s.heap[o.handle]? = some o.began.vals) := by
  have h1 := h.inv.outsOK o ho
  refine ⟨h1, ?_⟩
  rcases h.inv.heapInv.content o ho with hd | hc
  · exact Or.inl hd
  · exact Or.inr (h1 ▸ hc)

/-- a CACHED listing (first caller builds the slice, later callers get the same backing array) breaks
    this: caller 0 lists and reorders its result in place, caller 1 lists afterwards and is handed
    `[2, 2, 3]` — server 2 twice, server 1 not at all — while the registry holds `[1, 2, 3]` -/
theorem cached_listing_fails :
    ((exec (mkSys [(1, 1), (2, 2), (3, 3)] [[.rangeCached, .mutate], [.rangeCached]]) [0, 0, 1]).map
      (fun s => (s.outs.map (·.listing), s.outs.map (·.handle), s.m.vals))) =
      some ([[1, 2, 3], [2, 2, 3]], [0, 0], [1, 2, 3]) := by decide +kernel

/-- the repaired readers under the same usage: two distinct slices, the second caller sees the registry -/
example :
    ((exec (mkSys [(1, 1), (2, 2), (3, 3)] [playersRepaired ++ [.mutate], playersRepaired])
        [0, 0, 0, 0, 0, 0, 0, 0, 0, 0, 1, 1, 1, 1, 1, 1, 1, 1, 1]).map
      (fun s => (s.outs.map (·.listing), s.outs.map (·.handle), s.heap))) =
      some ([[1, 2, 3], [1, 2, 3]], [0, 1], [[2, 2, 3], [1, 2, 3]]) := by decide +kernel

/-- `rangeCached` is allowed in no lock mode, so the general theorems do not speak of a cached listing -/
theorem cached_listing_not_well_locked : wellLocked [.rangeCached] = false := by decide +kernel

/-- DESIGN §11 row 8.  `Players()` as found (map header copied under RLock, iterated after RUnlock) against one
    registration: reader releases the lock, starts the range, the writer writes → fatal, and race -/
theorem no_fault_fails :
    ((exec (mkSys [(1, 1), (2, 2)] [playersAsFound, [.lock, .put 3 3, .unlock]]) [0, 0, 0, 0, 0, 1, 1]).map
      (fun s => (s.fatal, s.race))) = some (true, true) := by decide +kernel

/-- without a crash the listing mixes moments: the reader has seen player 1, the writer removes 1 and
    adds 3, the reader goes on and returns `[1, 3]` — the content of the map at NO instant
    (`[1, 2]` before the writer, `[2, 3]` after) -/
theorem snapshot_fails :
    ((exec (mkSys [(1, 1), (2, 2)] [rangeAsFound, [.lock, .del 1, .put 3 3, .unlock]])
        [0, 0, 0, 0, 1, 1, 1, 1, 0, 0, 0]).map
      (fun s => (s.outs.map (·.listing), s.m.vals))) = some ([[1, 3]], [2, 3]) := by decide +kernel

/-- the same schedules cannot even be run against the repaired reader: the writer is not enabled while
    the reader is inside its section -/
theorem repaired_reader_blocks_writer :
    (exec (mkSys [(1, 1), (2, 2)] [playersRepaired, [.lock, .put 3 3, .unlock]]) [0, 0, 0, 1]) = none := by decide +kernel

/-- and any complete run of it returns the snapshot -/
example :
    ((exec (mkSys [(1, 1), (2, 2)] [playersRepaired, [.lock, .put 3 3, .unlock]]) [0, 0, 0, 0, 0, 0, 0, 1, 1, 1, 0]).map
      (fun s => (s.outs.map (·.listing), s.m.vals, s.fatal, s.race))) = some ([[1, 2]], [1, 2, 3], false, false) := by
  decide +kernel

/-- the three readers as found are not well-locked programs: the general theorems do not speak of them -/
theorem as_found_not_well_locked :
    wellLocked playersAsFound = false ∧ wellLocked disconnectAllAsFound = false ∧ wellLocked rangeAsFound = false := by
  decide +kernel

/-! ### source shape (regenerated from /repo on every run): the real functions are well-locked programs -/

/-- the three listing functions that were defective: each copies the map inside its read section -/
theorem listing_copies_under_lock :
    copiesUnderLock (progOf "p.muP" false Gate.Gen.C12.playersCalls) = true ∧
    copiesUnderLock (progOf "p.muP" true Gate.Gen.C12.disconnectAllCalls) = true ∧
    copiesUnderLock (progOf "p.mu" false Gate.Gen.C12.rangeCalls) = true := by decide +kernel

/-- EXACT bodies of the two functions that RETURN a list: read section (deferred unlock), a `make` of the
    result inside it on every call, the copying loop, return — nothing else is called: no cache is
    consulted or stored, nothing returns before the section (no fast path) -/
theorem listings_are_fresh_copies :
    Gate.Gen.C12.serversCalls = ["p.muS.RLock", "defer:p.muS.RUnlock", "len", "make", "append", "return"] ∧
    Gate.Gen.C12.playersCalls = ["p.muP.RLock", "defer:p.muP.RUnlock", "len", "make", "append", "return"] := by
  decide +kernel

/-- the two listers that do not return the list (they consume it): the copy is `make`d inside the
    section on every call and nothing precedes the section -/
theorem consumed_listings_are_fresh_copies :
    Gate.Gen.C12.disconnectAllCalls.takeWhile (· ≠ "p.muP.RUnlock") = ["p.muP.RLock", "len", "make", "append"] ∧
    Gate.Gen.C12.rangeCalls.takeWhile (· ≠ "p.mu.RUnlock") = ["p.mu.RLock", "len", "make", "append"] ∧
    Gate.Gen.C12.rangeCalls = ["p.mu.RLock", "len", "make", "append", "p.mu.RUnlock", "fn", "return"] := by
  decide +kernel

/-- DisconnectAll and Range release the lock BEFORE they disconnect players / run the callback
    (holding it there would deadlock with teardown's unregister, or with a callback that calls add/remove) -/
theorem callbacks_outside_lock :
    (progOf "p.muP" true Gate.Gen.C12.disconnectAllCalls).getLast? = some .use ∧
    (progOf "p.mu" false Gate.Gen.C12.rangeCalls).getLast? = some .use ∧
    (progOf "p.muP" true Gate.Gen.C12.disconnectAllCalls).dropWhile (· ≠ .runlock) = [.runlock, .use, .use, .use] ∧
    (progOf "p.mu" false Gate.Gen.C12.rangeCalls).dropWhile (· ≠ .runlock) = [.runlock, .use] := by decide +kernel

/-- the other readers -/
theorem other_readers_well_locked :
    copiesUnderLock (progOf "p.muS" false Gate.Gen.C12.serversCalls) = true ∧
    wellLocked (progOf "p.muP" false Gate.Gen.C12.playerCountCalls) = true ∧
    (progOf "p.muP" false Gate.Gen.C12.playerCountCalls).contains .size = true ∧
    wellLocked (progOf "p.mu" false Gate.Gen.C12.lenCalls) = true ∧
    (progOf "p.mu" false Gate.Gen.C12.lenCalls).contains .size = true ∧
    wellLocked (progOf "p.muP" false Gate.Gen.C12.resetCalls) = true := by decide +kernel

/-- the writers: every `delete`/`len` of unregisterConnection, players.remove and Unregister sits in a
    write section; add/remove/registerConnection are Lock…Unlock bracketed -/
theorem writers_well_locked :
    wellLocked (progOf "p.muP" false Gate.Gen.C12.unregisterCalls) = true ∧
    (progOf "p.muP" false Gate.Gen.C12.unregisterCalls).count (.del 0) = 2 ∧
    wellLocked (progOf "p.mu" false Gate.Gen.C12.removeCalls) = true ∧
    (progOf "p.mu" false Gate.Gen.C12.removeCalls).contains (.del 0) = true ∧
    wellLocked (progOf "p.mu" false Gate.Gen.C12.addCalls) = true ∧
    (progOf "p.mu" false Gate.Gen.C12.addCalls) = [.lock, .unlock] ∧
    wellLocked (progOf "p.muS" false Gate.Gen.C12.unregisterServerCalls) = true ∧
    (progOf "p.muS" false Gate.Gen.C12.unregisterServerCalls).contains (.del 0) = true := by decide +kernel

/-- the unregister section of a connection that was never registered (a refused duplicate login) deletes
    a key that is not there: the map, hence `len(m)` = PlayerCount and every later listing, is unchanged -/
theorem del_absent_keeps_map (m : GMap) (k : Key) (h : ∀ e ∈ m, e.1 ≠ k) : m.del k = m := by
  unfold GMap.del
  apply List.filter_eq_self.mpr
  intro e he
  simp [h e he]

/-- deleting never makes the count negative or larger -/
theorem del_length_le (m : GMap) (k : Key) : (m.del k).length ≤ m.length := List.length_filter_le _ _

example : Reachable (mkSys [] []) := ⟨[], [], [], (fun p hp => by cases hp), rfl⟩

/-- a reachable state in which a reader is in the middle of its range while the writer waits -/
example : ∃ s, Reachable s ∧ s.iterating = [0] ∧ s.acc 0 = [1] :=
  ⟨_, ⟨[(1, 1), (2, 2)], [playersRepaired, [.lock, .put 3 3, .unlock]], [0, 0, 0, 0],
      by decide, rfl⟩, rfl, rfl⟩

end Gate.C12.Props
