import GateModel.C09.Lemmas
import GateModel.Gen.C09
/-
C09 — the server id sent to the session server equals Java's signed SHA-1 hex digest.

`gateHex` is the model of what `GenerateServerID` does after hashing, `javaHex ∘ signedOfBytesBE` is
`new BigInteger(digest).toString(16)`.
-/
namespace Gate.C09.Props
open Gate Gate.Hash Gate.C09

/-- `twosComplement(p)` is `2^(8·len) − p` modulo `2^(8·len)` and keeps the length -/
theorem twos_complement_correct (d : Bytes) :
    beNat (twosComplement d) = (256 ^ d.length - beNat d) % 256 ^ d.length
    ∧ (twosComplement d).length = d.length :=
  ⟨twosComplement_value d, twosComplement_length d⟩

/-- for EVERY non-empty digest (all 2^160 twenty-byte values included) whose integer value is not 0, gate's string is
    Java's string: sign bit, leading zero nibbles, carries across all bytes -/
theorem serverid_eq (d : Bytes) (hne : d ≠ []) (hnz : signedOfBytesBE d ≠ 0) :
    gateHex d = javaHex (signedOfBytesBE d) := by
  unfold gateHex javaHex
  congr 1
  match d, hne with
  | b :: r, _ =>
    unfold gateHexChars javaHexChars
    rw [signBit_cons]
    rcases signed_cons b r with ⟨hs, hneg, habs, hpos, hlt⟩ | ⟨hs, hsigned⟩
    · rw [if_pos (by simpa using hs), if_pos hneg, habs, trim_hex, twosComplement_value,
        Nat.mod_eq_of_lt (by omega), if_neg (by omega)]
    · have hnz' : beNat (b :: r) ≠ 0 := fun h => hnz (by rw [hsigned, h]; rfl)
      rw [if_neg (by simpa using hs), hsigned, if_neg (by omega), Int.natAbs_natCast, trim_hex, if_neg hnz']

/-- for every shared secret and every proxy public key (SHA-1 as implemented in `Sha1.lean`) -/
theorem serverid_eq_sha1 (secret pub : Bytes) (hnz : signedOfBytesBE (sha1 (secret ++ pub)) ≠ 0) :
    serverID secret pub = javaHex (signedOfBytesBE (sha1 (secret ++ pub))) :=
  serverid_eq _ (List.ne_nil_of_length_pos (by rw [sha1_length]; decide)) hnz

/-- the only excluded digest: value 0.  Gate prints the empty string, Java prints "0".  Reaching it needs a SHA-1
    preimage of 0, so it is noted, not reported (DESIGN §11 row 22). -/
theorem zero_digest_differs :
    gateHex (List.replicate 20 0) = "" ∧ javaHex (signedOfBytesBE (List.replicate 20 0)) = "0" := by
  constructor <;> decide +kernel

/-- a digest with value 0 is all zero bytes: nothing else is excluded by `serverid_eq` -/
theorem zero_value_only_zero_digest (d : Bytes) (h : signedOfBytesBE d = 0) : ∀ b ∈ d, b = 0 := by
  match d with
  | [] => nofun
  | b :: r =>
    rcases signed_cons b r with ⟨_, hneg, _⟩ | ⟨_, hsigned⟩
    · omega
    · exact beNat_eq_zero _ (by omega)

/-- regenerated from authenticator.go on every run: hash = SHA-1 over two writes, then
    twosComplement / '-' / hex / TrimLeft in this order -/
theorem source_shape :
    (Gate.Gen.C09.generateServerIDCalls.filter
        (fun c => !(c == "return" || c == "fmt.Errorf" || c == "{" || c == "}"))) =
      ["sha1.New", "h.Write", "h.Write", "h.Sum", "twosComplement", "s.WriteRune",
       "hex.EncodeToString", "strings.TrimLeft", "s.WriteString", "s.String"] := by
  decide +kernel

/-! ### non-vacuity: the published Minecraft test vectors (wiki.vg), one positive, one negative,
    one with a leading zero nibble; and the hypotheses of `serverid_eq` are satisfiable -/
example : serverID "Notch".toUTF8.toList [] = "4ed1f46bbe04bc756bcb17c0c7ce3e4632f06a48" := by decide +kernel
example : serverID "jeb_".toUTF8.toList [] = "-7c9d5b0044c130109a5d7b5fb5c317c02b4e28c1" := by decide +kernel
example : serverID "simon".toUTF8.toList [] = "88e16a1019277b15d58faf0541e11910eb756f6" := by decide +kernel
example : signedOfBytesBE (sha1 ("jeb_".toUTF8.toList ++ [])) ≠ 0 := by decide +kernel
example : gateHex [0xff, 0x00] = "-100" ∧ javaHex (signedOfBytesBE [0xff, 0x00]) = "-100" := by
  constructor <;> decide +kernel
example : gateHex [0x80, 0x00, 0x00] = "-800000" := by decide +kernel

end Gate.C09.Props
