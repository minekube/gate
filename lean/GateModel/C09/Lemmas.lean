import GateModel.C09.Model
import GateModel.C09.Spec
import GateModel.Base.BytesLemmas
/-
C09 helper lemmas: little-endian value of the carry loop, hex digits vs `Nat.toDigits 16`.
-/
namespace Gate.C09
open Gate Gate.Hash

/-- least-significant-byte-first value -/
def leNat : Bytes → Nat
  | [] => 0
  | b :: r => b.toNat + 256 * leNat r

theorem leNat_lt (l : Bytes) : leNat l < 256 ^ l.length := by
  induction l with
  | nil => simp [leNat]
  | cons b r ih =>
    have hb := b.toNat_lt
    simp only [leNat, List.length_cons, Nat.pow_succ]
    omega

theorem beNat_reverse (l : Bytes) : beNat l.reverse = leNat l := by
  induction l with
  | nil => rfl
  | cons b r ih => rw [List.reverse_cons, beNat_append_single, ih, leNat]; omega

theorem leNat_reverse (l : Bytes) : leNat l.reverse = beNat l := by
  rw [← beNat_reverse, List.reverse_reverse]

theorem leNat_eq_zero : ∀ (l : Bytes), leNat l = 0 → ∀ x ∈ l, x = 0
  | [], _ => nofun
  | c :: t, h => by
    rw [leNat] at h
    rw [List.forall_mem_cons]
    exact ⟨UInt8.toNat_inj.mp (by omega : c.toNat = 0), leNat_eq_zero t (by omega)⟩

theorem beNat_eq_zero (l : Bytes) (h : beNat l = 0) : ∀ x ∈ l, x = 0 :=
  fun x hx => leNat_eq_zero l.reverse (by rw [leNat_reverse, h]) x (List.mem_reverse.2 hx)

/-- the two's-complement reading of a non-empty byte string: with the top bit set it is negative, of magnitude
    `256^n − beNat`, which lies strictly between 0 and `256^n`; otherwise it is the big-endian value -/
theorem signed_cons (b : UInt8) (r : Bytes) :
    (b.toNat ≥ 128 ∧ signedOfBytesBE (b :: r) < 0 ∧
      (signedOfBytesBE (b :: r)).natAbs = 256 ^ (b :: r).length - beNat (b :: r) ∧
      0 < beNat (b :: r) ∧ beNat (b :: r) < 256 ^ (b :: r).length) ∨
    (¬ b.toNat ≥ 128 ∧ signedOfBytesBE (b :: r) = beNat (b :: r)) := by
  have hlt := beNat_lt (b :: r)
  by_cases hs : b.toNat ≥ 128
  · have hge : 128 * 256 ^ r.length ≤ beNat (b :: r) := by
      rw [beNat_cons]
      have := Nat.mul_le_mul_right (256 ^ r.length) hs
      omega
    have hpos : 0 < 256 ^ r.length := Nat.pow_pos (by decide)
    have hsigned : signedOfBytesBE (b :: r) = (beNat (b :: r) : Int) - (256 ^ (b :: r).length : Nat) := by
      simp [signedOfBytesBE, hs]
    exact .inl ⟨hs, by omega, by omega, by omega, hlt⟩
  · exact .inr ⟨hs, by simp [signedOfBytesBE, hs]⟩

theorem tcRev_length (c : Bool) (l : Bytes) : (tcRev c l).length = l.length := by
  induction l generalizing c with
  | nil => simp [tcRev]
  | cons b r ih => simp only [tcRev]; split <;> simp [ih]

theorem not_toNat (b : UInt8) : (~~~b).toNat = 255 - b.toNat := by
  rw [UInt8.toNat_not]; rfl

theorem tcRev_false (l : Bytes) : leNat (tcRev false l) = 256 ^ l.length - 1 - leNat l := by
  induction l with
  | nil => simp [tcRev, leNat]
  | cons b r ih =>
    have hb := b.toNat_lt
    have hr := leNat_lt r
    simp only [tcRev, leNat, ih, not_toNat, List.length_cons, Nat.pow_succ, Bool.false_eq_true, if_false]
    omega

/-- the carry goes on exactly from a zero byte, whose complement `0xff` wraps to 0 -/
theorem carry_zero (b : UInt8) (h0 : b.toNat = 0) : ((~~~b) == 0xff) = true ∧ ((~~~b) + 1).toNat = 0 := by
  have hff : ~~~b = 0xff := UInt8.toNat_inj.mp (by rw [not_toNat, h0]; rfl)
  rw [hff]
  exact ⟨rfl, rfl⟩

theorem carry_nonzero (b : UInt8) (h0 : b.toNat ≠ 0) :
    ((~~~b) == 0xff) = false ∧ ((~~~b) + 1).toNat = 256 - b.toNat := by
  have hb := b.toNat_lt
  have h255 : (0xff : UInt8).toNat = 255 := rfl
  have h1 : (1 : UInt8).toNat = 1 := rfl
  constructor
  · rw [beq_eq_false_iff_ne]
    intro h
    have := congrArg UInt8.toNat h
    rw [not_toNat] at this
    omega
  · rw [UInt8.toNat_add, not_toNat]
    omega

theorem tcRev_true (l : Bytes) :
    leNat (tcRev true l) = (256 ^ l.length - leNat l) % 256 ^ l.length := by
  induction l with
  | nil => simp [tcRev, leNat]
  | cons b r ih =>
    have hr := leNat_lt r
    simp only [tcRev, if_true, leNat, List.length_cons, Nat.pow_succ]
    by_cases h0 : b.toNat = 0
    · obtain ⟨hff, hz⟩ := carry_zero b h0
      rw [hff, ih, hz, h0]
      have : 256 ^ r.length * 256 - (0 + 256 * leNat r) = 256 * (256 ^ r.length - leNat r) := by
        rw [Nat.mul_sub, Nat.mul_comm]; omega
      rw [this, Nat.mul_comm (256 ^ r.length) 256, Nat.mul_mod_mul_left]
      omega
    · obtain ⟨hff, hz⟩ := carry_nonzero b h0
      have hb := b.toNat_lt
      rw [hff, tcRev_false, hz, Nat.mod_eq_of_lt (by omega)]
      omega

/-- `twosComplement` computes `2^(8n) − x (mod 2^(8n))` on the big-endian value -/
theorem twosComplement_value (d : Bytes) :
    beNat (twosComplement d) = (256 ^ d.length - beNat d) % 256 ^ d.length := by
  unfold twosComplement
  rw [beNat_reverse, tcRev_true, List.length_reverse, leNat_reverse]

theorem twosComplement_length (d : Bytes) : (twosComplement d).length = d.length := by
  simp [twosComplement, tcRev_length]

def nibbles : Bytes → List Nat
  | [] => []
  | b :: r => b.toNat / 16 :: b.toNat % 16 :: nibbles r

def ofNibs (acc : Nat) (ns : List Nat) : Nat := ns.foldl (fun a x => a * 16 + x) acc

theorem hexEncode_eq (d : Bytes) : hexEncode d = (nibbles d).map Nat.digitChar := by
  induction d with
  | nil => rfl
  | cons b r ih => simp [hexEncode, nibbles, ih]

theorem nibbles_lt (d : Bytes) : ∀ x ∈ nibbles d, x < 16 := by
  induction d with
  | nil => simp [nibbles]
  | cons b r ih =>
    have hb := b.toNat_lt
    intro x hx
    simp only [nibbles, List.mem_cons] at hx
    rcases hx with h | h | h
    · omega
    · omega
    · exact ih x h

theorem ofNibs_nibbles (acc : Nat) (d : Bytes) :
    ofNibs acc (nibbles d) = acc * 256 ^ d.length + beNat d := by
  -- the two nibbles of a byte shift the accumulator as the byte does in `beNat`
  rw [← beNat_foldl]
  induction d generalizing acc with
  | nil => rfl
  | cons b r ih =>
    have e : (acc * 16 + b.toNat / 16) * 16 + b.toNat % 16 = acc * 256 + b.toNat := by omega
    rw [List.foldl_cons, ← e, ← ih]
    rfl

theorem ofNibs_ge (acc : Nat) (ns : List Nat) : acc ≤ ofNibs acc ns := by
  induction ns generalizing acc with
  | nil => simp [ofNibs]
  | cons x r ih =>
    have := ih (acc * 16 + x)
    simp only [ofNibs, List.foldl_cons] at this ⊢
    omega

/-- printing a positive accumulator followed by more digits -/
theorem toDigits_ofNibs (acc : Nat) (ns : List Nat) (hacc : 0 < acc) (h : ∀ x ∈ ns, x < 16) :
    Nat.toDigits 16 (ofNibs acc ns) = Nat.toDigits 16 acc ++ ns.map Nat.digitChar := by
  induction ns generalizing acc with
  | nil => simp [ofNibs]
  | cons x r ih =>
    have hx : x < 16 := h x (List.mem_cons_self ..)
    have hr : ∀ y ∈ r, y < 16 := fun y hy => h y (List.mem_cons_of_mem _ hy)
    have step : ofNibs acc (x :: r) = ofNibs (16 * acc + x) r := by
      simp [ofNibs, Nat.mul_comm]
    rw [step, ih (16 * acc + x) (by omega) hr,
      ← Nat.toDigits_append_toDigits (by decide) hacc hx, Nat.toDigits_of_lt_base hx]
    simp

theorem digitChar_eq_zero : ∀ x, x < 16 → ((Nat.digitChar x == '0') = (x == 0)) := by decide

/-- `TrimLeft(hex, "0")` of a digit string is the positional printing of its value, or empty for 0 -/
theorem trim_digits (ns : List Nat) (h : ∀ x ∈ ns, x < 16) :
    trimLeft0 (ns.map Nat.digitChar) =
      if ofNibs 0 ns = 0 then [] else Nat.toDigits 16 (ofNibs 0 ns) := by
  induction ns with
  | nil => simp [trimLeft0, ofNibs]
  | cons x r ih =>
    have hx : x < 16 := h x (List.mem_cons_self ..)
    have hr : ∀ y ∈ r, y < 16 := fun y hy => h y (List.mem_cons_of_mem _ hy)
    have hd := digitChar_eq_zero x hx
    by_cases h0 : x = 0
    · subst h0
      have : ofNibs 0 (0 :: r) = ofNibs 0 r := by simp [ofNibs]
      rw [this, ← ih hr]
      simp [trimLeft0]
    · have hne : (Nat.digitChar x == '0') = false := by rw [hd]; simpa using h0
      have step : ofNibs 0 (x :: r) = ofNibs x r := by simp [ofNibs]
      have hpos : 0 < ofNibs x r := Nat.lt_of_lt_of_le (by omega) (ofNibs_ge x r)
      rw [step, if_neg (by omega), toDigits_ofNibs x r (by omega) hr, Nat.toDigits_of_lt_base hx]
      simp [trimLeft0, hne]

theorem trim_hex (d : Bytes) :
    trimLeft0 (hexEncode d) = if beNat d = 0 then [] else Nat.toDigits 16 (beNat d) := by
  rw [hexEncode_eq, trim_digits _ (nibbles_lt d), ofNibs_nibbles]
  simp

theorem signBit_table : ∀ n, n < 256 → (((UInt8.ofNat n) &&& 0x80) == 0x80) = decide (n ≥ 128) := by
  decide +kernel

theorem signBit_cons (b : UInt8) (r : Bytes) : signBit (b :: r) = decide (b.toNat ≥ 128) := by
  have := signBit_table b.toNat b.toNat_lt
  simpa [signBit] using this

end Gate.C09
