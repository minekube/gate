import GateModel.C15.Model
import GateModel.C01.Lemmas
/-
C15 — Non-intercepted packets are relayed byte-identical and in order.
Corollaries of C01's stream round trip applied to both legs with INDEPENDENT thresholds.
-/
namespace Gate.C15.Props
open Gate Gate.C01 Gate.C15

/-- the relay preserves payloads and relative order: it is exactly the sub-list of non-intercepted frames -/
theorem relay_is_sublist (i : Bytes → Bool) (fs : List Bytes) :
    relay i fs = fs.filter (fun f => !i f) ∧ (relay i fs).Sublist fs := by
  refine ⟨rfl, ?_⟩
  unfold relay; exact List.filter_sublist

/-- nothing intercepted ⇒ the relay is the identity -/
theorem relay_identity_when_nothing_intercepted (fs : List Bytes) : relay (fun _ => false) fs = fs := by
  unfold relay; simp

/-- End to end for one direction: the peer writes `ps` with the threshold of `cfgA`, the proxy reads them with the
    same threshold, forwards every non-intercepted payload, writing with the threshold of `cfgB`; the other peer,
    reading with `cfgB`, receives exactly the non-intercepted payloads, identical and in order — whatever the
    sizes (within the frame cap) and however the two thresholds differ. -/
theorem relay_end_to_end (cfgA cfgB : Cfg) (D : Bytes → Bytes) (Z : Bytes → Option Bytes)
    (intercepted : Bytes → Bool) (ps : List Bytes)
    (hA : ∀ p ∈ ps, Fits cfgA D Z p) (hB : ∀ p ∈ ps, Fits cfgB D Z p)
    (f1 f2 : Nat) (h1 : ps.length < f1) (h2 : ps.length < f2) :
    decodeAll cfgB Z f2 (relayWire cfgA cfgB.threshold D Z intercepted f1 (encodeAll cfgA.threshold D ps))
      = (ps.filter (fun p => !intercepted p), none) := by
  rw [relayWire, decodeAll_encodeAll cfgA D Z ps hA f1 h1]
  exact decodeAll_encodeAll cfgB D Z _ (fun p hp => hB p (List.mem_filter.mp hp).1) f2
    (Nat.lt_of_le_of_lt (List.length_filter_le _ _) h2)

/-- the gate is transparent once the player is in play: if `canForward` holds from the `i`-th dispatched frame
    on, the gated relay IS the relay — nothing that is sent while the player is in play on the backend is dropped. -/
theorem relay_gated_after_connect (intercepted : Bytes → Bool) (up : Nat → Bool) (i : Nat) (fs : List Bytes)
    (hup : ∀ j, i ≤ j → up j = true) :
    relayGated intercepted up i fs = relay intercepted fs := by
  induction fs generalizing i with
  | nil => rfl
  | cons f t ih =>
    simp only [relayGated, hup i (Nat.le_refl i), Bool.and_true, ih (i + 1) (fun j hj => hup j (by omega)),
      relay, List.filter_cons]

/-- …and what happens before: frames dispatched while the connected server is not yet set are dropped, the rest is
    relayed in order (the transition window; the same behaviour as Velocity's `ClientPlaySessionHandler`) -/
theorem relay_gated_window (intercepted : Bytes → Bool) (up : Nat → Bool) (i : Nat) (early late : List Bytes)
    (hdown : ∀ j, i ≤ j → j < i + early.length → up j = false)
    (hup : ∀ j, i + early.length ≤ j → up j = true) :
    relayGated intercepted up i (early ++ late) = relay intercepted late := by
  induction early generalizing i with
  | nil => simpa using relay_gated_after_connect intercepted up i late (by simpa using hup)
  | cons f t ih =>
    rw [List.cons_append]
    unfold relayGated
    rw [hdown i (Nat.le_refl i) (by simp)]
    simp only [Bool.and_false, Bool.false_eq_true, if_false]
    apply ih (i + 1)
    · intro j h1 h2; exact hdown j (by omega) (by simp; omega)
    · intro j h1; exact hup j (by simp; omega)

open Gate.Gen.C15 in
/-- where the window lies: `handleJoinGame` writes JoinGame to the client (`playHandler.handleBackendJoinGame`)
    BEFORE it sets the connected server, and `canForward` gates on exactly that field and the phase -/
theorem src_transition_window :
    handleJoinGameCalls.idxOf "playHandler.handleBackendJoinGame" <
      handleJoinGameCalls.idxOf "b.serverConn.player.setConnectedServer" ∧
    "b.serverConn.player.setConnectedServer" ∈ handleJoinGameCalls ∧
    "player.connectedServer" ∈ canForwardCalls ∧ "serverConn.phase().ConsideredComplete" ∈ canForwardCalls ∧
    forwardToServerCalls.head? = some "canForward" := by
  decide +kernel

open Gate.Gen.C15 in
/-- unknown packets and the `default:` branch go to the forward functions, which write `pc.Payload`
    (the bytes as received) and never re-encode -/
theorem src_forward_writes_payload :
    "serverMc.Write" ∈ forwardToServerCalls ∧ "b.serverConn.player.Write" ∈ forwardToPlayerCalls ∧
    "c.forwardToServer" ∈ clientHandlePacketCalls ∧ "b.forwardToPlayer" ∈ backendHandlePacketCalls ∧
    "default" ∈ clientHandlePacketCases ∧ "default" ∈ backendHandlePacketCases ∧
    clientHandlePacketCalls.head? = some "pc.KnownPacket" ∧ backendHandlePacketCalls.head? = some "pc.KnownPacket" := by
  simp [forwardToServerCalls, forwardToPlayerCalls, clientHandlePacketCalls, backendHandlePacketCalls,
    clientHandlePacketCases, backendHandlePacketCases]

example : relay (fun f => f.head? == some 0) [[1, 2], [0, 9], [3]] = [[1, 2], [3]] := by decide +kernel
example : relayGated (fun f => f.head? == some 0) (fun j => decide (2 ≤ j)) 0 [[7], [8], [1, 2], [0, 9], [3]] =
    [[1, 2], [3]] := by decide +kernel

end Gate.C15.Props
