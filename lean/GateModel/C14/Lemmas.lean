import GateModel.C14.Model
import GateModel.Base.Sched
/-
C14 helper lemmas: step inversion, the kinds of change an action can make, the FIFO-log invariant of the
repaired code, monotonicity of the wire.
-/
namespace Gate.C14

theorem step_inv {m s t s'} (h : step m s t = some s') :
    ∃ act rest s1 pushed, s.threads[t]? = some (act :: rest) ∧ effect m s t act = some (s1, pushed) ∧
      s' = { s1 with threads := s.threads.set t (pushed ++ rest) } := by
  unfold step at h
  split at h
  · rename_i act rest hth
    split at h
    · rename_i s1 pushed he
      simp at h
      exact ⟨act, rest, s1, pushed, hth, he, h.symm⟩
    · simp at h
  · simp at h

theorem runs (m : Mode) : Runs (step m) (exec m) := ⟨fun _ => rfl, fun _ _ _ => rfl⟩

theorem released_append_false (w : List (Pkt × Bool)) (p : Pkt) :
    ((w ++ [(p, false)]).filter (·.2)).map (·.1) = (w.filter (·.2)).map (·.1) := by
  simp [List.filter_append]
theorem released_append_true (w : List (Pkt × Bool)) (p : Pkt) :
    ((w ++ [(p, true)]).filter (·.2)).map (·.1) = (w.filter (·.2)).map (·.1) ++ [p] := by
  simp [List.filter_append]

/-- the invariant of the repaired code -/
structure Inv (s : Sys) : Prop where
  fifo : released s ++ held s ++ s.dropped = s.qlog
  bound : (held s).length ≤ cap
  drop : s.dropped ≠ [] → s.closed = true ∧ held s = []
  noLost : s.lost = []
  accepted : ∀ e ∈ s.results, e.2.2 = .ok → e.2.1 ∈ s.qlog ∨ (e.2.1, false) ∈ s.wire

theorem inv_mkSys (inConfig : Bool) (threads : List (List Act)) : Inv (mkSys inConfig threads) := by
  cases inConfig <;> exact ⟨rfl, Nat.zero_le _, fun h => absurd rfl h, rfl, fun e he => nomatch he⟩

theorem Inv.dropped_nil {s : Sys} (inv : Inv s) (hc : s.closed = false) : s.dropped = [] :=
  Classical.byContradiction fun hne => Bool.noConfusion (hc.symm.trans (inv.drop hne).1)

/-- What one action can do to the packets and the result log (`held` instead of `queue`: creating or removing an
    empty queue holds nothing more or less).  `lost` happens only in the code before the fix. -/
inductive Change (m : Mode) (s : Sys) (t : Nat) (s1 : Sys) : Prop where
  | quiet (hw : s1.wire = s.wire) (hh : held s1 = held s) (hd : s1.dropped = s.dropped) (hq : s1.qlog = s.qlog)
      (hc : s.closed = true → s1.closed = true) (hl : s1.lost = s.lost)
      (hr : s1.results = s.results ∨ ∃ p r, r ≠ .ok ∧ s1.results = s.results ++ [(t, p, r)])
  | accept (p : Pkt) (hopen : m = .repaired → s.closed = false) (hlen : (held s).length < cap)
      (hw : s1.wire = s.wire) (hh : held s1 = held s ++ [p]) (hd : s1.dropped = s.dropped)
      (hq : s1.qlog = s.qlog ++ [p]) (hc : s1.closed = s.closed) (hl : s1.lost = s.lost)
      (hr : s1.results = s.results ++ [(t, p, .ok)])
  | lost (hm : m = .defective) (hw : s1.wire = s.wire) (hc : s1.closed = s.closed)
  | wrote (p : Pkt) (hw : s1.wire = s.wire ++ [(p, false)]) (hh : held s1 = held s) (hd : s1.dropped = s.dropped)
      (hq : s1.qlog = s.qlog) (hc : s1.closed = s.closed) (hl : s1.lost = s.lost)
      (hr : s1.results = s.results ++ [(t, p, .ok)])
  | released (p : Pkt) (hopen : s.closed = false) (hw : s1.wire = s.wire ++ [(p, true)]) (hh : held s = p :: held s1)
      (hd : s1.dropped = s.dropped) (hq : s1.qlog = s.qlog) (hc : s1.closed = s.closed) (hl : s1.lost = s.lost)
      (hr : s1.results = s.results)
  | dropAll (hne : held s ≠ []) (hw : s1.wire = s.wire) (hh : held s1 = []) (hd : s1.dropped = s.dropped ++ held s)
      (hq : s1.qlog = s.qlog) (hc : s1.closed = true) (hl : s1.lost = s.lost) (hr : s1.results = s.results)

theorem effect_change {m s t act s1 pushed} (he : effect m s t act = some (s1, pushed)) : Change m s t s1 := by
  obtain ⟨ws, q, ep, mu, cl, w, ql, dr, lo, th, rs⟩ := s
  cases act with
  | write p =>
    cases cl with
    | true => cases he; exact .quiet rfl rfl rfl rfl id rfl (.inr ⟨p, .closed, nofun, rfl⟩)
    | false =>
      cases m with
      | defective => cases he; exact .quiet rfl rfl rfl rfl id rfl (.inl rfl)
      | repaired =>
        cases mu with
        | some _ => cases he
        | none =>
          cases q with
          | none => cases he; exact .quiet rfl rfl rfl rfl id rfl (.inl rfl)
          | some l =>
            simp only [effect, Bool.false_eq_true, ↓reduceIte, Option.isSome_none] at he
            by_cases hk : p.kind = .playOnly
            · rw [if_pos hk] at he
              by_cases hl : l.length ≥ cap
              · rw [if_pos hl] at he; cases he
                exact .quiet rfl rfl rfl rfl (fun _ => rfl) rfl (.inr ⟨p, .full, nofun, rfl⟩)
              · rw [if_neg hl] at he; cases he
                exact .accept p (fun _ => rfl) (Nat.lt_of_not_le hl) rfl rfl rfl rfl rfl rfl rfl
            · rw [if_neg hk] at he; cases he; exact .quiet rfl rfl rfl rfl id rfl (.inl rfl)
  | lookup p =>
    cases m with
    | repaired => cases he
    | defective =>
      cases mu with
      | some _ => cases he
      | none => cases he; exact .quiet rfl rfl rfl rfl id rfl (.inl rfl)
  | enqueue p e =>
    cases m with
    | repaired => cases e <;> cases he
    | defective =>
      cases e with
      | none => cases he; exact .quiet rfl rfl rfl rfl id rfl (.inl rfl)
      | some e =>
        simp only [effect, reduceCtorEq, ↓reduceIte] at he
        by_cases hk : p.kind = .playOnly
        · rw [if_pos hk] at he
          cases q with
          | none => cases he; exact .lost rfl rfl rfl
          | some l =>
            by_cases hep : e = ep
            · simp only [if_pos hep] at he
              by_cases hl : l.length ≥ cap
              · rw [if_pos hl] at he; cases he
                exact .quiet rfl rfl rfl rfl (fun _ => rfl) rfl (.inr ⟨p, .full, nofun, rfl⟩)
              · rw [if_neg hl] at he; cases he
                exact .accept p nofun (Nat.lt_of_not_le hl) rfl rfl rfl rfl rfl rfl rfl
            · simp only [if_neg hep] at he; cases he; exact .lost rfl rfl rfl
        · rw [if_neg hk] at he; cases he; exact .quiet rfl rfl rfl rfl id rfl (.inl rfl)
  | wire p =>
    simp only [effect] at he
    by_cases hr : registered p.kind ws = true
    · rw [if_pos hr] at he; cases he; exact .wrote p rfl rfl rfl rfl rfl rfl rfl
    · rw [if_neg hr] at he; cases he; exact .quiet rfl rfl rfl rfl (fun _ => rfl) rfl (.inr ⟨p, .err, nofun, rfl⟩)
  | setState st =>
    cases mu with
    | some _ => cases he
    | none => cases st <;> cases q <;> cases he <;> exact .quiet rfl rfl rfl rfl id rfl (.inl rfl)
  | enableQueue =>
    cases mu with
    | some _ => cases he
    | none => cases q <;> cases he <;> exact .quiet rfl rfl rfl rfl id rfl (.inl rfl)
  | release =>
    cases q with
    | none => cases he; exact .quiet rfl rfl rfl rfl id rfl (.inl rfl)
    | some l =>
      cases l with
      | nil => cases he; exact .quiet rfl rfl rfl rfl id rfl (.inl rfl)
      | cons p l =>
        cases cl with
        | true => cases he; exact .dropAll nofun rfl rfl rfl rfl rfl rfl rfl
        | false =>
          simp only [effect, Bool.false_eq_true, ↓reduceIte] at he
          by_cases hr : registered p.kind ws = true
          · rw [if_pos hr] at he; cases he; exact .released p rfl rfl rfl rfl rfl rfl rfl rfl
          · rw [if_neg hr] at he; cases he; exact .dropAll nofun rfl rfl rfl rfl rfl rfl rfl
  | _ => cases he; exact .quiet rfl rfl rfl rfl id rfl (.inl rfl)

theorem effect_inv {s t act s1 pushed} (he : effect .repaired s t act = some (s1, pushed)) (inv : Inv s) : Inv s1 := by
  have hfifo : (s.wire.filter (·.2)).map (·.1) ++ held s ++ s.dropped = s.qlog := inv.fifo
  -- a new result that is not `ok` claims nothing, an `ok` one has to be in `q` or `w`; the others were accepted before
  have hacc : ∀ {q : List Pkt} {w : List (Pkt × Bool)} (p : Pkt) (r : Res), (∀ x ∈ s.qlog, x ∈ q) →
      (∀ x ∈ s.wire, x ∈ w) → (r = .ok → p ∈ q ∨ (p, false) ∈ w) →
      ∀ e ∈ s.results ++ [(t, p, r)], e.2.2 = .ok → e.2.1 ∈ q ∨ (e.2.1, false) ∈ w := by
    intro q w p r hq hw hp e he' hok
    rcases List.mem_append.1 he' with he' | he'
    · exact (inv.accepted e he' hok).imp (hq _) (hw _)
    · obtain rfl := List.mem_singleton.1 he'; exact hp hok
  cases effect_change he with
  | quiet hw hh hd hq hc hl hr =>
    refine ⟨by rw [released, hw, hh, hd, hq]; exact hfifo, hh ▸ inv.bound,
      by rw [hd, hh]; exact fun h => ⟨hc (inv.drop h).1, (inv.drop h).2⟩, hl ▸ inv.noLost, ?_⟩
    rw [hq, hw]
    rcases hr with hr | ⟨p, r, hok, hr⟩ <;> rw [hr]
    · exact inv.accepted
    · exact hacc p r (fun _ h => h) (fun _ h => h) fun h => absurd h hok
  | accept p hopen hlen hw hh hd hq hc hl hr =>
    have hdn := inv.dropped_nil (hopen rfl)
    rw [hdn, List.append_nil] at hfifo
    exact ⟨by rw [released, hw, hh, hd, hq, hdn, List.append_nil, ← List.append_assoc, hfifo],
      by rw [hh, List.length_append]; exact hlen, fun h => absurd (hd.trans hdn) h, hl ▸ inv.noLost,
      by rw [hr, hq, hw]; exact hacc p .ok (fun _ h => List.mem_append_left _ h) (fun _ h => h)
          fun _ => .inl (List.mem_append_right _ (.head _))⟩
  | lost hm => cases hm
  | wrote p hw hh hd hq hc hl hr =>
    exact ⟨by rw [released, hw, released_append_false, hh, hd, hq]; exact hfifo, hh ▸ inv.bound,
      by rw [hd, hc, hh]; exact inv.drop, hl ▸ inv.noLost,
      by rw [hr, hq, hw]; exact hacc p .ok (fun _ h => h) (fun _ h => List.mem_append_left _ h)
          fun _ => .inr (List.mem_append_right _ (.head _))⟩
  | released p hopen hw hh hd hq hc hl hr =>
    have hdn := inv.dropped_nil hopen
    have hb := inv.bound
    rw [hh, hdn, List.append_nil] at hfifo
    rw [hh, List.length_cons] at hb
    exact ⟨by rw [released, hw, released_append_true, hd, hq, hdn, List.append_nil, ← hfifo,
        List.append_assoc, List.singleton_append],
      Nat.le_of_succ_le hb, fun h => absurd (hd.trans hdn) h, hl ▸ inv.noLost,
      by rw [hr, hq, hw]; exact fun e he' hok =>
          (inv.accepted e he' hok).imp_right (List.mem_append_left _)⟩
  | dropAll hne hw hh hd hq hc hl hr =>
    have hdn : s.dropped = [] := Classical.byContradiction fun h => hne (inv.drop h).2
    rw [hdn, List.append_nil] at hfifo
    exact ⟨by rw [released, hw, hh, hd, hq, hdn, List.append_nil, List.nil_append]; exact hfifo,
      by rw [hh]; exact Nat.zero_le _, fun _ => ⟨hc, hh⟩, hl ▸ inv.noLost, by rw [hr, hq, hw]; exact inv.accepted⟩

theorem step_Inv {s t s'} (h : step .repaired s t = some s') (inv : Inv s) : Inv s' := by
  obtain ⟨act, rest, s1, pushed, _, he, rfl⟩ := step_inv h
  have i1 := effect_inv he inv
  -- `Inv` does not mention `threads`
  exact ⟨i1.fifo, i1.bound, i1.drop, i1.noLost, i1.accepted⟩

theorem exec_Inv {sched s s'} (h : exec .repaired s sched = some s') (inv : Inv s) : Inv s' :=
  (runs .repaired).induct Inv (fun _ _ _ hp hs => step_Inv hs hp) inv h

/-- the write buffer is append-only, and a closed connection stays closed (both lock disciplines) -/
theorem effect_mono {m s t act s1 pushed} (he : effect m s t act = some (s1, pushed)) :
    (∃ ext, s1.wire = s.wire ++ ext) ∧ (s.closed = true → s1.closed = true) := by
  have nil : ∀ {s1 : Sys}, s1.wire = s.wire → ∃ ext, s1.wire = s.wire ++ ext :=
    fun hw => ⟨[], hw.trans (List.append_nil _).symm⟩
  cases effect_change he with
  | quiet hw _ _ _ hc => exact ⟨nil hw, hc⟩
  | accept _ _ _ hw _ _ _ hc => exact ⟨nil hw, hc.trans⟩
  | lost _ hw hc => exact ⟨nil hw, hc.trans⟩
  | wrote _ hw _ _ _ hc => exact ⟨⟨_, hw⟩, hc.trans⟩
  | released _ _ hw _ _ _ hc => exact ⟨⟨_, hw⟩, hc.trans⟩
  | dropAll _ hw _ _ _ hc => exact ⟨nil hw, fun _ => hc⟩

theorem step_mono {m s t s'} (h : step m s t = some s') :
    (∃ ext, s'.wire = s.wire ++ ext) ∧ (s.closed = true → s'.closed = true) := by
  obtain ⟨act, rest, s1, pushed, _, he, rfl⟩ := step_inv h
  have hm := effect_mono he
  exact ⟨hm.1, hm.2⟩

theorem exec_mono {m} (sched : List Nat) (s s' : Sys) (h : exec m s sched = some s') :
    (∃ ext, s'.wire = s.wire ++ ext) ∧ (s.closed = true → s'.closed = true) :=
  (runs m).induct (fun x => (∃ ext, x.wire = s.wire ++ ext) ∧ (s.closed = true → x.closed = true))
    (fun _ _ _ ⟨⟨e, he⟩, hc⟩ hs =>
      have ⟨⟨e', he'⟩, hc'⟩ := step_mono hs
      ⟨⟨e ++ e', by rw [he', he, List.append_assoc]⟩, fun h => hc' (hc h)⟩)
    ⟨⟨[], (List.append_nil _).symm⟩, id⟩ h

end Gate.C14
