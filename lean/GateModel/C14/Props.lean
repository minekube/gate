import GateModel.C14.Lemmas
/-
C14 — Packets sent during configuration are delivered after it, in order, without loss.

All theorems quantify over EVERY schedule `sched` of a system built by `mkSys`: any number of goroutines,
each any list of `write p` (BufferPacket of a play-only or a config-valid packet), `setState` (SetState /
SetOutboundState), `setWire` (Writer().SetState) and `enableQueue` (EnablePlayPacketQueue) calls, starting
in PLAY (no queue) or in CONFIG (empty active queue).  `Mode.repaired` is the source (a regenerated fact
below), `Mode.defective` the code before the fix.
-/
namespace Gate.C14.Props
open Gate.C14

/-- At every moment of every schedule: the packets ever accepted into the holding queue, in acceptance
    order (`qlog`), are exactly the ones already released to the wire (in wire order) followed by the ones
    still held, followed by the ones discarded by a release on a closed connection. -/
theorem held_fifo_no_loss_no_dup (inConfig : Bool) (threads : List (List Act)) (sched : List Nat) (s : Sys)
    (h : exec .repaired (mkSys inConfig threads) sched = some s) :
    released s ++ held s ++ s.dropped = s.qlog ∧ (s.closed = false → s.dropped = []) ∧ s.lost = [] := by
  have inv := exec_Inv h (inv_mkSys inConfig threads)
  exact ⟨inv.fifo, inv.dropped_nil, inv.noLost⟩

/-- a write that reported success is in the queue log or went to the wire: nothing is dropped silently -/
theorem accepted_is_held_or_written (inConfig : Bool) (threads : List (List Act)) (sched : List Nat) (s : Sys)
    (h : exec .repaired (mkSys inConfig threads) sched = some s) (t : Nat) (p : Pkt)
    (hr : (t, p, Res.ok) ∈ s.results) : p ∈ s.qlog ∨ (p, false) ∈ s.wire :=
  (exec_Inv h (inv_mkSys inConfig threads)).accepted _ hr rfl

/-- open connection, no queue active (the client is back in PLAY): everything ever held is on the wire,
    in the order it was written -/
theorem all_released_when_no_queue (inConfig : Bool) (threads : List (List Act)) (sched : List Nat) (s : Sys)
    (h : exec .repaired (mkSys inConfig threads) sched = some s) (hq : s.queue = none) (hc : s.closed = false) :
    released s = s.qlog := by
  have ⟨hf, hd, _⟩ := held_fifo_no_loss_no_dup inConfig threads sched s h
  rw [hd hc] at hf
  simpa [held, hq] using hf

/-- the wire is append-only: whatever is written later comes after what is already there -/
theorem wire_append_only (m : Mode) (s s' : Sys) (sched : List Nat) (h : exec m s sched = some s') :
    ∃ ext, s'.wire = s.wire ++ ext :=
  (exec_mono sched s s' h).1

/-- together: a play packet written (decided) after the connection left CONFIG lands after every packet
    that was held: at its decision no queue is active, so all held packets are already on the wire, and
    its own wire write only appends -/
theorem later_play_packet_after_released (inConfig : Bool) (threads : List (List Act)) (sched : List Nat) (s : Sys)
    (h : exec .repaired (mkSys inConfig threads) sched = some s) (hq : s.queue = none) (hc : s.closed = false)
    (later : List Nat) (s' : Sys) (h' : exec .repaired s later = some s') :
    ∃ ext, s'.wire = s.wire ++ ext ∧ (s.wire.filter (·.2)).map (·.1) = s.qlog :=
  let ⟨ext, he⟩ := wire_append_only .repaired s s' later h'
  ⟨ext, he, all_released_when_no_queue inConfig threads sched s h hq hc⟩

/-- a config-valid packet is not queued: its write goes straight on to the wire write -/
theorem config_valid_not_queued (s : Sys) (t : Nat) (p : Pkt) (hk : p.kind = .both) (hc : s.closed = false)
    (hm : s.mu = none) : effect .repaired s t (.write p) = some (s, [.wire p]) := by
  simp only [effect, hc, hm]
  cases hq : s.queue <;> simp [hk]

theorem config_valid_wire_write (m : Mode) (s : Sys) (t : Nat) (p : Pkt) (hk : p.kind = .both) :
    effect m s t (.wire p) =
      some ({ s with wire := s.wire ++ [(p, false)], results := s.results ++ [(t, p, .ok)] }, []) := by
  simp [effect, registered, hk]

/-- a play-only packet written while the queue is active (and not full) is held, not written -/
theorem play_only_held_in_config (s : Sys) (t : Nat) (p : Pkt) (ql : List Pkt) (hk : p.kind = .playOnly)
    (hc : s.closed = false) (hm : s.mu = none) (hq : s.queue = some ql) (hl : ql.length < cap) :
    effect .repaired s t (.write p) =
      some ({ s with queue := some (ql ++ [p]), qlog := s.qlog ++ [p], results := s.results ++ [(t, p, .ok)] }, []) := by
  simp only [effect, hc, hm, hq, hk]
  simp [Nat.not_le.2 hl]

theorem queue_bounded (inConfig : Bool) (threads : List (List Act)) (sched : List Nat) (s : Sys)
    (h : exec .repaired (mkSys inConfig threads) sched = some s) : (held s).length ≤ cap :=
  (exec_Inv h (inv_mkSys inConfig threads)).bound

theorem cap_is_1024 : cap = 1024 := by decide +kernel

/-- a play-only packet written to a full queue closes the connection -/
theorem overflow_closes (s : Sys) (t : Nat) (p : Pkt) (ql : List Pkt) (hk : p.kind = .playOnly)
    (hc : s.closed = false) (hm : s.mu = none) (hq : s.queue = some ql) (hl : cap ≤ ql.length) :
    effect .repaired s t (.write p) =
      some ({ s with closed := true, results := s.results ++ [(t, p, .full)] }, []) := by
  simp only [effect, hc, hm, hq, hk]
  simp [hl]

theorem closed_is_forever (m : Mode) (s s' : Sys) (sched : List Nat) (h : exec m s sched = some s')
    (hc : s.closed = true) : s'.closed = true :=
  (exec_mono sched s s' h).2 hc

def demo : List (List Act) :=
  [ [.write ⟨1, .playOnly⟩, .write ⟨2, .both⟩, .write ⟨3, .playOnly⟩, .write ⟨6, .playOnly⟩],
    [.setState .play], [.write ⟨4, .playOnly⟩, .write ⟨5, .playOnly⟩] ]
/-- held 1,4,3 are released in that order, the config-valid 2 went out immediately, 5 and 6 follow -/
example : (match exec .repaired (mkSys true demo) [0, 0, 2, 0, 0, 1, 1, 1, 1, 1, 1, 2, 2, 0, 0] with
    | some s => s.wire.map (·.1.tag) == [2, 1, 4, 3, 5, 6] && terminal s && s.queue.isNone | none => false) = true := by decide +kernel

/-- one writer, one goroutine leaving CONFIG -/
def lossProg : List (List Act) := [[.write ⟨7, .playOnly⟩], [.setState .play]]

/-- `BufferPacket` reported success, yet the packet is neither held, nor on the wire, nor was the connection
    closed: the writer read the queue pointer, the release emptied and dropped the queue, then the writer
    pushed onto the dead queue -/
def silentlyLost (m : Mode) (prog : List (List Act)) (sched : List Nat) (p : Pkt) : Bool :=
  match exec m (mkSys true prog) sched with
  | some s => terminal s && !s.closed && s.results.any (fun e => e.2.1 == p && e.2.2 == .ok)
      && !(s.qlog.contains p) && !(s.wire.any (·.1 == p)) && s.queue.isNone
  | none => false

theorem no_loss_defective_fails : silentlyLost .defective lossProg [0, 0, 1, 1, 1, 0] ⟨7, .playOnly⟩ = true := by decide +kernel

/-- the full-strength statement fails for the defective code -/
theorem accepted_is_held_or_written_defective_fails :
    ¬ (∀ (sched : List Nat) (s : Sys), exec .defective (mkSys true lossProg) sched = some s →
        ∀ t p, (t, p, Res.ok) ∈ s.results → p ∈ s.qlog ∨ (p, false) ∈ s.wire) := by
  intro hall
  have hs : exec .defective (mkSys true lossProg) [0, 0, 1, 1, 1, 0] = some _ := rfl
  exact (hall _ _ hs 0 ⟨7, .playOnly⟩ (by decide +kernel)).elim (by decide +kernel) (by decide +kernel)

/-- the same schedule is impossible for the repaired code (the decision is one critical section), and the
    same program ends well under e.g. this schedule -/
example : (match exec .repaired (mkSys true lossProg) [1, 1, 1, 0, 0] with
    | some s => terminal s && s.wire.map (·.1.tag) == [7] | none => false) = true := by decide +kernel
example : (match exec .repaired (mkSys true lossProg) [0, 1, 1, 1, 1] with
    | some s => terminal s && s.wire.map (·.1.tag) == [7] && s.wire.all (·.2) | none => false) = true := by decide +kernel

/-! ### tie to the source: lock regions and the cap regenerated from connection.go / packet_queue.go -/

open Gate.Gen.C14 in
/-- `bufferPacket` calls `Queue` on the connection's queue inside the `c.mu` critical section, after the
    `Closed` check and before the encoder write -/
theorem queue_decision_under_lock :
    insideLock bufferPacketCalls "c.mu.Lock" "c.mu.Unlock" "c.playPacketQueue.Queue" = true ∧
    bufferPacketCalls.head? = some "Closed" ∧ before bufferPacketCalls "c.mu.Unlock" "c.wr.WritePacket" = true ∧
    (bufferPacketCalls.filter (· == "c.mu.Lock")).length = 1 ∧ has bufferPacketCalls "c.closeOnWriteErr" = true := by
  decide +kernel

open Gate.Gen.C14 in
/-- `SetState` / `SetOutboundState` switch the encoder and activate or release the queue in ONE critical section -/
theorem state_change_is_one_critical_section :
    insideLock setStateCalls "c.mu.Lock" "c.mu.Unlock" "c.wr.SetState" = true ∧
    insideLock setStateCalls "c.mu.Lock" "c.mu.Unlock" "c.ensurePlayPacketQueue" = true ∧
    before setStateCalls "c.wr.SetState" "c.ensurePlayPacketQueue" = true ∧
    insideLock setOutboundStateCalls "c.mu.Lock" "c.mu.Unlock" "c.wr.SetState" = true ∧
    insideLock setOutboundStateCalls "c.mu.Lock" "c.mu.Unlock" "c.ensurePlayPacketQueue" = true ∧
    ensureQueueCalls = ["c.activatePlayPacketQueue", "return", "c.playPacketQueue.ReleaseQueue", "c.log.Error"] ∧
    has activateCalls "queue.NewPlayPacketQueue" = true ∧ has enableQueueCalls "c.activatePlayPacketQueue" = true := by
  decide +kernel

open Gate.Gen.C14 in
/-- `Queue`: registry test, then length test, then `PushBack`; `ReleaseQueue`: pop front, buffer, finally flush -/
theorem queue_shape :
    queueCalls = ["return", "h.registry.PacketID", "h.queue.Len", "return", "h.queue.PushBack", "return", "return"] ∧
    releaseCalls = ["return", "h.queue.Len", "h.queue.PopFront", "buffer", "return", "flush", "return", "return"] ∧
    maxQueueLen = 1024 := by decide +kernel

end Gate.C14.Props
