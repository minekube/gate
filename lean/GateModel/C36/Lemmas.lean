import GateModel.C36.Spec
namespace Gate.C36

theorem lookup_erase (k k' : String) (m : Fields) :
    lookup k' (erase k m) = if k' = k then none else lookup k' m := by
  induction m with
  | nil => simp [erase, lookup]
  | cons kv r ih =>
    obtain ⟨k0, v⟩ := kv
    by_cases h0 : k0 = k
    · subst h0
      by_cases h1 : k' = k0
      · subst h1; simp [erase, ih]
      · simp [erase, lookup, ih, h1, Ne.symm h1]
    · by_cases h1 : k' = k
      · subst h1; simp [erase, lookup, h0, ih]
      · simp only [erase, h0, if_false, lookup, ih, h1]

theorem lookup_set (k k' : String) (v : J) (m : Fields) :
    lookup k' (set k v m) = if k' = k then some v else lookup k' m := by
  by_cases h : k' = k
  · simp [set, lookup, h]
  · simp [set, lookup, lookup_erase, h, Ne.symm h]

theorem nodup_erase (k : String) (m : Fields) (h : NodupKeys m) : NodupKeys (erase k m) := by
  induction m with
  | nil => trivial
  | cons kv r ih =>
    obtain ⟨k0, v⟩ := kv
    obtain ⟨h1, h2⟩ := h
    by_cases h0 : k0 = k
    · simp [erase, h0]; exact ih h2
    · simp only [erase, h0, if_false]
      refine ⟨?_, ih h2⟩
      rw [lookup_erase, if_neg h0]; exact h1

theorem nodup_set (k : String) (v : J) (m : Fields) (h : NodupKeys m) : NodupKeys (set k v m) :=
  ⟨(lookup_erase k k m).trans (if_pos rfl), nodup_erase k m h⟩

/-- What one member of the result is, in terms of the patch member of that name — RFC 7396's loop body
    read as an equation.  Needs only that the patch (a Go map) has distinct keys. -/
theorem lookup_mergeFields (k : String) (ps : Fields) (hp : NodupKeys ps) (acc : Fields) :
    lookup k (mergeFields acc ps) =
      match lookup k ps with
      | none => lookup k acc
      | some v => if v.isNull then none else some (merge (lookupD k acc) v) := by
  induction ps generalizing acc with
  | nil => rfl
  | cons kv ps ih =>
    obtain ⟨k0, v0⟩ := kv
    obtain ⟨h1, h2⟩ := hp
    simp only [mergeFields, lookup]
    by_cases hk : k0 = k
    · subst hk
      -- `h1 : lookup k0 ps = none` (no duplicate keys): the later iterations leave key `k0` alone
      cases hn : v0.isNull <;> simp [ih h2, h1, hn, lookup_erase, lookup_set]
    · cases v0.isNull <;> cases hl : lookup k ps <;>
        simp [ih h2, hl, hk, Ne.symm hk, lookupD, lookup_erase, lookup_set]

theorem nodup_mergeFields (ps acc : Fields) (h : NodupKeys acc) : NodupKeys (mergeFields acc ps) := by
  induction ps generalizing acc with
  | nil => simpa [mergeFields] using h
  | cons kv ps ih =>
    obtain ⟨k0, v0⟩ := kv
    by_cases hn : v0.isNull
    · simp only [mergeFields, hn, if_true]; exact ih _ (nodup_erase _ _ h)
    · simp only [mergeFields, hn]; exact ih _ (nodup_set _ _ _ h)

theorem isObj_iff {j : J} : j.isObj = true ↔ ∃ kvs, j = .obj kvs := by
  cases j <;> simp [J.isObj]

theorem specMerge_nonobj (t p : J) (h : p.isObj = false) : specMerge t p = p := by
  cases p <;> simp [specMerge, J.isObj] at *

theorem lookup_append (k : String) (a b : Fields) :
    lookup k (a ++ b) = match lookup k a with | some v => some v | none => lookup k b := by
  induction a with
  | nil => simp [lookup]
  | cons kv r ih =>
    obtain ⟨k0, v⟩ := kv
    by_cases h : k0 = k <;> simp [lookup, h, ih]

theorem lookup_keepUntouched (k : String) (ps tf : Fields) :
    lookup k (keepUntouched ps tf) = if hasKey k ps then none else lookup k tf := by
  induction tf with
  | nil => simp [keepUntouched, lookup]
  | cons kv r ih =>
    obtain ⟨k0, v⟩ := kv
    by_cases h : k0 = k
    · subst h
      cases hh : hasKey k0 ps <;> simp [keepUntouched, lookup, hh, ih]
    · cases hh : hasKey k0 ps <;> simp [keepUntouched, lookup, hh, ih, h]

theorem lookup_specNew (k : String) (tf ps : Fields) (hp : NodupKeys ps) :
    lookup k (specNew tf ps) =
      match lookup k ps with
      | none => none
      | some v => if v.isNull then none else some (specMerge (lookupD k tf) v) := by
  induction ps with
  | nil => simp [specNew, lookup]
  | cons kv ps ih =>
    obtain ⟨k0, v0⟩ := kv
    obtain ⟨h1, h2⟩ := hp
    by_cases hk : k0 = k
    · subst hk
      cases hn : v0.isNull <;> simp [specNew, hn, lookup, ih h2, h1]
    · cases hn : v0.isNull <;> simp [specNew, hn, lookup, ih h2, hk]

theorem child_specMerge_obj (t : J) (ps : Fields) (hp : NodupKeys ps) (k : String) :
    child k (specMerge t (.obj ps)) =
      match lookup k ps with
      | none => child k t
      | some v => if v.isNull then none else some (specMerge ((child k t).getD .null) v) := by
  show lookup k (keepUntouched ps (asObj t) ++ specNew (asObj t) ps) = _
  rw [lookup_append, lookup_keepUntouched, lookup_specNew _ _ _ hp]
  delta child hasKey lookupD
  cases lookup k ps with
  | none => cases lookup k (asObj t) <;> rfl
  | some v => rfl

theorem getPath_cons (j : J) (k : String) (r : List String) :
    getPath j (k :: r) = match child k j with | some v => getPath v r | none => none := rfl

theorem sem_nil (j : J) : sem j [] = some (shape j) := rfl

theorem sem_cons (j : J) (k : String) (r : List String) :
    sem j (k :: r) = match child k j with | some v => sem v r | none => none := by
  simp only [sem, getPath_cons]; cases child k j <;> rfl

theorem shape_isObj (j : J) : (shape j).isObj = j.isObj := by cases j <;> rfl
theorem shape_isNull (j : J) : (shape j).isNull = j.isNull := by cases j <;> rfl
theorem shape_nonobj (j : J) (h : j.isObj = false) : shape j = j := by
  cases j <;> simp [J.isObj, shape] at *

theorem sem_eq_shape {a b : J} (h : sem a = sem b) : shape a = shape b := by
  have := congrFun h []; simpa [sem_nil] using this
theorem sem_eq_isObj {a b : J} (h : sem a = sem b) : a.isObj = b.isObj := by
  rw [← shape_isObj a, ← shape_isObj b, sem_eq_shape h]
theorem sem_eq_isNull {a b : J} (h : sem a = sem b) : a.isNull = b.isNull := by
  rw [← shape_isNull a, ← shape_isNull b, sem_eq_shape h]
theorem sem_eq_nonobj {a b : J} (h : sem a = sem b) (ha : a.isObj = false) : a = b := by
  have hb : b.isObj = false := (sem_eq_isObj h) ▸ ha
  rw [← shape_nonobj a ha, ← shape_nonobj b hb, sem_eq_shape h]

/-- members of semantically equal documents are semantically equal -/
inductive ChildRel : Option J → Option J → Prop where
  | none : ChildRel none none
  | some {a b : J} : sem a = sem b → ChildRel (some a) (some b)

theorem sem_eq_child {a b : J} (h : sem a = sem b) (k : String) : ChildRel (child k a) (child k b) := by
  have hk : ∀ r, sem a (k :: r) = sem b (k :: r) := fun r => congrFun h _
  simp only [sem_cons] at hk
  cases ha : child k a <;> cases hb : child k b <;> simp only [ha, hb] at hk
  · exact .none
  · exact nomatch hk []
  · exact nomatch hk []
  · exact .some (funext hk)

theorem ChildRel.getD {x y : Option J} (h : ChildRel x y) : sem (x.getD .null) = sem (y.getD .null) := by
  cases h with
  | none => rfl
  | some h => exact h

theorem WF_child {j v : J} {k : String} (h : WF j) (hc : child k j = some v) : WF v := by
  intro path kvs hg
  apply h (k :: path) kvs
  rw [getPath_cons, hc]; exact hg

theorem WF_lookup {ps : Fields} {v : J} {k : String} (h : WF (.obj ps)) (hc : lookup k ps = some v) : WF v :=
  WF_child (j := .obj ps) h (by simpa [child, asObj] using hc)

theorem WF_top {ps : Fields} (h : WF (.obj ps)) : NodupKeys ps := h [] ps rfl

theorem WF_null : WF .null := by
  intro path kvs h
  cases path with
  | nil => simp [getPath] at h
  | cons k r => simp [getPath, child, asObj, lookup] at h

theorem WF_getD {j : J} (h : WF j) (k : String) : WF ((child k j).getD .null) := by
  cases hc : child k j with
  | none => exact WF_null
  | some v => exact WF_child h hc

theorem nodup_asObj {j : J} (h : WF j) : NodupKeys (asObj j) := by
  cases j <;> try trivial
  exact WF_top h

/-- RFC 7396 §2 read as equations about a binary function on JSON documents. -/
structure IsRFC7396 (f : J → J → J) : Prop where
  nonobject_replaces : ∀ t p, p.isObj = false → f t p = p
  object_result : ∀ t ps, (f t (.obj ps)).isObj = true
  member : ∀ t ps, NodupKeys ps → ∀ k,
    child k (f t (.obj ps)) =
      match lookup k ps with
      | none => child k t
      | some v => if v.isNull then none else some (f ((child k t).getD .null) v)

theorem specMerge_isRFC : IsRFC7396 specMerge where
  nonobject_replaces := specMerge_nonobj
  object_result := by intro t ps; simp [specMerge, J.isObj]
  member := child_specMerge_obj

theorem shape_obj_of_isObj {j : J} (h : j.isObj = true) : shape j = .obj [] := by
  obtain ⟨kvs, rfl⟩ := isObj_iff.mp h; rfl

/-- One step down a path into the result of a solution: the member equation read along `k :: r`. -/
theorem getPath_rfc_cons {f : J → J → J} (hf : IsRFC7396 f) (t : J) {ps : Fields} (hn : NodupKeys ps)
    (k : String) (r : List String) :
    getPath (f t (.obj ps)) (k :: r) =
      match lookup k ps with
      | none => getPath t (k :: r)
      | some v => if v.isNull then none else getPath (f ((child k t).getD .null) v) r := by
  rw [getPath_cons, hf.member _ _ hn, getPath_cons]
  cases lookup k ps with
  | none => rfl
  | some v => dsimp only; cases v.isNull <;> rfl

/-- Any two solutions of the RFC equations agree on semantically equal arguments.  The recursion is on
    `path`: one step down the path is one use of the member equation on each side. -/
theorem rfc_congr_path {f g : J → J → J} (hf : IsRFC7396 f) (hg : IsRFC7396 g) :
    ∀ (path : List String) (t t' p p' : J), sem t = sem t' → sem p = sem p' → WF p → WF p' →
      sem (f t p) path = sem (g t' p') path
  | path, t, t', p, p', ht, hp, wp, wp' => by
    cases ho : p.isObj with
    | false =>
      obtain rfl : p = p' := sem_eq_nonobj hp ho
      rw [hf.nonobject_replaces _ _ ho, hg.nonobject_replaces _ _ ho]
    | true =>
      obtain ⟨ps, rfl⟩ := isObj_iff.mp ho
      obtain ⟨ps', rfl⟩ := isObj_iff.mp (sem_eq_isObj hp ▸ ho)
      cases path with
      | nil =>
        rw [sem_nil, sem_nil, shape_obj_of_isObj (hf.object_result _ _), shape_obj_of_isObj (hg.object_result _ _)]
      | cons k r =>
        simp only [sem, getPath_rfc_cons hf t (WF_top wp), getPath_rfc_cons hg t' (WF_top wp')]
        have hc : ChildRel (lookup k ps) (lookup k ps') := sem_eq_child hp k
        generalize h1 : lookup k ps = x at hc
        generalize h2 : lookup k ps' = x' at hc
        cases hc with
        | none => exact congrFun ht (k :: r)
        | @some v v' hv =>
          dsimp only
          rw [← sem_eq_isNull hv]
          cases v.isNull with
          | true => rfl
          | false =>
            exact rfc_congr_path hf hg r _ _ _ _ (sem_eq_child ht k).getD hv (WF_lookup wp h1) (WF_lookup wp' h2)

/-- Applying the same patch twice with a solution is again a solution (so, by uniqueness, denotes what
    applying it once does): a member the patch names has after the first application the value the second
    application would give it. -/
theorem IsRFC7396.twice {f : J → J → J} (hf : IsRFC7396 f) : IsRFC7396 (fun t p => f (f t p) p) where
  nonobject_replaces t p h := hf.nonobject_replaces _ p h
  object_result t ps := hf.object_result _ ps
  member t ps hn k := by
    rw [hf.member _ _ hn, hf.member _ _ hn]
    cases lookup k ps with
    | none => rfl
    | some v => dsimp only; cases v.isNull <;> rfl

/-- Key uniqueness is preserved by every solution whose top-level result has distinct keys: what it returns
    is again a legal Go map tree. -/
theorem rfc_wf_path {f : J → J → J} (hf : IsRFC7396 f)
    (htop : ∀ t ps kvs, WF t → NodupKeys ps → f t (.obj ps) = .obj kvs → NodupKeys kvs) :
    ∀ (path : List String) (t p : J) (kvs : Fields), WF t → WF p →
      getPath (f t p) path = some (.obj kvs) → NodupKeys kvs
  | path, t, p, kvs, wt, wp, h => by
    cases ho : p.isObj with
    | false => rw [hf.nonobject_replaces _ _ ho] at h; exact wp path kvs h
    | true =>
      obtain ⟨ps, rfl⟩ := isObj_iff.mp ho
      cases path with
      | nil => exact htop t ps kvs wt (WF_top wp) (Option.some.inj h)
      | cons k r =>
        rw [getPath_rfc_cons hf t (WF_top wp)] at h
        split at h
        · exact wt _ kvs h
        · next v h1 =>
          split at h
          · cases h
          · exact rfc_wf_path hf htop r _ _ kvs (WF_getD wt k) (WF_lookup wp h1) h

end Gate.C36
