import GateModel.C36.Lemmas
import GateModel.Gen.C36
/-
C36 — Config edits via JSON Merge Patch follow RFC 7396.

`merge` (Model.lean) mirrors `applyMergePatch`; the list order of a patch object is the order in which
Go's `range` visits the map.  `NodupKeys`/`WF` say "this is a Go map" (each key once).  `sem d` is the
JSON value a document denotes (Spec.lean).
-/
namespace Gate.C36.Props
open Gate Gate.C36

/-- any non-object patch value (null, scalar, array — whatever it contains) replaces the target -/
theorem nonobject_replaces (t p : J) (h : p.isObj = false) : merge t p = p := by
  cases p <;> simp [merge, J.isObj] at *

/-- an object patch always yields an object (a non-object target is treated as `{}`) -/
theorem object_patch_yields_object (t : J) (ps : Fields) : (merge t (.obj ps)).isObj = true := by
  simp [merge, J.isObj]

/-- RFC 7396, member by member, for every visiting order of the patch map:
    null removes, a value merges recursively with the target's member (or with null if there is none),
    members the patch does not name are kept. -/
theorem merge_lookup (t : J) (ps : Fields) (hp : NodupKeys ps) (k : String) :
    child k (merge t (.obj ps)) =
      match lookup k ps with
      | none => child k t
      | some v => if v.isNull then none else some (merge ((child k t).getD .null) v) := by
  simp only [merge, child, asObj]
  exact lookup_mergeFields k ps hp (asObj t)

theorem null_removes (t : J) (ps : Fields) (hp : NodupKeys ps) (k : String)
    (h : lookup k ps = some .null) : child k (merge t (.obj ps)) = none := by
  rw [merge_lookup t ps hp k, h]; rfl

theorem unnamed_member_kept (t : J) (ps : Fields) (hp : NodupKeys ps) (k : String)
    (h : lookup k ps = none) : child k (merge t (.obj ps)) = child k t := by
  rw [merge_lookup t ps hp k, h]

theorem objects_merge_recursively (t : J) (ps : Fields) (hp : NodupKeys ps) (k : String) (v : J)
    (h : lookup k ps = some v) (hv : v.isNull = false) :
    child k (merge t (.obj ps)) = some (merge ((child k t).getD .null) v) := by
  rw [merge_lookup t ps hp k, h]; simp [hv]

/-- the model solves the RFC 7396 equations -/
theorem merge_is_rfc7396 : IsRFC7396 merge :=
  ⟨nonobject_replaces, object_patch_yields_object, merge_lookup⟩

/-- … and those equations determine the resulting JSON value: every solution `f` agrees with `merge`,
    even on arguments that are only equal as JSON values (different member order at any depth).
    With `f = merge` this is independence of Go's map iteration order. -/
theorem rfc7396_unique (f : J → J → J) (hf : IsRFC7396 f) (t t' p p' : J)
    (ht : sem t = sem t') (hp : sem p = sem p') (wp : WF p) (wp' : WF p') :
    sem (f t p) = sem (merge t' p') :=
  funext fun path => rfc_congr_path hf merge_is_rfc7396 path t t' p p' ht hp wp wp'

theorem iteration_order_irrelevant (t t' p p' : J)
    (ht : sem t = sem t') (hp : sem p = sem p') (wp : WF p) (wp' : WF p') :
    sem (merge t p) = sem (merge t' p') :=
  rfc7396_unique merge merge_is_rfc7396 t t' p p' ht hp wp wp'

/-- the model denotes the same value as the declarative reference used as oracle by the driver -/
theorem merge_eq_rfc (t p : J) (wp : WF p) : sem (merge t p) = sem (specMerge t p) :=
  (rfc7396_unique specMerge specMerge_isRFC t t p p rfl rfl wp wp).symm

theorem idempotent (t p : J) (wp : WF p) : sem (merge (merge t p) p) = sem (merge t p) :=
  rfc7396_unique _ merge_is_rfc7396.twice t t p p rfl rfl wp wp

/-- the result is again a tree of Go maps (no key twice at any reachable object) -/
theorem merge_wf (t p : J) (wt : WF t) (wp : WF p) : WF (merge t p) := by
  intro path kvs h
  refine rfc_wf_path merge_is_rfc7396 (fun t ps kvs wt _ e => ?_) path t p kvs wt wp h
  -- the loop only deletes and assigns keys of the target object, which had each key once
  obtain rfl : mergeFields (asObj t) ps = kvs := by simpa [merge] using e
  exact nodup_mergeFields _ _ (nodup_asObj wt)

/-! ### source shape (regenerated from /repo on every run) -/

/-- `applyMergePatch`: early `return patch`, `make` for a non-object target, `delete` for null,
    one recursive call per remaining member, `return targetObject` — nothing else. -/
theorem applyMergePatch_shape :
    Gate.Gen.C36.applyMergePatchCalls = ["return", "make", "delete", "applyMergePatch", "return"] := rfl

/-- `mergeConfigPatch` decodes target and patch, merges, re-encodes and strictly decodes the merged
    document before it returns a candidate. -/
theorem mergeConfigPatch_shape :
    Gate.Gen.C36.mergeConfigPatchCalls.filter
        (fun c => c ∈ ["canonicalConfigJSON", "json.Unmarshal", "applyMergePatch", "json.Marshal", "decodeConfigStrict"])
      = ["canonicalConfigJSON", "json.Unmarshal", "json.Unmarshal", "applyMergePatch", "json.Marshal", "decodeConfigStrict"] := by
  decide +kernel

/-! ### non-vacuity: RFC 7396 appendix A on the model, and satisfiable hypotheses -/

private def s (x : String) : J := .str x
example : merge (.obj [("a", s "b")]) (.obj [("a", s "c")]) = .obj [("a", s "c")] := rfl
example : merge (.obj [("a", s "b")]) (.obj [("b", s "c")]) = .obj [("b", s "c"), ("a", s "b")] := rfl
example : merge (.obj [("a", s "b")]) (.obj [("a", .null)]) = .obj [] := rfl
example : merge (.obj [("a", s "b"), ("b", s "c")]) (.obj [("a", .null)]) = .obj [("b", s "c")] := rfl
example : merge (.obj [("a", .arr [s "b"])]) (.obj [("a", s "c")]) = .obj [("a", s "c")] := rfl
example : merge (.obj [("a", .obj [("b", s "c")])]) (.obj [("a", .obj [("b", s "d"), ("c", .null)])])
    = .obj [("a", .obj [("b", s "d")])] := rfl
example : merge (.arr [s "a", s "b"]) (.arr [s "c", s "d"]) = .arr [s "c", s "d"] := rfl
example : merge (.obj [("a", s "foo")]) .null = .null := rfl
example : merge (.obj [("e", .null)]) (.obj [("a", .num "1")]) = .obj [("a", .num "1"), ("e", .null)] := rfl
example : merge (.arr [.num "1", .num "2"]) (.obj [("a", s "b"), ("c", .null)]) = .obj [("a", s "b")] := rfl
example : merge (.obj []) (.obj [("a", .obj [("bb", .obj [("ccc", .null)])])])
    = .obj [("a", .obj [("bb", .obj [])])] := rfl
example : NodupKeys [("a", s "b"), ("c", .null)] := by simp [NodupKeys, lookup]
example : WF (.obj []) := by
  intro path kvs h
  cases path with
  | nil => simp [getPath] at h; subst h; trivial
  | cons k r => simp [getPath, child, asObj, lookup] at h

end Gate.C36.Props
