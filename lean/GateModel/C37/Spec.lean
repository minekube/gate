import GateModel.C37.Model
/-
C37 — the documented configuration space as a declarative predicate `Ok` (Prop) and its executable
counterpart `okClasses` used by the driver as oracle on the implementation's output.

The grammars are written without indices or scanning state:
  HostPort   :  h ":" p            h, p free of ':' '[' ']'
             |  "[" h "]:" p       h free of '[' ']', p free of ':' '[' ']'
  ServerName :  alnum | alnum ext* alnum,   1..63 bytes,  ext = alnum | '-' | '_' | '.'
Core Lean only.
-/
namespace Gate.C37
open Gate

/-- `s` does not contain the byte `c` -/
def lacks (c : UInt8) (s : Bytes) : Prop := has c s = false

/-- none of ':' '[' ']' -/
def plainPart (s : Bytes) : Prop := lacks COLON s ∧ lacks LBR s ∧ lacks RBR s

inductive HostPort : Bytes → Prop where
  | plain (h p : Bytes) : plainPart h → plainPart p → HostPort (h ++ COLON :: p)
  | bracketed (h p : Bytes) : lacks LBR h → lacks RBR h → plainPart p →
      HostPort (LBR :: (h ++ RBR :: COLON :: p))

inductive ServerName : Bytes → Prop where
  | single (a : UInt8) : isAlnum a = true → ServerName [a]
  | multi (a : UInt8) (mid : Bytes) (z : UInt8) : isAlnum a = true → (∀ b ∈ mid, isExt b = true) →
      isAlnum z = true → mid.length + 2 ≤ nameMax → ServerName (a :: (mid ++ [z]))

/-- "use a number > 0" -/
def Ops.positive : Ops → Bool
  | .pos => true | .inf => true | _ => false

def QuotaOk (q : Quota) : Prop :=
  q.enabled = true → q.ops.positive = true ∧ 1 ≤ q.burst ∧ 1 ≤ q.maxEntries

def TrustedOk (validNet : Bytes → Bool) (c : Cfg) : Prop :=
  ∀ e ∈ resolveTrusted c.trusted, validNet e = true

/-- a Lite backend is `host`, `host:port` with a numeric port, or contains `$n` placeholders
    (netutil.Parse semantics — see `parseAddrOk`) -/
def BackendOk (a : Bytes) : Prop := parseAddrOk a = true ∨ containsParams a = true

def RouteOk (r : Route) : Prop :=
  r.hosts ≠ [] ∧ r.backends ≠ [] ∧ (r.strategy = [] ∨ r.strategy ∈ strategies) ∧ ∀ a ∈ r.backends, BackendOk a

def LiteOk (c : Cfg) : Prop := c.routes ≠ [] ∧ ∀ r ∈ c.routes, RouteOk r

def ViaOk (c : Cfg) : Prop :=
  c.viaEnabled = true → c.viaMode ∈ viaModes ∧ (c.viaBind ≠ [] → HostPort c.viaBind)

def Registered (c : Cfg) (n : Bytes) : Prop := ∃ a, (n, a) ∈ c.servers

def FullOk (c : Cfg) : Prop :=
  ViaOk c ∧ c.fwdMode ∈ fwdModes ∧
  (∀ na ∈ c.servers, ServerName na.1 ∧ HostPort na.2) ∧
  (∀ n ∈ c.try_, Registered c n) ∧
  (∀ hn ∈ c.forced, ∀ n ∈ hn.2, Registered c n) ∧
  (-1 ≤ c.level ∧ c.level ≤ 9) ∧ -1 ≤ c.threshold

/-- the documented configuration space -/
def Ok (validNet : Bytes → Bool) (c : Cfg) : Prop :=
  (c.healthEnabled = true → HostPort c.healthBind) ∧
  HostPort c.bind ∧ QuotaOk c.quotaConn ∧ QuotaOk c.quotaLogin ∧ TrustedOk validNet c ∧
  (if c.liteEnabled then LiteOk c else FullOk c)

/-! ### executable oracles
`hostPortSpec` / `serverNameSpec`: independent transcriptions of the two grammars, used for the `hp` / `name`
lines (cross-check only, not proved). -/

def count (c : UInt8) (s : Bytes) : Nat := (s.filter (· = c)).length

def hostPortSpec (s : Bytes) : Bool :=
  match s with
  | 91 :: rest =>
    let h := rest.takeWhile (· ≠ RBR)
    match rest.dropWhile (· ≠ RBR) with
    | 93 :: 58 :: p => !has LBR h && !has COLON p && !has LBR p && !has RBR p
    | _ => false
  | _ => count COLON s = 1 && !has LBR s && !has RBR s

def serverNameSpec (s : Bytes) : Bool :=
  match s with
  | [] => false
  | [a] => isAlnum a
  | a :: r => isAlnum a && (match r.getLast? with | some z => isAlnum z | none => false) &&
      r.dropLast.all isExt && decide (s.length ≤ 63)

def quotaClasses (q : Quota) : List String :=
  if q.enabled && !(q.ops.positive && decide (1 ≤ q.burst) && decide (1 ≤ q.maxEntries)) then ["quota"] else []

def routeClasses (r : Route) : List String :=
  (if r.hosts.isEmpty then ["lite-host"] else []) ++
  (if r.backends.isEmpty then ["lite-backend"] else []) ++
  (if r.strategy.isEmpty || strategies.contains r.strategy then [] else ["lite-strategy"]) ++
  (if !r.hosts.isEmpty && r.backends.any (fun a => !(parseAddrOk a || containsParams a)) then ["lite-addr"] else [])

/-- Names of the documented constraints a configuration breaks (the driver's oracle for `val` lines).
    Written constraint by constraint — no error list, no source order, no early return — over the atoms
    `hostPortOk` / `validServerName`, which `Props` proves equal to the grammars above.
    `Gate.C37.Props.oracle_is_spec`: it is empty exactly on `Ok`. -/
def okClasses (validNet : Bytes → Bool) (c : Cfg) : List String :=
  (if c.healthEnabled && !hostPortOk c.healthBind then ["health"] else []) ++
  (if hostPortOk c.bind then [] else ["bind"]) ++
  quotaClasses c.quotaConn ++ quotaClasses c.quotaLogin ++
  (if (resolveTrusted c.trusted).all validNet then [] else ["trusted"]) ++
  (if c.liteEnabled then
    (if c.routes.isEmpty then ["lite-routes"] else c.routes.flatMap routeClasses)
   else
    (if c.viaEnabled && !viaModes.contains c.viaMode then ["via-mode"] else []) ++
    (if c.viaEnabled && !c.viaBind.isEmpty && !hostPortOk c.viaBind then ["via-bind"] else []) ++
    (if fwdModes.contains c.fwdMode then [] else ["fwd"]) ++
    (if c.servers.all (fun na => validServerName na.1) then [] else ["server-name"]) ++
    (if c.servers.all (fun na => hostPortOk na.2) then [] else ["server-addr"]) ++
    (if c.try_.all (fun n => c.servers.any (·.1 = n)) then [] else ["try"]) ++
    (if c.forced.all (fun hn => hn.2.all fun n => c.servers.any (·.1 = n)) then [] else ["forced"]) ++
    (if decide (-1 ≤ c.level) && decide (c.level ≤ 9) then [] else ["comp-level"]) ++
    (if decide (-1 ≤ c.threshold) then [] else ["comp-threshold"]))

end Gate.C37
