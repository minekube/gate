import GateModel.C37.Lemmas
/-
C37 — Validation accepts exactly the documented configuration space.

`validate` (Model.lean) mirrors the error-producing part of (*gate/config.Config).Validate →
(*java/config.Config).Validate → lite/config.Config.Validate; `Ok` (Spec.lean) is the documented
configuration space written as a predicate (grammars for host:port and server names, ranges, references,
the Lite/full-proxy split).  `validNet` — "this trusted-proxy entry is an IP address or CIDR block" — is a
parameter (netip parsing is external).
The serialise-and-reload clause has no theorem (YAML/JSON libraries are not modelled): it is observed by
the harness only.
-/
namespace Gate.C37.Props
open Gate Gate.C37

/-- `validation.ValidHostPort` (net.SplitHostPort) accepts exactly  h ":" p  |  "[" h "]:" p -/
theorem hostport_grammar (s : Bytes) : hostPortOk s = true ↔ HostPort s :=
  ⟨grammar_of_hostPortOk, hostPortOk_of_grammar⟩

/-- `validation.ValidServerName` accepts exactly  alnum | alnum ext* alnum  of 1..63 bytes -/
theorem servername_grammar (s : Bytes) : validServerName s = true ↔ ServerName s :=
  ⟨grammar_of_validServerName, validServerName_of_grammar⟩

/-- a blank bind (`strings.TrimSpace(bind) == ""`) is never a host:port: "Bind is empty" and
    "Invalid bind" are the same documented constraint -/
theorem blank_is_not_hostport (s : Bytes) (h : allSpace s = true) : ¬ HostPort s := by
  rw [← hostport_grammar, allSpace_not_hostPort s h]; simp

/-! ### each group of checks is silent exactly when its documented constraint holds -/

theorem health_error_iff (c : Cfg) :
    healthErrs c = [] ↔ (c.healthEnabled = true → HostPort c.healthBind) := by
  unfold healthErrs
  simp only [ite_nil_iff, Bool.and_eq_true, Bool.not_eq_true', not_and, Bool.not_eq_false, hostport_grammar]

theorem bind_error_iff (c : Cfg) : bindErrs c = [] ↔ HostPort c.bind := by
  unfold bindErrs
  rw [← hostport_grammar]
  cases hs : allSpace c.bind with
  | true => simp [allSpace_not_hostPort _ hs]
  | false => cases hostPortOk c.bind <;> simp

/-- enabled quota: ops a number > 0, burst ≥ 1, maxEntries ≥ 1; a disabled quota is not looked at -/
theorem quota_error_iff (q : Quota) : quotaErrs q = [] ↔ QuotaOk q := by
  unfold quotaErrs QuotaOk
  cases q.enabled with
  | false => simp
  | true =>
    simp only [if_true, List.append_eq_nil_iff, ite_nil_iff, forall_const, positive_iff, Int.not_lt, and_assoc]

/-- every entry of the effective list (the built-in defaults when none is configured), whether or not
    proxyProtocol is enabled -/
theorem trusted_error_iff (vn : Bytes → Bool) (c : Cfg) : trustedErrs vn c = [] ↔ TrustedOk vn c := by
  unfold trustedErrs TrustedOk
  rw [ite_nil_iff', List.all_eq_true]

theorem lite_error_iff (c : Cfg) : liteErrs c = [] ↔ LiteOk c := by
  unfold liteErrs LiteOk
  cases h : c.routes with
  | nil => simp
  | cons r t => simp [routesErrs_nil_iff]

theorem via_error_iff (c : Cfg) : viaErrs c = [] ↔ ViaOk c := by
  unfold viaErrs ViaOk
  cases c.viaEnabled with
  | false => simp
  | true =>
    simp only [if_true, List.append_eq_nil_iff, ite_nil_iff, ite_nil_iff', forall_const, List.contains_iff_mem,
      Bool.and_eq_true, Bool.not_eq_true', not_and, Bool.not_eq_false, List.isEmpty_eq_false_iff, hostport_grammar]

theorem forwarding_error_iff (c : Cfg) : fwdErrs c = [] ↔ c.fwdMode ∈ fwdModes := by
  unfold fwdErrs
  rw [ite_nil_iff', List.contains_iff_mem]

theorem servers_error_iff (c : Cfg) :
    serverErrs c.servers = [] ↔ ∀ na ∈ c.servers, ServerName na.1 ∧ HostPort na.2 := by
  induction c.servers with
  | nil => simp [serverErrs]
  | cons na t ih =>
    obtain ⟨n, a⟩ := na
    simp only [serverErrs, List.append_eq_nil_iff, ite_nil_iff', ih, List.mem_cons, forall_eq_or_imp,
      servername_grammar, hostport_grammar, and_assoc]

theorem try_error_iff (c : Cfg) : tryErrs c = [] ↔ ∀ n ∈ c.try_, Registered c n := by
  unfold tryErrs
  simp only [List.flatMap_eq_nil_iff, ite_nil_iff', registered_iff]

theorem forced_hosts_error_iff (c : Cfg) :
    forcedErrs c = [] ↔ ∀ hn ∈ c.forced, ∀ n ∈ hn.2, Registered c n := by
  unfold forcedErrs
  simp only [List.flatMap_eq_nil_iff, ite_nil_iff', registered_iff]

/-- level −1..9 and threshold ≥ −1 -/
theorem compression_error_iff (c : Cfg) :
    compErrs c = [] ↔ (-1 ≤ c.level ∧ c.level ≤ 9) ∧ -1 ≤ c.threshold := by
  unfold compErrs
  simp only [List.append_eq_nil_iff, ite_nil_iff, Bool.or_eq_true, decide_eq_true_eq]
  omega

/-- Validation reports no error exactly on the documented configuration space — for every configuration,
    every visiting order of the servers / forcedHosts maps, every `validNet`. -/
theorem validate_accepts_iff_ok (vn : Bytes → Bool) (c : Cfg) : validate vn c = [] ↔ Ok vn c := by
  unfold validate validateJava Ok
  simp only [List.append_eq_nil_iff, health_error_iff, bind_error_iff, quota_error_iff, trusted_error_iff,
    and_assoc]
  cases c.liteEnabled
  · simp only [Bool.false_eq_true, if_false, fullErrs, FullOk, List.append_eq_nil_iff, via_error_iff,
      forwarding_error_iff, servers_error_iff, try_error_iff, forced_hosts_error_iff, compression_error_iff,
      and_assoc]
  · simp only [if_true, lite_error_iff]

/-- The other direction named: an error is reported exactly when some documented constraint is broken. -/
theorem validate_rejects_iff_broken (vn : Bytes → Bool) (c : Cfg) : validate vn c ≠ [] ↔ ¬ Ok vn c :=
  not_congr (validate_accepts_iff_ok vn c)

/-- Lite mode returns before the full-proxy checks: via, forwarding mode, servers, try, forced hosts and
    compression cannot produce an error (the code warns that they are ignored). -/
theorem lite_mode_skips_full_proxy_checks (vn : Bytes → Bool) (c : Cfg) (h : c.liteEnabled = true) :
    validateJava vn c =
      bindErrs c ++ quotaErrs c.quotaConn ++ quotaErrs c.quotaLogin ++ trustedErrs vn c ++ liteErrs c := by
  simp [validateJava, h]

/-- the executable oracle the driver evaluates on the implementation's verdict is the spec -/
theorem oracle_is_spec (vn : Bytes → Bool) (c : Cfg) : okClasses vn c = [] ↔ Ok vn c := by
  unfold okClasses Ok
  cases c.liteEnabled
  · simp only [Bool.false_eq_true, if_false, FullOk, ViaOk, TrustedOk, Registered, List.append_eq_nil_iff,
      ite_nil_iff, ite_nil_iff', quotaClasses_nil_iff, any_fst_iff, List.all_eq_true, List.contains_iff_mem,
      Bool.and_eq_true, Bool.not_eq_true', not_and, Bool.not_eq_false, decide_eq_true_eq,
      List.isEmpty_eq_false_iff, hostport_grammar, servername_grammar, imp_and, forall_and, and_assoc]
  · simp only [if_true, LiteOk, TrustedOk, List.append_eq_nil_iff, ite_nil_iff, ite_nil_iff',
      quotaClasses_nil_iff, List.all_eq_true, Bool.and_eq_true, Bool.not_eq_true', not_and, Bool.not_eq_false,
      hostport_grammar, and_assoc]
    cases c.routes <;> simp [routeClasses_nil_iff]

/-! ### the defect that was repaired (fixes/C37-quota-ops-nan.diff) -/

/-- before the fix (`quota.OPS <= 0`) an enabled quota with ops = NaN was accepted -/
theorem quota_nan_fails : ¬ ∀ q : Quota, quotaErrsDefective q = [] ↔ QuotaOk q := by
  intro h
  have := (h ⟨true, .nan, 1, 1⟩).mp (by decide)
  have := (this rfl).1
  simp [Ops.positive] at this

/-- … and that was the only difference -/
theorem quota_defective_partial (q : Quota) (h : q.ops ≠ .nan) : quotaErrsDefective q = quotaErrs q := by
  have e : q.ops.leZero = q.ops.notPositive := by
    revert h
    cases q.ops <;> decide
  unfold quotaErrsDefective quotaErrs
  rw [e]

/-! ### source shape (regenerated from /repo on every run) -/

theorem validHostPort_is_splitHostPort : Gate.Gen.C37.validHostPortCalls = ["net.SplitHostPort", "return"] := rfl
theorem validServerName_shape :
    Gate.Gen.C37.validServerNameCalls = ["len", "qualifiedNameRegexp.MatchString", "return"] := rfl
theorem servername_regex : Gate.Gen.C37.nameRegex = "^([A-Za-z0-9][-A-Za-z0-9_.]*)?[A-Za-z0-9]$" := rfl
theorem servername_max : Gate.Gen.C37.nameMax = 63 := rfl
theorem netutil_split_shape :
    Gate.Gen.C37.netutilSplitCalls =
      ["net.SplitHostPort", "strconv.Atoi", "isMissingPortErr", "isTooManyColonsErr", "uint16", "return"] := rfl
theorem forwarding_switch_cases :
    Gate.Gen.C37.validateCases =
      ["NoneForwardingMode", "LegacyForwardingMode", "VelocityForwardingMode", "BungeeGuardForwardingMode", "default"] :=
  rfl
theorem forwarding_mode_names :
    [Gate.Gen.C37.fwdNone, Gate.Gen.C37.fwdLegacy, Gate.Gen.C37.fwdVelocity, Gate.Gen.C37.fwdBungeeGuard]
      = ["none", "legacy", "velocity", "bungeeguard"] := rfl
theorem strategy_names :
    [Gate.Gen.C37.stratSequential, Gate.Gen.C37.stratRandom, Gate.Gen.C37.stratRoundRobin,
     Gate.Gen.C37.stratLeastConnections, Gate.Gen.C37.stratLowestLatency]
      = ["sequential", "random", "round-robin", "least-connections", "lowest-latency"] := rfl
theorem via_switch_cases : Gate.Gen.C37.viaCases = ["\"\"", "\"embedded\"", "\"subprocess\"", "default"] := rfl
theorem via_shape : Gate.Gen.C37.viaCalls = ["return", "e", "validation.ValidHostPort", "e"] := rfl
/-- order of the checks in (*java/config.Config).Validate, with the Lite early return before validateVia -/
theorem validate_order :
    Gate.Gen.C37.validateCalls.filter (fun c => c ∈
        ["strings.TrimSpace", "validation.ValidHostPort", "validation.ValidServerName", "validateProxyProtocol",
         "validateBackendFloodgate", "c.Lite.Validate", "validateVia", "return"])
      = ["return", "strings.TrimSpace", "validation.ValidHostPort", "validateProxyProtocol",
         "validateBackendFloodgate", "c.Lite.Validate", "return", "validateVia",
         "validation.ValidServerName", "validation.ValidHostPort", "return"] := by decide +kernel
theorem lite_validate_order :
    Gate.Gen.C37.liteCalls.filter (fun c => c ∈ ["slices.Contains", "netutil.Parse", "containsParameters", "return"])
      = ["return", "slices.Contains", "netutil.Parse", "containsParameters", "return"] := by decide +kernel
theorem trusted_proxies_shape :
    Gate.Gen.C37.proxyProtocolCalls.take 2 = ["ResolveProxyProtocolTrustedProxies", "netutil.ParseTrustedNetworks"] :=
  rfl

/-! ### non-vacuity -/

private def baseCfg : Cfg := {
  healthEnabled := false, healthBind := ascii "0.0.0.0:9090", bind := ascii "0.0.0.0:25565",
  quotaConn := ⟨true, .pos, 10, 1000⟩, quotaLogin := ⟨true, .pos, 3, 1000⟩, trusted := [],
  liteEnabled := false, routes := [⟨[ascii "*.example.com"], [ascii "b1:25565"], []⟩],
  viaEnabled := false, viaMode := [], viaBind := [], fwdMode := ascii "legacy",
  servers := [(ascii "lobby", ascii "localhost:25566")], try_ := [ascii "lobby"],
  forced := [(ascii "play.example.com", [ascii "lobby"])], level := -1, threshold := 256 }

private theorem baseCfg_accepted : validate (fun _ => true) baseCfg = [] := by decide +kernel
example : validate (fun _ => true) baseCfg = [] := baseCfg_accepted
example : Ok (fun _ => true) baseCfg := (validate_accepts_iff_ok _ _).mp baseCfg_accepted
example : validate (fun _ => true) { baseCfg with level := 10, try_ := [ascii "ghost"] }
    = [.tryUnknown (ascii "ghost"), .compLevel] := by decide +kernel
example : validate (fun _ => true) { baseCfg with liteEnabled := true, level := 10 } = [] := by decide +kernel
example : HostPort (ascii "[::1]:25565") := (hostport_grammar _).mp (by decide +kernel)
example : ¬ HostPort (ascii "::1:25565") := fun h => absurd ((hostport_grammar _).mpr h) (by decide +kernel)

end Gate.C37.Props
