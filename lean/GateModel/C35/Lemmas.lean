import GateModel.C35.Spec
namespace Gate.C35

theorem config_ext {a b : Config} (h1 : a.rest = b.rest) (h2 : a.lite = b.lite) (h3 : a.routes = b.routes) :
    a = b := by
  cases a; cases b; simp_all

theorem withRoutes_eq {cur c : Config} (h : RouteOnlyChange cur c) : cur.withRoutes c.routes = c :=
  config_ext h.2.2.1.symm (h.1.trans h.2.1.symm) rfl

theorem RouteOnlyChange.ne {cur c : Config} (h : RouteOnlyChange cur c) : c ≠ cur :=
  fun e => h.2.2.2 (by rw [e])

theorem onlyRoutesChanged_iff (cur c : Config) (hne : cur ≠ c) :
    onlyRoutesChanged cur c = true ↔ RouteOnlyChange cur c := by
  unfold onlyRoutesChanged RouteOnlyChange
  simp only [Bool.and_eq_true, decide_eq_true_eq]
  constructor
  · rintro ⟨⟨l1, l2⟩, hr⟩
    exact ⟨l1, l2, hr.symm, fun hrt => hne (config_ext hr (l1.trans l2.symm) hrt.symm)⟩
  · rintro ⟨l1, l2, hr, _⟩
    exact ⟨⟨l1, l2⟩, hr.symm⟩

/-- The proxy's own tests repeat the Gate's: on a valid route-only change of the configuration it already
    holds, each of them passes. -/
theorem proxyApply_ok (valid : Config → Bool) (p : Proxy) (cur c : Config) (hc : p.cfg = cur)
    (h : RouteOnlyChange cur c) (hv : valid c = true) :
    proxyApply valid p c = some ⟨c, p.gen + 1⟩ := by
  subst hc
  obtain ⟨l1, l2, hr, hne⟩ := id h
  simp [proxyApply, l1, l2, hr, hv, hne, h.ne.symm, withRoutes_eq h]

theorem specStep_of_guard {V : Type} [DecidableEq V] (valid : Config → Bool) (ver : Config → V) (r : Reg)
    (op : Op V) (hg : ∀ e, op.expected = some e → ver r.cur = e) :
    specStep valid ver r op = specStep.body valid ver r op := by
  unfold specStep
  split
  · next e he => exact if_neg (not_not_intro (hg e he))
  · rfl

/-- what one request does to a coherent Gate: the six possible outcomes -/
inductive Outcome {V : Type} (valid : Config → Bool) (ver : Config → V) (s : State) (op : Op V) :
    State × Result V → Prop where
  | stale (e : V) : op.expected = some e → ver s.cur ≠ e →
      Outcome valid ver s op (s, ⟨.preconditionFailed, some (ver s.cur)⟩)
  | nil : (∀ e, op.expected = some e → ver s.cur = e) → op.cand = none →
      Outcome valid ver s op (s, ⟨.invalid, none⟩)
  | same : (∀ e, op.expected = some e → ver s.cur = e) → op.cand = some s.cur →
      Outcome valid ver s op (s, ⟨.unchanged, some (ver s.cur)⟩)
  | invalid (c : Config) : (∀ e, op.expected = some e → ver s.cur = e) → op.cand = some c → c ≠ s.cur →
      valid c = false → Outcome valid ver s op (s, ⟨.invalid, none⟩)
  | applied (c : Config) : (∀ e, op.expected = some e → ver s.cur = e) → op.cand = some c → valid c = true →
      RouteOnlyChange s.cur c →
      Outcome valid ver s op (⟨c, ⟨c, s.proxy.gen + 1⟩⟩, ⟨.applied, some (ver c)⟩)
  | unsupported (c : Config) : (∀ e, op.expected = some e → ver s.cur = e) → op.cand = some c → c ≠ s.cur →
      valid c = true → ¬ RouteOnlyChange s.cur c → Outcome valid ver s op (s, ⟨.unsupported, none⟩)

namespace Outcome
variable {V : Type} {valid : Config → Bool} {ver : Config → V} {s : State} {op : Op V} {out : State × Result V}

theorem coherent (h : Outcome valid ver s op out) (hc : Coherent s) : Coherent out.1 := by
  cases h with
  | applied => rfl
  | _ => exact hc

/-- what every outcome leaves alone, and what it counts -/
theorem frame (h : Outcome valid ver s op out) :
    out.1.cur.rest = s.cur.rest ∧ out.1.cur.lite = s.cur.lite ∧
    (out.1.cur = s.cur ∨ (op.cand = some out.1.cur ∧ valid out.1.cur = true)) ∧
    out.1.proxy.gen = s.proxy.gen + (if out.2.code = .applied then 1 else 0) ∧ out.2.code ≠ .prepareFailed := by
  cases h with
  | applied c h1 h2 h3 h4 => exact ⟨h4.2.2.1, h4.2.1.trans h4.1.symm, Or.inr ⟨h2, h3⟩, rfl, nofun⟩
  | _ => exact ⟨rfl, rfl, Or.inl rfl, rfl, nofun⟩

/-- each outcome is what the abstract register does with the request -/
theorem refines [DecidableEq V] (h : Outcome valid ver s op out) :
    specStep valid ver (abs s) op = (abs out.1, out.2) := by
  cases h with
  | stale e h1 h2 =>
    simp only [specStep, h1]
    exact if_pos h2
  | nil hg h2 =>
    rw [specStep_of_guard valid ver (abs s) op hg]
    simp only [specStep.body, h2]
  | same hg h2 =>
    rw [specStep_of_guard valid ver (abs s) op hg]
    simp only [specStep.body, h2]
    exact if_pos rfl
  | invalid c hg h2 h3 h4 =>
    rw [specStep_of_guard valid ver (abs s) op hg]
    simp only [specStep.body, h2]
    exact (if_neg h3).trans (if_pos h4)
  | applied c hg h2 h3 h4 =>
    rw [specStep_of_guard valid ver (abs s) op hg]
    simp only [specStep.body, h2]
    exact (if_neg h4.ne).trans ((if_neg (ne_false_of_eq_true h3)).trans (if_pos h4))
  | unsupported c hg h2 h3 h4 h5 =>
    rw [specStep_of_guard valid ver (abs s) op hg]
    simp only [specStep.body, h2]
    exact (if_neg h3).trans ((if_neg (ne_false_of_eq_true h4)).trans (if_neg h5))

end Outcome

variable {V : Type} [DecidableEq V] (valid : Config → Bool) (ver : Config → V)

/-- One request to a coherent Gate ends in one of the six outcomes: the tests of `applyIfVersion` and
    `applyLocked` in source order, and under coherence the proxy never refuses what the Gate lets through
    (`proxyApply_ok`), so `prepare_failed` is not among them. -/
theorem step_outcome (s : State) (hc : Coherent s) (op : Op V) : Outcome valid ver s op (step valid ver s op) := by
  obtain ⟨cand, expected⟩ := op
  have body (hg : ∀ e, expected = some e → ver s.cur = e) :
      Outcome valid ver s ⟨cand, expected⟩ (applyLocked valid ver s cand) := by
    cases cand with
    | none => exact .nil hg rfl
    | some c =>
      simp only [applyLocked]
      by_cases h1 : s.cur = c
      · subst h1
        rw [if_pos rfl]
        exact .same hg rfl
      · rw [if_neg h1]
        cases hv : valid c with
        | false => exact .invalid c hg rfl (Ne.symm h1) hv
        | true =>
          by_cases h2 : RouteOnlyChange s.cur c
          · simp only [(onlyRoutesChanged_iff s.cur c h1).mpr h2, withRoutes_eq h2,
              proxyApply_ok valid s.proxy s.cur c hc h2 hv]
            exact .applied c hg rfl hv h2
          · rw [Bool.eq_false_iff.mpr (mt (onlyRoutesChanged_iff s.cur c h1).mp h2)]
            exact .unsupported c hg rfl (Ne.symm h1) hv h2
  cases expected with
  | none => exact body nofun
  | some e =>
    simp only [step, applyIfVersion]
    by_cases h : ver s.cur = e
    · rw [if_neg (not_not_intro h)]
      exact body fun _ h' => Option.some.inj h' ▸ h
    · rw [if_pos h]
      exact .stale e rfl h

theorem run_cons (s : State) (op : Op V) (ops : List (Op V)) :
    run valid ver s (op :: ops) =
      ((run valid ver (step valid ver s op).1 ops).1,
        (step valid ver s op).2 :: (run valid ver (step valid ver s op).1 ops).2) := rfl

theorem specRun_cons (r : Reg) (op : Op V) (ops : List (Op V)) :
    specRun valid ver r (op :: ops) =
      ((specRun valid ver (specStep valid ver r op).1 ops).1,
        (specStep valid ver r op).2 :: (specRun valid ver (specStep valid ver r op).1 ops).2) := rfl

theorem run_refines (ops : List (Op V)) (s : State) (hc : Coherent s) :
    specRun valid ver (abs s) ops = (abs (run valid ver s ops).1, (run valid ver s ops).2) := by
  induction ops generalizing s with
  | nil => rfl
  | cons op ops ih =>
    have ho := step_outcome valid ver s hc op
    rw [specRun_cons, run_cons, ho.refines, ih _ (ho.coherent hc)]

theorem coherent_init (c : Config) : Coherent (init c) := rfl

theorem run_facts (ops : List (Op V)) :
    ∀ s, Coherent s →
      let out := run valid ver s ops
      Coherent out.1 ∧ out.1.cur.rest = s.cur.rest ∧ out.1.cur.lite = s.cur.lite ∧
      (out.1.cur = s.cur ∨ ∃ op ∈ ops, op.cand = some out.1.cur ∧ valid out.1.cur = true) ∧
      out.1.proxy.gen = s.proxy.gen + (out.2.filter (fun x => x.code = .applied)).length ∧
      (∀ x ∈ out.2, x.code ≠ .prepareFailed) ∧ out.2.length = ops.length := by
  induction ops with
  | nil => intro s hc; simp [run, hc]
  | cons op ops ih =>
    intro s hc
    have ho := step_outcome valid ver s hc op
    obtain ⟨i1, i2, i3, i4, i5, i6, i7⟩ := ih _ (ho.coherent hc)
    obtain ⟨r1, r2, r3, r4, r5⟩ := ho.frame
    dsimp only
    rw [run_cons]
    refine ⟨i1, i2.trans r1, i3.trans r2, ?_, ?_, List.forall_mem_cons.mpr ⟨r5, i6⟩, congrArg (· + 1) i7⟩
    · rcases i4 with h | ⟨o, ho', h⟩
      · rw [h]
        exact r3.imp_right fun h' => ⟨op, List.mem_cons_self, h'⟩
      · exact Or.inr ⟨o, List.mem_cons_of_mem _ ho', h⟩
    · rw [i5, r4, List.filter_cons]
      by_cases hx : (step valid ver s op).2.code = .applied <;> simp [hx] <;> omega

/-- what one API request does to a coherent Gate -/
inductive ApiOutcome {V : Type} (valid : Config → Bool) (ver : Config → V) (a : ApiState) (req : ApiReq V) :
    ApiState × ApiResp V → Prop where
  | noVersion : req.ifMatch = none → ApiOutcome valid ver a req (a, ⟨.invalidArgument, none⟩)
  | undecodable : req.cand = none → ApiOutcome valid ver a req (a, ⟨.invalidArgument, none⟩)
  | invalid (c : Config) : req.cand = some c → valid c = false →
      ApiOutcome valid ver a req (a, ⟨.invalidArgument, none⟩)
  | stale (e : V) (c : Config) : req.ifMatch = some e → req.cand = some c → valid c = true → ver a.gate.cur ≠ e →
      ApiOutcome valid ver a req (a, ⟨.failedPrecondition, none⟩)
  | unsupported (e : V) (c : Config) : req.ifMatch = some e → req.cand = some c → valid c = true →
      ver a.gate.cur = e → c ≠ a.gate.cur → ¬ RouteOnlyChange a.gate.cur c →
      ApiOutcome valid ver a req (a, ⟨.failedPrecondition, none⟩)
  | same (e : V) : req.ifMatch = some e → req.cand = some a.gate.cur → valid a.gate.cur = true → ver a.gate.cur = e →
      ApiOutcome valid ver a req
        (⟨a.gate, if req.persist then some a.gate.cur else a.file⟩, ⟨.ok, some (ver a.gate.cur)⟩)
  | applied (e : V) (c : Config) : req.ifMatch = some e → req.cand = some c → valid c = true →
      ver a.gate.cur = e → RouteOnlyChange a.gate.cur c →
      ApiOutcome valid ver a req
        (⟨⟨c, ⟨c, a.gate.proxy.gen + 1⟩⟩, if req.persist then some c else a.file⟩, ⟨.ok, some (ver c)⟩)

theorem apiApply_outcome (a : ApiState) (hc : Coherent a.gate) (req : ApiReq V) :
    ApiOutcome valid ver a req (apiApply valid ver a req) := by
  unfold apiApply
  cases hm : req.ifMatch with
  | none => exact .noVersion hm
  | some e =>
    cases hcand : req.cand with
    | none => exact .undecodable hcand
    | some c =>
      dsimp only
      cases hv : valid c with
      | false => exact .invalid c hcand hv
      | true =>
        have ho : Outcome valid ver a.gate ⟨some c, some e⟩ (applyIfVersion valid ver a.gate (some c) e) :=
          step_outcome valid ver a.gate hc ⟨some c, some e⟩
        rw [if_neg (by simp)]
        generalize applyIfVersion valid ver a.gate (some c) e = st at ho
        cases ho with
        | stale e' h1 h2 => cases h1; exact .stale e c hm hcand hv h2
        | nil h1 h2 => cases h2
        | same h1 h2 => cases h2; exact .same e hm hcand hv (h1 e rfl)
        | invalid c' h1 h2 h3 h4 => cases h2; rw [hv] at h4; cases h4
        | applied c' h1 h2 h3 h4 => cases h2; exact .applied e c hm hcand hv (h1 e rfl) h4
        | unsupported c' h1 h2 h3 h4 h5 => cases h2; exact .unsupported e c hm hcand hv (h1 e rfl) h3 h5

end Gate.C35
