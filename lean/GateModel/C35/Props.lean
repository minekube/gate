import GateModel.C35.Lemmas
import GateModel.C35.Conc
import GateModel.Gen.C35
/-
C35 — Live config changes are atomic, validated and versioned by content.

`step` (Model.lean) mirrors ApplyLiveConfig / ApplyLiveConfigIfVersion (bodies under reloadMu) including
the Java proxy's own ApplyLiveConfig; `valid` (Config.Validate) and `ver` (configVersion = sha256 of the
canonical JSON) are parameters; a configuration is its content (canonical JSON of everything but the
routes, canonical JSON of the routes).  `Coherent s` — Gate and proxy hold the same configuration — holds
initially (`init`) and is preserved.
-/
namespace Gate.C35.Props
open Gate.C35

variable {V : Type} [DecidableEq V] (valid : Config → Bool) (ver : Config → V)

/-- only valid candidates that differ from the current configuration solely in Lite routes are applied -/
theorem only_route_changes_applied (s : State) (hc : Coherent s) (op : Op V)
    (h : (step valid ver s op).2.code = .applied) : Acceptable valid s.cur op.cand := by
  have ho := step_outcome valid ver s hc op
  generalize step valid ver s op = st at ho h ⊢
  cases ho with
  | applied c h1 h2 h3 h4 => exact ⟨c, h2, h3, h4⟩
  | _ => simp at h

/-- … and every such candidate is applied (unless a stale expected version was given) -/
theorem acceptable_is_applied (s : State) (hc : Coherent s) (op : Op V)
    (ha : Acceptable valid s.cur op.cand) (hg : ∀ e, op.expected = some e → e = ver s.cur) :
    (step valid ver s op).2.code = .applied := by
  obtain ⟨c, hcand, hv, hr⟩ := ha
  have ho := step_outcome valid ver s hc op
  generalize step valid ver s op = st at ho ⊢
  cases ho with
  | applied => rfl
  | stale e h1 h2 => exact absurd (hg e h1).symm h2
  | nil h1 h2 => rw [hcand] at h2; cases h2
  | same h1 h2 => rw [hcand] at h2; cases h2; exact absurd rfl hr.ne
  | invalid c' h1 h2 h3 h4 => rw [hcand] at h2; cases h2; rw [hv] at h4; cases h4
  | unsupported c' h1 h2 h3 h4 h5 => rw [hcand] at h2; cases h2; exact absurd hr h5

/-- the published configuration is exactly the (complete) candidate; the proxy routes with it and its
    route generation advances (ping cache reset) -/
theorem published_is_the_candidate (s : State) (hc : Coherent s) (op : Op V)
    (h : (step valid ver s op).2.code = .applied) :
    op.cand = some (step valid ver s op).1.cur ∧
    (step valid ver s op).1.proxy.cfg = (step valid ver s op).1.cur ∧
    (step valid ver s op).1.proxy.gen = s.proxy.gen + 1 := by
  have ho := step_outcome valid ver s hc op
  generalize step valid ver s op = st at ho h ⊢
  cases ho with
  | applied c h1 h2 h3 h4 => exact ⟨h2, rfl, rfl⟩
  | _ => simp at h

/-- rejected candidates leave configuration, version, routing and generation unchanged -/
theorem rejected_unchanged (s : State) (hc : Coherent s) (op : Op V)
    (h : (step valid ver s op).2.code ≠ .applied) : (step valid ver s op).1 = s := by
  have ho := step_outcome valid ver s hc op
  generalize step valid ver s op = st at ho h ⊢
  cases ho with
  | applied => simp at h
  | _ => rfl

/-- compare-and-swap: a conditional apply gets past the precondition only with the current version -/
theorem conditional_apply_is_cas (s : State) (hc : Coherent s) (op : Op V) (e : V) (he : op.expected = some e)
    (h : (step valid ver s op).2.code ≠ .preconditionFailed) : e = ver s.cur := by
  have ho := step_outcome valid ver s hc op
  generalize step valid ver s op = st at ho h ⊢
  cases ho with
  | stale => simp at h
  | _ => exact (‹∀ e, op.expected = some e → ver s.cur = e› e he).symm

theorem stale_version_refused (s : State) (op : Op V) (e : V) (he : op.expected = some e) (h : e ≠ ver s.cur) :
    step valid ver s op = (s, ⟨.preconditionFailed, some (ver s.cur)⟩) := by
  simp [step, he, applyIfVersion, Ne.symm h]

/-- every version a result carries is the version of the configuration current after the request -/
theorem reported_version_is_current (s : State) (hc : Coherent s) (op : Op V) (v : V)
    (h : (step valid ver s op).2.version = some v) : v = ver (step valid ver s op).1.cur := by
  have ho := step_outcome valid ver s hc op
  generalize step valid ver s op = st at ho h ⊢
  cases ho <;> simp_all

theorem unchanged_means_same_content (s : State) (hc : Coherent s) (op : Op V)
    (h : (step valid ver s op).2.code = .unchanged) : op.cand = some s.cur := by
  have ho := step_outcome valid ver s hc op
  generalize step valid ver s op = st at ho h ⊢
  cases ho with
  | same h1 h2 => exact h2
  | _ => simp at h

/-- the content changes exactly when the request is applied … -/
theorem content_changes_iff_applied (s : State) (hc : Coherent s) (op : Op V) :
    (step valid ver s op).1.cur ≠ s.cur ↔ (step valid ver s op).2.code = .applied := by
  have ho := step_outcome valid ver s hc op
  generalize step valid ver s op = st at ho ⊢
  cases ho with
  | applied c h1 h2 h3 h4 =>
    exact iff_of_true h4.ne rfl
  | _ => simp

omit [DecidableEq V] in
/-- … and the version string changes exactly when the content changes
    (hypothesis: sha256 ∘ canonical JSON is injective on contents, i.e. no collision) -/
theorem version_changes_iff_content_changes (hinj : ∀ a b, ver a = ver b → a = b) (s s' : State) :
    ver s'.cur ≠ ver s.cur ↔ s'.cur ≠ s.cur :=
  ⟨fun h e => h (by rw [e]), fun h e => h (hinj _ _ e)⟩

/-- From `gate.New(c0)`, after ANY sequence of requests: Gate and proxy agree; everything except the routes is
    still c0's; the current configuration is c0 or one complete, valid, submitted candidate; the route
    generation counts the applied requests; `prepare_failed` never happens; one result per request. -/
theorem history_invariants (c0 : Config) (ops : List (Op V)) :
    let out := run valid ver (init c0) ops
    Coherent out.1 ∧ out.1.cur.rest = c0.rest ∧ out.1.cur.lite = c0.lite ∧
    (out.1.cur = c0 ∨ ∃ op ∈ ops, op.cand = some out.1.cur ∧ valid out.1.cur = true) ∧
    out.1.proxy.gen = (out.2.filter (fun x => x.code = .applied)).length ∧
    (∀ x ∈ out.2, x.code ≠ .prepareFailed) ∧ out.2.length = ops.length := by
  have := run_facts valid ver ops (init c0) (coherent_init c0)
  simpa [init] using this

/-- a Gate whose configuration is not in Lite mode never changes it -/
theorem non_lite_never_changes (c0 : Config) (h : c0.lite = false) (ops : List (Op V)) :
    (run valid ver (init c0) ops).1 = init c0 := by
  induction ops with
  | nil => rfl
  | cons op ops ih =>
    have hc := coherent_init c0
    have : (step valid ver (init c0) op).1 = init c0 := by
      apply rejected_unchanged valid ver _ hc
      intro ha
      obtain ⟨c, _, _, hr⟩ := only_route_changes_applied valid ver _ hc op ha
      exact absurd (h.symm.trans hr.1) Bool.false_ne_true
    rw [run_cons, this]
    exact ih

/-- the code's sequence of tests (and the proxy's own) implements the abstract compare-and-swap register -/
theorem refines_cas_register (ops : List (Op V)) (s : State) (hc : Coherent s) :
    (run valid ver s ops).2 = (specRun valid ver (abs s) ops).2 ∧
    abs (run valid ver s ops).1 = (specRun valid ver (abs s) ops).1 := by
  rw [run_refines valid ver ops s hc]
  exact ⟨rfl, rfl⟩

/-! ### through the API handler (`ConfigHandlerImpl.ApplyConfig`): if_match is a precondition for EVERY candidate -/

/-- the handler answers OK only if if_match is the current version — whatever the candidate, including one that
    resolves to the configuration already in effect (re-submitted document, empty merge patch, same routes) -/
theorem api_ok_requires_current_version (a : ApiState) (hc : Coherent a.gate) (req : ApiReq V)
    (h : (apiApply valid ver a req).2.code = .ok) : req.ifMatch = some (ver a.gate.cur) := by
  have ho := apiApply_outcome valid ver a hc req
  generalize apiApply valid ver a req = st at ho h ⊢
  cases ho with
  | same e h1 h2 h3 h4 => rw [h1, h4]
  | applied e c h1 h2 h3 h4 h5 => rw [h1, h4]
  | _ => simp at h

/-- OK means: the candidate was valid and either equal to the current content or a route-only change of it; it
    is now the current configuration and the returned version is its version -/
theorem api_ok_publishes_the_candidate (a : ApiState) (hc : Coherent a.gate) (req : ApiReq V)
    (h : (apiApply valid ver a req).2.code = .ok) :
    ∃ c, req.cand = some c ∧ valid c = true ∧ (c = a.gate.cur ∨ RouteOnlyChange a.gate.cur c) ∧
      (apiApply valid ver a req).1.gate.cur = c ∧ (apiApply valid ver a req).2.version = some (ver c) := by
  have ho := apiApply_outcome valid ver a hc req
  generalize apiApply valid ver a req = st at ho h ⊢
  cases ho with
  | same e h1 h2 h3 h4 => exact ⟨_, h2, h3, Or.inl rfl, rfl, rfl⟩
  | applied e c h1 h2 h3 h4 h5 => exact ⟨c, h2, h3, Or.inr h5, rfl, rfl⟩
  | _ => simp at h

/-- every refusal leaves the Gate, the proxy and the persisted file untouched -/
theorem api_rejected_changes_nothing (a : ApiState) (hc : Coherent a.gate) (req : ApiReq V)
    (h : (apiApply valid ver a req).2.code ≠ .ok) : (apiApply valid ver a req).1 = a := by
  have ho := apiApply_outcome valid ver a hc req
  generalize apiApply valid ver a req = st at ho h ⊢
  cases ho with
  | same e h1 h2 h3 h4 => simp at h
  | applied e c h1 h2 h3 h4 h5 => simp at h
  | _ => rfl

/-- a stale / arbitrary / missing version is refused and changes nothing — for every candidate, in particular
    (`req.cand = some a.gate.cur`) one equal to the configuration in effect -/
theorem api_wrong_version_refused (a : ApiState) (hc : Coherent a.gate) (req : ApiReq V)
    (hm : req.ifMatch ≠ some (ver a.gate.cur)) :
    (apiApply valid ver a req).2.code ≠ .ok ∧ (apiApply valid ver a req).1 = a := by
  have hne : (apiApply valid ver a req).2.code ≠ .ok :=
    fun h => hm (api_ok_requires_current_version valid ver a hc req h)
  exact ⟨hne, api_rejected_changes_nothing valid ver a hc req hne⟩

/-- the file is written only by a successful request that asked for it, and then holds its candidate -/
theorem api_persists_only_on_success (a : ApiState) (hc : Coherent a.gate) (req : ApiReq V)
    (h : (apiApply valid ver a req).1.file ≠ a.file) :
    (apiApply valid ver a req).2.code = .ok ∧ req.persist = true ∧ (apiApply valid ver a req).1.file = req.cand := by
  have ho := apiApply_outcome valid ver a hc req
  generalize apiApply valid ver a req = st at ho h ⊢
  cases ho with
  | same e h1 h2 h3 h4 =>
    cases hp : req.persist <;> simp_all
  | applied e c h1 h2 h3 h4 h5 =>
    cases hp : req.persist <;> simp_all
  | _ => exact absurd rfl h

/-- with the current version, a valid no-op or route-only candidate is accepted -/
theorem api_current_version_accepted (a : ApiState) (hc : Coherent a.gate) (req : ApiReq V) (c : Config)
    (hm : req.ifMatch = some (ver a.gate.cur)) (hcand : req.cand = some c) (hv : valid c = true)
    (hr : c = a.gate.cur ∨ RouteOnlyChange a.gate.cur c) : (apiApply valid ver a req).2.code = .ok := by
  have ho := apiApply_outcome valid ver a hc req
  generalize apiApply valid ver a req = st at ho ⊢
  cases ho with
  | same => rfl
  | applied => rfl
  | noVersion h1 => rw [hm] at h1; cases h1
  | undecodable h1 => rw [hcand] at h1; cases h1
  | invalid c' h1 h2 => rw [hcand] at h1; cases h1; rw [hv] at h2; cases h2
  | stale e c' h1 h2 h3 h4 => rw [hm] at h1; cases h1; exact absurd rfl h4
  | unsupported e c' h1 h2 h3 h4 h5 h6 =>
    rw [hcand] at h2; cases h2
    rcases hr with hr | hr
    · exact absurd hr h5
    · exact absurd hr h6

/-- the handler preserves Gate/proxy coherence, so the theorems of this section hold along every API history -/
theorem api_preserves_coherence (a : ApiState) (hc : Coherent a.gate) (req : ApiReq V) :
    Coherent (apiApply valid ver a req).1.gate := by
  have ho := apiApply_outcome valid ver a hc req
  generalize apiApply valid ver a req = st at ho ⊢
  cases ho with
  | applied => rfl
  | _ => exact hc

/-- Linearizability.  Threads run  Lock ; load ; compute+store ; Unlock  with the request body `step`; for every
    schedule of these actions, the shared state is the one a SEQUENTIAL execution of the stored requests in
    the order `y.order` produces, every thread that got past its store holds exactly the result that
    sequential execution gives it, and `order` lists those threads once each. -/
theorem linearizable (ops : Nat → Op V) (s0 : State) (sched : List Nat) (y : Conc.Sys State (Result V))
    (h : Conc.exec (step valid ver) ops (Conc.start s0) sched = some y) :
    y.shared = (Conc.seq (step valid ver) ops s0 y.order).1 ∧
    (∀ t r, (y.pc t = .committed r ∨ y.pc t = .finished r) →
        (t, r) ∈ (Conc.seq (step valid ver) ops s0 y.order).2) ∧
    y.order.Nodup ∧ (∀ t, t ∈ y.order ↔ Conc.done (y.pc t)) := by
  have hi := Conc.inv_exec (step valid ver) ops s0 sched _ y (Conc.inv_start _ ops s0) h
  exact ⟨hi.shared_eq, hi.results, hi.order_nodup, hi.order_mem⟩

/-- between a thread's load and its store nobody else changes the shared configuration (no lost update) -/
theorem loaded_snapshot_is_current (ops : Nat → Op V) (s0 : State) (sched : List Nat)
    (y : Conc.Sys State (Result V))
    (h : Conc.exec (step valid ver) ops (Conc.start s0) sched = some y) (t : Nat) (snap : State)
    (hl : y.pc t = .loaded snap) : snap = y.shared ∧ y.holder = some t :=
  (Conc.inv_exec (step valid ver) ops s0 sched _ y (Conc.inv_start _ ops s0) h).loaded t snap hl

/-! ### source shape (regenerated from /repo on every run): every applier body is one reloadMu critical section -/

theorem apply_is_critical_section :
    Gate.Gen.C35.applyCalls = ["g.reloadMu.Lock", "defer:g.reloadMu.Unlock", "g.applyLiveConfigLocked", "return"] :=
  rfl
theorem applyIfVersion_is_critical_section :
    Gate.Gen.C35.applyIfCalls =
      ["g.reloadMu.Lock", "defer:g.reloadMu.Unlock", "g.currentConfig.Load", "configVersion", "return", "return",
       "g.applyLiveConfigLocked", "return"] := rfl
theorem snapshot_is_critical_section :
    Gate.Gen.C35.snapshotCalls.take 3 = ["g.reloadMu.Lock", "defer:g.reloadMu.Unlock", "g.currentConfig.Load"] :=
  rfl
/-- load once at the top, tests in the modelled order, store only after the proxy accepted -/
theorem locked_body_order :
    Gate.Gen.C35.lockedCalls.filter (fun c => c ∈
        ["g.currentConfig.Load", "configsEqual", "candidate.Validate", "onlyLiveLiteRoutesChanged",
         "cloneLiveLiteRoutes", "g.javaProxy.ApplyLiveConfig", "g.currentConfig.Store"])
      = ["g.currentConfig.Load", "configsEqual", "candidate.Validate", "onlyLiveLiteRoutesChanged",
         "cloneLiveLiteRoutes", "g.javaProxy.ApplyLiveConfig", "g.currentConfig.Store"] := by decide +kernel
theorem version_is_sha256_of_json :
    Gate.Gen.C35.versionCalls = ["json.Marshal", "return", "sha256.Sum256", "fmt.Sprintf", "return"] := rfl
theorem equality_is_json_equality :
    Gate.Gen.C35.equalCalls = ["json.Marshal", "return", "json.Marshal", "return", "bytes.Equal", "return"] := rfl
theorem proxy_apply_order :
    Gate.Gen.C35.proxyApplyCalls.filter (fun c => c ∈
        ["p.liveConfigMu.Lock", "defer:p.liveConfigMu.Unlock", "p.configSnapshot", "reflect.DeepEqual",
         "candidate.Validate", "cloneLiteRoutes", "liteRoutesChanged", "lite.ResetPingCache", "p.currentCfg.Store"])
      = ["p.liveConfigMu.Lock", "defer:p.liveConfigMu.Unlock", "p.configSnapshot", "reflect.DeepEqual",
         "reflect.DeepEqual", "candidate.Validate", "cloneLiteRoutes", "liteRoutesChanged", "lite.ResetPingCache",
         "p.currentCfg.Store"] := by decide +kernel

/-! ### non-vacuity -/

private def c0 : Config := ⟨0, true, 0⟩
private def okAll : Config → Bool := fun c => c.routes ≠ 9
private def verId : Config → Nat × Nat := fun c => (c.rest, c.routes)

example : Coherent (init c0) := rfl
example : (run okAll verId (init c0)
    [⟨some ⟨0, true, 1⟩, none⟩, ⟨some ⟨0, true, 2⟩, some (0, 0)⟩, ⟨some ⟨1, true, 2⟩, some (0, 1)⟩,
     ⟨some ⟨0, true, 9⟩, none⟩, ⟨some ⟨0, true, 1⟩, none⟩, ⟨none, none⟩]).2.map (·.code)
    = [.applied, .preconditionFailed, .unsupported, .invalid, .unchanged, .invalid] := by decide
example : ∀ a b : Config, a.lite = b.lite → verId a = verId b → a = b := by
  intro a b hl h; cases a; cases b; simp_all [verId]
/-- two threads, schedule  A.lock A.load A.store A.unlock B.lock B.load B.store B.unlock  runs to completion -/
example : (Conc.exec (step okAll verId) (fun t => (⟨some ⟨0, true, t + 1⟩, none⟩ : Op (Nat × Nat)))
    (Conc.start (init c0)) [0, 0, 0, 0, 1, 1, 1, 1]).isSome = true := by decide
/-- a thread cannot take the lock while another holds it -/
example : (Conc.exec (step okAll verId) (fun t => (⟨some ⟨0, true, t + 1⟩, none⟩ : Op (Nat × Nat)))
    (Conc.start (init c0)) [0, 1]).isSome = false := by decide

end Gate.C35.Props
