/-
C35 — concurrent appliers.  Each goroutine runs  Lock ; load the shared state ; compute + store ; Unlock
(the shape of ApplyLiveConfig / ApplyLiveConfigIfVersion / ConfigSnapshot, regenerated from the source as
`Gate.Gen.C35.*Calls`).  Threads are interleaved arbitrarily at the granularity of these four actions; the
load and the store are separate actions, so without the mutex updates could be lost.  `Sys.order` is a ghost
variable: the order in which the stores happened.
Generic in the state, the requests and the sequential body `f`.
-/
namespace Gate.C35.Conc

variable {S O R : Type}

inductive PC (S R : Type) where
  | idle | locked | loaded (snap : S) | committed (r : R) | finished (r : R)

structure Sys (S R : Type) where
  shared : S
  holder : Option Nat
  pc : Nat → PC S R
  order : List Nat

def upd (pc : Nat → PC S R) (t : Nat) (v : PC S R) : Nat → PC S R := fun x => if x = t then v else pc x

/-- one action of thread `t`; `none` = not enabled (blocked on the mutex, or already finished) -/
def tstep (f : S → O → S × R) (ops : Nat → O) (y : Sys S R) (t : Nat) : Option (Sys S R) :=
  match y.pc t with
  | .idle => if y.holder = none then some { y with holder := some t, pc := upd y.pc t .locked } else none
  | .locked => some { y with pc := upd y.pc t (.loaded y.shared) }
  | .loaded snap =>
    let res := f snap (ops t)
    some { y with shared := res.1, pc := upd y.pc t (.committed res.2), order := y.order ++ [t] }
  | .committed r => some { y with holder := none, pc := upd y.pc t (.finished r) }
  | .finished _ => none

/-- a schedule: the thread that moves at each step -/
def exec (f : S → O → S × R) (ops : Nat → O) : Sys S R → List Nat → Option (Sys S R)
  | y, [] => some y
  | y, t :: ts => match tstep f ops y t with
    | some y' => exec f ops y' ts
    | none => none

def start (s : S) : Sys S R := { shared := s, holder := none, pc := fun _ => .idle, order := [] }

/-- sequential execution of the requests of the threads in `order` -/
def seq (f : S → O → S × R) (ops : Nat → O) : S → List Nat → S × List (Nat × R)
  | s, [] => (s, [])
  | s, t :: ts =>
    let res := f s (ops t)
    let rest := seq f ops res.1 ts
    (rest.1, (t, res.2) :: rest.2)

theorem seq_append (f : S → O → S × R) (ops : Nat → O) (s : S) (a : List Nat) (t : Nat) :
    seq f ops s (a ++ [t]) =
      ((f (seq f ops s a).1 (ops t)).1, (seq f ops s a).2 ++ [(t, (f (seq f ops s a).1 (ops t)).2)]) := by
  induction a generalizing s with
  | nil => simp [seq]
  | cons x xs ih => simp [seq, ih]

def done (p : PC S R) : Prop := (∃ r, p = .committed r) ∨ (∃ r, p = .finished r)

/-- What holds in every reachable state: the shared state and the results handed out are those of running
    the stored requests sequentially in the order of their stores; a thread between Lock and Unlock holds the
    mutex, and what it loaded is still the shared state. -/
structure Inv (f : S → O → S × R) (ops : Nat → O) (s0 : S) (y : Sys S R) : Prop where
  shared_eq : y.shared = (seq f ops s0 y.order).1
  results : ∀ t r, (y.pc t = .committed r ∨ y.pc t = .finished r) → (t, r) ∈ (seq f ops s0 y.order).2
  loaded : ∀ t snap, y.pc t = .loaded snap → snap = y.shared ∧ y.holder = some t
  locked : ∀ t, y.pc t = .locked → y.holder = some t
  committed : ∀ t r, y.pc t = .committed r → y.holder = some t
  order_mem : ∀ t, t ∈ y.order ↔ done (y.pc t)
  order_nodup : y.order.Nodup

theorem upd_same (pc : Nat → PC S R) (t : Nat) (v : PC S R) : upd pc t v t = v := by simp [upd]
theorem upd_other (pc : Nat → PC S R) {t u : Nat} (v : PC S R) (h : u ≠ t) : upd pc t v u = pc u := by
  simp [upd, h]

variable {f : S → O → S × R} {ops : Nat → O} {s0 : S} {y : Sys S R}

theorem inv_iff_threads : Inv f ops s0 y ↔
    y.shared = (seq f ops s0 y.order).1 ∧ y.order.Nodup ∧ ∀ u,
      (∀ r, y.pc u = .committed r ∨ y.pc u = .finished r → (u, r) ∈ (seq f ops s0 y.order).2) ∧
      (u ∈ y.order ↔ done (y.pc u)) ∧
      (∀ snap, y.pc u = .loaded snap → snap = y.shared ∧ y.holder = some u) ∧
      (y.pc u = .locked → y.holder = some u) ∧ (∀ r, y.pc u = .committed r → y.holder = some u) :=
  ⟨fun hi => ⟨hi.shared_eq, hi.order_nodup, fun u =>
      ⟨hi.results u, hi.order_mem u, hi.loaded u, hi.locked u, hi.committed u⟩⟩,
    fun ⟨h1, h2, h⟩ => ⟨h1, fun u => (h u).1, fun u => (h u).2.2.1, fun u => (h u).2.2.2.1,
      fun u => (h u).2.2.2.2, fun u => (h u).2.1, h2⟩⟩

theorem inv_start (f : S → O → S × R) (ops : Nat → O) (s0 : S) : Inv f ops s0 (start s0 : Sys S R) :=
  inv_iff_threads.mpr ⟨rfl, List.nodup_nil, fun u => by simp [start, done]⟩

/-- mutual exclusion: a thread that does not hold the mutex is outside the critical section, so nothing is
    claimed about what it sees of `shared` and `holder` -/
theorem Inv.outside (hi : Inv f ops s0 y) {u : Nat} (h : y.holder ≠ some u) (sh : S) (hd : Option Nat) :
    (∀ snap, y.pc u = .loaded snap → snap = sh ∧ hd = some u) ∧ (y.pc u = .locked → hd = some u) ∧
    (∀ r, y.pc u = .committed r → hd = some u) :=
  ⟨fun s e => absurd (hi.loaded u s e).2 h, fun e => absurd (hi.locked u e) h,
    fun r e => absurd (hi.committed u r e) h⟩

/-- One action keeps the invariant.  It moves the program counter of `t` alone; the other threads keep what
    the invariant said of them, and where `holder` or `shared` change they are outside the critical section
    (`Inv.outside`: the mutex is free or held by `t`). -/
theorem inv_step (f : S → O → S × R) (ops : Nat → O) (s0 : S) (y y' : Sys S R) (t : Nat)
    (hi : Inv f ops s0 y) (hs : tstep f ops y t = some y') : Inv f ops s0 y' := by
  unfold tstep at hs
  split at hs
  · next hp =>
    split at hs
    · next hh =>
      cases hs
      refine inv_iff_threads.mpr ⟨hi.shared_eq, hi.order_nodup, fun u => ?_⟩
      by_cases hu : u = t
      · subst hu
        simp [upd_same, hi.order_mem, hp, done]
      · simp only [upd_other _ _ hu]
        exact ⟨hi.results u, hi.order_mem u, hi.outside (by simp [hh]) _ _⟩
    · cases hs
  · next hp =>
    cases hs
    refine inv_iff_threads.mpr ⟨hi.shared_eq, hi.order_nodup, fun u => ?_⟩
    by_cases hu : u = t
    · subst hu
      simp [upd_same, hi.order_mem, hp, done, hi.locked u hp]
    · simp only [upd_other _ _ hu]
      exact (inv_iff_threads.mp hi).2.2 u
  · next snap hp =>
    cases hs
    obtain ⟨hsnap, hold⟩ := hi.loaded t snap hp
    have hnot : t ∉ y.order := by rw [hi.order_mem, hp]; simp [done]
    have hseq := seq_append f ops s0 y.order t
    rw [← hi.shared_eq, ← hsnap] at hseq
    refine inv_iff_threads.mpr ⟨(congrArg Prod.fst hseq).symm, ?_, fun u => ?_⟩
    · exact List.nodup_append.mpr ⟨hi.order_nodup, by simp, by
        intro a ha b hb; simp only [List.mem_singleton] at hb; subst hb; intro e; subst e; exact hnot ha⟩
    · dsimp only
      rw [hseq]
      by_cases hu : u = t
      · subst hu
        simp [upd_same, done, hold]
      · simp only [upd_other _ _ hu]
        refine ⟨fun r h => List.mem_append_left _ (hi.results u r h), ?_,
          hi.outside (by simp [hold, Ne.symm hu]) _ _⟩
        simp only [List.mem_append, List.mem_singleton, hu, or_false]
        exact hi.order_mem u
  · next r hp =>
    cases hs
    have hold := hi.committed t r hp
    refine inv_iff_threads.mpr ⟨hi.shared_eq, hi.order_nodup, fun u => ?_⟩
    by_cases hu : u = t
    · subst hu
      simpa [upd_same, hi.order_mem, hp, done] using hi.results u r (Or.inl hp)
    · simp only [upd_other _ _ hu]
      exact ⟨hi.results u, hi.order_mem u, hi.outside (by simp [hold, Ne.symm hu]) _ _⟩
  · cases hs

theorem inv_exec (f : S → O → S × R) (ops : Nat → O) (s0 : S) (sched : List Nat) :
    ∀ (y y' : Sys S R), Inv f ops s0 y → exec f ops y sched = some y' → Inv f ops s0 y' := by
  induction sched with
  | nil =>
    intro y y' hi h
    cases h
    exact hi
  | cons t ts ih =>
    intro y y' hi h
    simp only [exec] at h
    split at h
    · next y1 hs => exact ih y1 y' (inv_step f ops s0 y y1 t hi hs) h
    · cases h

end Gate.C35.Conc
